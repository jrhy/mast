import Mastverif.Model.Backends
import Mastverif.Model.Canon
import Mastverif.Model.Codec
import Mastverif.Model.Cursor
import Mastverif.Model.Diff
import Mastverif.Model.Flush
import Mastverif.Model.Hash
import Mastverif.Model.Heap
import Mastverif.Model.Loader
import Mastverif.Model.Loads
import Mastverif.Model.PtrCursor
import Mastverif.Model.PtrDiff
import Mastverif.Model.PtrIter
import Mastverif.Model.PtrSeek
import Mastverif.Model.Rep
import Mastverif.Model.Store
import Mastverif.Model.Tree
import Mastverif.Lemmas.Basic
import Mastverif.Lemmas.Build
import Mastverif.Lemmas.Canon
import Mastverif.Lemmas.Clean
import Mastverif.Lemmas.Codec
import Mastverif.Lemmas.CursorBwd
import Mastverif.Lemmas.CursorFwd
import Mastverif.Lemmas.CursorLoads
import Mastverif.Lemmas.CursorRetry
import Mastverif.Lemmas.CursorWalk
import Mastverif.Lemmas.Del
import Mastverif.Lemmas.Diff
import Mastverif.Lemmas.DiffDistinct
import Mastverif.Lemmas.DiffLinks
import Mastverif.Lemmas.DiffNames
import Mastverif.Lemmas.DiffOnce
import Mastverif.Lemmas.FS
import Mastverif.Lemmas.Flush
import Mastverif.Lemmas.Get
import Mastverif.Lemmas.GrowShrink
import Mastverif.Lemmas.Heap
import Mastverif.Lemmas.Height
import Mastverif.Lemmas.History
import Mastverif.Lemmas.Incr
import Mastverif.Lemmas.IncrCount
import Mastverif.Lemmas.IncrTree
import Mastverif.Lemmas.Ins
import Mastverif.Lemmas.Json
import Mastverif.Lemmas.Layer
import Mastverif.Lemmas.Loader
import Mastverif.Lemmas.Loads
import Mastverif.Lemmas.Names
import Mastverif.Lemmas.PtrAtomic
import Mastverif.Lemmas.PtrDecEq
import Mastverif.Lemmas.PtrGo
import Mastverif.Lemmas.RefCursor
import Mastverif.Lemmas.RefCursorRows
import Mastverif.Lemmas.RefDelExample
import Mastverif.Lemmas.RefDelSys
import Mastverif.Lemmas.RefDiff
import Mastverif.Lemmas.RefDiffSim
import Mastverif.Lemmas.RefExample
import Mastverif.Lemmas.RefHistExample
import Mastverif.Lemmas.RefIterEntries
import Mastverif.Lemmas.RefSeek
import Mastverif.Lemmas.RefSys
import Mastverif.Lemmas.RefTickAll
import Mastverif.Lemmas.RefTickCursor
import Mastverif.Lemmas.Seek
import Mastverif.Lemmas.Spec
import Mastverif.Lemmas.Store
import Mastverif.Lemmas.StoreComplete
import Mastverif.Lemmas.TreeInv
import Mastverif.Lemmas.TrueLinks
import Mastverif.Lemmas.WF
import Mastverif.Props.C01
import Mastverif.Props.C01O
import Mastverif.Props.C02
import Mastverif.Props.C02O
import Mastverif.Props.C03
import Mastverif.Props.C03O
import Mastverif.Props.C04
import Mastverif.Props.C04O
import Mastverif.Props.C05
import Mastverif.Props.C05O
import Mastverif.Props.C06
import Mastverif.Props.C06O
import Mastverif.Props.C07
import Mastverif.Props.C07O
import Mastverif.Props.C08
import Mastverif.Props.C09
import Mastverif.Props.C09O
import Mastverif.Props.C10
import Mastverif.Props.C10O
import Mastverif.Props.C11
import Mastverif.Props.C12
import Mastverif.Props.C12O
import Mastverif.Props.C13
import Mastverif.Props.C13N
import Mastverif.Props.C13O
import Mastverif.Props.C14
import Mastverif.Props.C15
import Mastverif.Props.C15O
import Mastverif.Props.C16
import Mastverif.Props.C16O
import Mastverif.Props.C17
import Mastverif.Props.C18
import Mastverif.Props.C19
