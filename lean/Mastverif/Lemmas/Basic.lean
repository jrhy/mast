import Mastverif.Model.Tree
/-! Entries of `mk`, `unmk`, `split`, `freshPath`, `erase`, `persistAll`; sortedness vocabulary. -/
namespace Mast
namespace T

abbrev Entry := Nat × Nat

/-- strictly ascending keys -/
def Sorted (l : List Entry) : Prop := l.Pairwise (fun a b => a.1 < b.1)

theorem isNil_iff {t : T} : t.isNil = true ↔ t = nil := by cases t <;> simp only [isNil, reduceCtorEq]

@[simp] theorem toList_mk (t : T) : toList (mk t) = toList t := by
  unfold mk; split <;> rfl

@[simp] theorem toList_unmk (t : T) : toList (unmk t) = toList t := by
  cases t <;> rfl

theorem sorted_append {a b : List Entry} (h : Sorted (a ++ b)) :
    Sorted a ∧ Sorted b ∧ ∀ x ∈ a, ∀ y ∈ b, x.1 < y.1 :=
  List.pairwise_append.mp h

theorem sorted_tail {x} {l : List Entry} (h : Sorted (x :: l)) : Sorted l :=
  (List.pairwise_cons.mp h).2

theorem sorted_cons_parts {a b : List Entry} {k v : Nat} (hs : Sorted (a ++ (k, v) :: b)) :
    Sorted a ∧ Sorted b ∧ (∀ e ∈ a, e.1 < k) ∧ (∀ e ∈ b, k < e.1) := by
  obtain ⟨h1, h2, h3⟩ := sorted_append hs
  obtain ⟨h4, h5⟩ := List.pairwise_cons.mp h2
  exact ⟨h1, h5, fun e he => h3 e he _ List.mem_cons_self, h4⟩

theorem toList_split (t : T) (x : Nat) : toList (split t x).1 ++ toList (split t x).2 = toList t := by
  fun_induction split t x with
  | case1 => rfl
  | case2 p c x q ih => simpa only [toList, toList_mk] using ih
  | case3 p c k v r x hlt q ih => simp only [toList, List.append_assoc, List.cons_append, q, ih]
  | case4 p c k v r x hge q ih => simp only [toList, toList_mk, ← List.append_assoc, q, ih]

theorem mem_split (t : T) (x : Nat) (e : Entry) :
    (e ∈ toList (split t x).1 → e ∈ toList t) ∧ (e ∈ toList (split t x).2 → e ∈ toList t) := by
  rw [← toList_split t x]
  exact ⟨List.mem_append_left _, List.mem_append_right _⟩

theorem split_bounds (t : T) (x : Nat) (hs : Sorted (toList t)) (hx : ∀ e ∈ toList t, e.1 ≠ x) :
    (∀ e ∈ toList (split t x).1, e.1 < x) ∧ (∀ e ∈ toList (split t x).2, x < e.1) := by
  fun_induction split t x with
  | case1 => exact ⟨nofun, nofun⟩
  | case2 p c x q ih => simpa only [toList, toList_mk] using ih hs hx
  | case3 p c k v r x hlt q ih =>
    obtain ⟨hc, hr, hck, hkr⟩ := sorted_cons_parts hs
    obtain ⟨h1, h2⟩ := ih hr (fun e he => hx e (List.mem_append_right _ (List.mem_cons_of_mem _ he)))
    refine ⟨fun e he => ?_, h2⟩
    rcases List.mem_append.mp he with he | he
    · exact Nat.lt_trans (hck e he) hlt
    · rcases List.mem_cons.mp he with rfl | he
      · exact hlt
      · exact h1 e he
  | case4 p c k v r x hge q ih =>
    obtain ⟨hc, hr, hck, hkr⟩ := sorted_cons_parts hs
    have hgt : x < k := Nat.lt_of_le_of_ne (Nat.le_of_not_lt hge)
      (Ne.symm (hx (k, v) (List.mem_append_right _ List.mem_cons_self)))
    obtain ⟨h1, h2⟩ := ih hc (fun e he => hx e (List.mem_append_left _ he))
    refine ⟨by rw [toList, toList_mk]; exact h1, fun e he => ?_⟩
    rw [toList, toList_mk] at he
    rcases List.mem_append.mp he with he | he
    · exact h2 e he
    · rcases List.mem_cons.mp he with rfl | he
      · exact hgt
      · exact Nat.lt_trans hgt (hkr e he)

@[simp] theorem toList_freshPath (n k v) : toList (freshPath n k v) = [(k, v)] := by
  induction n with
  | zero => rfl
  | succ n ih => exact ih

theorem isNil_erase (t : T) : (erase t).isNil = t.isNil := by cases t <;> rfl
theorem isNil_persistAll (t : T) : (persistAll t).isNil = t.isNil := by cases t <;> rfl

@[simp] theorem toList_erase (t : T) : toList (erase t) = toList t := by
  induction t with
  | nil => rfl
  | last p c ih => exact ih
  | cons p c k v r ihc ihr => simp only [erase, toList, ihc, ihr]

@[simp] theorem toList_persistAll (t : T) : toList (persistAll t) = toList t := by
  induction t with
  | nil => rfl
  | last p c ih => exact ih
  | cons p c k v r ihc ihr => simp only [persistAll, toList, ihc, ihr]

theorem erase_persistAll : ∀ t : T, erase (persistAll t) = erase t := by
  intro t
  induction t with
  | nil => rfl
  | last p c ih => rw [persistAll, erase, erase, ih]
  | cons p c k v r ihc ihr => rw [persistAll, erase, erase, ihc, ihr]

end T
end Mast
