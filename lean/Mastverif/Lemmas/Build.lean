import Mastverif.Model.Canon
import Mastverif.Lemmas.WF
/-!
# The reference builder yields a well-formed tree with exactly the given entries
-/
namespace Mast
namespace T
variable (layer : Nat → Nat)

theorem toList_leafRow : ∀ es, toList (leafRow es) = es := by
  intro es
  induction es with
  | nil => rfl
  | cons x es ih => rw [leafRow, toList, ih]; rfl

theorem leafRow_WF : ∀ es, WF layer 0 (leafRow es) := by
  intro es
  induction es with
  | nil => exact Or.inl rfl
  | cons x es ih => exact ⟨Nat.zero_le _, ih, Or.inl rfl⟩

theorem toList_rowOf (hi : Nat → Bool) (child : List (Nat × Nat) → T) (hch : ∀ r, toList (child r) = r)
    (es run : List (Nat × Nat)) : toList (rowOf hi child es run) = run.reverse ++ es := by
  fun_induction rowOf hi child es run with
  | case1 run => rw [toList, hch, List.append_nil]
  | case2 run k v es h ih => rw [toList, hch, ih]; rfl
  | case3 run k v es h ih => rw [ih, List.reverse_cons, List.append_assoc]; rfl

theorem toList_build : ∀ (d : Nat) (es : List (Nat × Nat)), toList (build layer d es) = es := by
  intro d
  induction d with
  | zero => exact toList_leafRow
  | succ d ih =>
    intro es
    rw [build, toList_rowOf]
    · rfl
    · intro r
      cases r with
      | nil => rfl
      | cons x r => exact ih _

theorem rowOf_WF (d : Nat) (child : List (Nat × Nat) → T)
    (hch : ∀ r, (∀ e ∈ r, layer e.1 < d + 1) → ChildOK layer (d + 1) (child r))
    (es run : List (Nat × Nat)) (hrun : ∀ e ∈ run, layer e.1 < d + 1) :
    WF layer (d + 1) (rowOf (fun k => decide (d + 1 ≤ layer k)) child es run) := by
  fun_induction rowOf (fun k => decide (d + 1 ≤ layer k)) child es run with
  | case1 run => exact hch _ (fun e he => hrun e (List.mem_reverse.mp he))
  | case2 run k v es h ih =>
    exact ⟨of_decide_eq_true h, ih nofun, hch _ (fun e he => hrun e (List.mem_reverse.mp he))⟩
  | case3 run k v es h ih =>
    exact ih (List.forall_mem_cons.mpr ⟨Nat.lt_of_not_le (of_decide_eq_false (Bool.eq_false_iff.mpr h)), hrun⟩)

theorem build_WF : ∀ (d : Nat) (es : List (Nat × Nat)), WF layer d (build layer d es) := by
  intro d
  induction d with
  | zero => exact leafRow_WF layer
  | succ d ih =>
    intro es
    rw [build]
    refine rowOf_WF layer d _ (fun r hr => ?_) es [] nofun
    cases r with
    | nil => exact Or.inl rfl
    | cons x r =>
      show ChildOK layer (d + 1) (build layer d (x :: r))
      refine childOK_of layer (ih _) ?_ ?_ <;> rw [toList_build]
      · exact List.cons_ne_nil _ _
      · exact hr

end T
end Mast
