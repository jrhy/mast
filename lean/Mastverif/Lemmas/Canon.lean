import Mastverif.Lemmas.Build
import Mastverif.Lemmas.History
/-!
# The canonical height formula satisfies `HOK`; the invariant with height over histories;
# the reference tree satisfies it

`rootRec_eq`: trees with the same entries and child names (`erase`), size, height and branch factor
persist to the same root record (`isEmptyTop_erase` for its link).
-/
namespace Mast
open T

theorem flog_zero_step (bf n : Nat) (h : ¬ (2 ≤ bf ∧ bf ≤ n)) : flog bf n = 0 := by
  rw [flog, dif_neg h]

theorem flog_pos_step (bf n : Nat) (h : 2 ≤ bf ∧ bf ≤ n) : flog bf n = flog bf (n / bf) + 1 := by
  rw [flog, dif_pos h]

theorem flog_spec (bf : Nat) (hbf : 2 ≤ bf) : ∀ n : Nat, 1 ≤ n →
    bf ^ flog bf n ≤ n ∧ n < bf ^ (flog bf n + 1) := by
  intro n
  induction n using Nat.strongRecOn with
  | _ n ih =>
    intro hn
    have hpos : 0 < bf := Nat.zero_lt_of_lt hbf
    by_cases hge : bf ≤ n
    · rw [flog_pos_step bf n ⟨hbf, hge⟩]
      obtain ⟨h1, h2⟩ := ih (n / bf) (Nat.div_lt_self hn hbf) (Nat.div_pos hge hpos)
      constructor
      · rw [Nat.pow_succ]
        exact Nat.le_trans (Nat.mul_le_mul_right _ h1) (Nat.div_mul_le_self n bf)
      · rw [Nat.pow_succ]
        exact Nat.lt_mul_of_div_lt h2 hpos
    · rw [flog_zero_step bf n (fun h => hge h.2)]
      exact ⟨hn, (Nat.pow_one bf).symm ▸ Nat.lt_of_not_le hge⟩

theorem foldl_max_ge (layer : Nat → Nat) : ∀ (l : List (Nat × Nat)) (a : Nat),
    a ≤ l.foldl (fun m e => max m (layer e.1)) a ∧
    ∀ e ∈ l, layer e.1 ≤ l.foldl (fun m e => max m (layer e.1)) a := by
  intro l
  induction l with
  | nil => intro a; exact ⟨Nat.le_refl a, nofun⟩
  | cons x l ih =>
    intro a
    obtain ⟨h1, h2⟩ := ih (max a (layer x.1))
    refine ⟨Nat.le_trans (Nat.le_max_left ..) h1, fun e he => ?_⟩
    rcases List.mem_cons.mp he with rfl | he
    · exact Nat.le_trans (Nat.le_max_right ..) h1
    · exact h2 e he

theorem foldl_max_attained (layer : Nat → Nat) : ∀ (l : List (Nat × Nat)) (a : Nat),
    l.foldl (fun m e => max m (layer e.1)) a = a ∨
    ∃ e ∈ l, layer e.1 = l.foldl (fun m e => max m (layer e.1)) a := by
  intro l
  induction l with
  | nil => intro a; exact Or.inl rfl
  | cons x l ih =>
    intro a
    rcases ih (max a (layer x.1)) with h | ⟨e, he, hl⟩
    · rw [List.foldl_cons, h]
      rcases Nat.le_total a (layer x.1) with hc | hc
      · exact Or.inr ⟨x, List.mem_cons_self, (Nat.max_eq_right hc).symm⟩
      · exact Or.inl (Nat.max_eq_left hc)
    · exact Or.inr ⟨e, List.mem_cons_of_mem _ he, hl⟩

theorem maxLayer_ge (layer : Nat → Nat) (l : List (Nat × Nat)) : ∀ e ∈ l, layer e.1 ≤ maxLayer layer l :=
  (foldl_max_ge layer l 0).2

theorem maxLayer_attained (layer : Nat → Nat) (l : List (Nat × Nat)) :
    maxLayer layer l = 0 ∨ ∃ e ∈ l, layer e.1 = maxLayer layer l :=
  foldl_max_attained layer l 0

/-- the formula of the property: height = min(highest key layer, floor(log_bf(size-1))), 0 below
    two entries — is a solution of `HOK`, hence (by `HOK_unique`) THE height of every tree -/
theorem canonHeight_HOK (bf : Nat) (hbf : 2 ≤ bf) (layer : Nat → Nat) (l : List (Nat × Nat)) :
    HOK bf layer (canonHeight bf layer l) l := by
  unfold canonHeight
  split
  · next hlt =>
    exact ⟨Or.inl rfl, Or.inl ((Nat.pow_one bf).symm ▸ Nat.le_trans (Nat.le_of_lt hlt) hbf)⟩
  · next hge =>
    have h2 : 2 ≤ l.length := Nat.le_of_not_lt hge
    have hn : l.length - 1 + 1 = l.length := Nat.sub_add_cancel (Nat.le_of_succ_le h2)
    obtain ⟨f1, f2⟩ := flog_spec bf hbf (l.length - 1) (Nat.le_sub_one_of_lt h2)
    constructor
    · rcases maxLayer_attained layer l with hz | ⟨e, he, hl⟩
      · exact Or.inl (by rw [hz, Nat.zero_min])
      · refine Or.inr ⟨?_, e, he, hl ▸ Nat.min_le_left _ _⟩
        exact Nat.lt_of_le_of_lt (Nat.le_trans (Nat.pow_le_pow_right (Nat.zero_lt_of_lt hbf)
          (Nat.min_le_right _ _)) f1) (hn ▸ Nat.lt_succ_self _)
    · rcases Nat.le_total (flog bf (l.length - 1)) (maxLayer layer l) with hc | hc
      · exact Or.inl (by rw [Nat.min_eq_right hc]; exact hn ▸ Nat.succ_le_of_lt f2)
      · exact Or.inr (by rw [Nat.min_eq_left hc]; exact maxLayer_ge layer l)

namespace Tree
variable (layer : Nat → Nat)

def InvH (m : Tree) : Prop := Inv layer m ∧ HOK m.bf layer m.height m.toList

theorem invH_empty (bf : Nat) (h : 2 ≤ bf) : InvH layer (Tree.empty bf) :=
  ⟨inv_empty layer bf h, Or.inl rfl, Or.inl (Nat.zero_le _)⟩

theorem invH_step (e : Enc) (m : Tree) (op : Op) (hi : InvH layer m) : InvH layer (stepT layer e m op).1 :=
  let ⟨_, h2, _, _, h5⟩ := step_spec layer e m op hi.1
  ⟨h2, h5 hi.2⟩

theorem invH_execT (e : Enc) : ∀ (ops : List Op) (m : Tree), InvH layer m → InvH layer (execT layer e m ops) :=
  execT_induct layer e (invH_step layer e)

/-- by `isEmptyRow_erase`: `isEmptyTop t` unfolds to `isEmptyRow t` -/
theorem isEmptyTop_erase (t : T) : isEmptyTop (erase t) = isEmptyTop t :=
  isEmptyRow_erase t

theorem rootRec_eq (e : Enc) (m1 m2 : Tree) (hr : erase m1.root = erase m2.root)
    (hs : m1.size = m2.size) (hh : m1.height = m2.height) (hb : m1.bf = m2.bf) :
    (makeRoot e m1).2.1 = (makeRoot e m2).2.1 := by
  have hn : nodeName e m1.root = nodeName e m2.root := by
    rw [← nodeName_erase e m1.root, ← nodeName_erase e m2.root, hr]
  have he : isEmptyTop m1.root = isEmptyTop m2.root := by
    rw [← isEmptyTop_erase m1.root, ← isEmptyTop_erase m2.root, hr]
  rw [makeRoot_rec, makeRoot_rec, he, hn, hs, hh, hb]

theorem canon_InvH (bf : Nat) (hbf : 2 ≤ bf) (es : List (Nat × Nat)) (hs : Sorted es) :
    InvH layer (Tree.canon bf layer es) := by
  refine ⟨⟨build_WF layer _ es, ?_, ?_, hbf, rfl, rfl⟩, ?_⟩
  · show Sorted (build layer _ es).toList
    rw [toList_build]; exact hs
  · show es.length = (build layer _ es).toList.length
    rw [toList_build]
  · show HOK bf layer (canonHeight bf layer es) (build layer _ es).toList
    rw [toList_build]; exact canonHeight_HOK bf hbf layer es

end Tree
end Mast
