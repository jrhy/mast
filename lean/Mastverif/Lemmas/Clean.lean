import Mastverif.Lemmas.History
/-!
# "Clean" means unchanged

`IsDirty()` is the model's `dirty` flag.  Every call that changes the tree sets it; only a
persist clears it.  So along a history without a persist, a tree that reports itself clean at the
end is the very tree it started from.
-/
namespace Mast
namespace Tree
open T
variable (layer : Nat → Nat)

theorem growLoop_dirty (fuel : Nat) (m : Tree) : (growLoop layer fuel m).dirty = m.dirty :=
  growLoop_induct layer (P := fun m' => m'.dirty = m.dirty) (fun _ h _ => h) fuel m rfl

theorem shrinkLoop_dirty (fuel : Nat) (m : Tree) : (shrinkLoop fuel m).dirty = m.dirty :=
  shrinkLoop_induct (P := fun m' => m'.dirty = m.dirty) (fun _ h _ => h) fuel m rfl

theorem insert_dirty (m m' : Tree) (k v : Nat) (h : insert layer m k v = .ok m') :
    m' = m ∨ m'.dirty = true := by
  rcases insert_ok layer h with rfl | ⟨r, _, rfl | rfl⟩
  · exact Or.inl rfl
  · exact Or.inr rfl
  · exact Or.inr (growLoop_dirty layer _ _)

theorem delete_dirty (m m' : Tree) (k v : Nat) (h : delete layer m k v = .ok m') : m'.dirty = true := by
  obtain ⟨r, _, rfl⟩ := delete_ok layer h
  exact shrinkLoop_dirty _ _

theorem step_dirty (e : Enc) (m : Tree) (op : Op) (hp : isPersist op = false) :
    (stepT layer e m op).1 = m ∨ (stepT layer e m op).1.dirty = true := by
  rcases stepT_cases layer e m op hp with h | ⟨k, v, _, h⟩ | ⟨k, v, _, h⟩
  · exact Or.inl h
  · exact insert_dirty layer m _ k v h
  · exact Or.inr (delete_dirty layer m _ k v h)

theorem exec_dirty (e : Enc) : ∀ (ops : List Op) (m : Tree), (∀ op ∈ ops, isPersist op = false) →
    execT layer e m ops = m ∨ (execT layer e m ops).dirty = true := by
  intro ops
  induction ops with
  | nil => intro m _; exact Or.inl rfl
  | cons op ops ih =>
    intro m hp
    have hp' : ∀ o ∈ ops, isPersist o = false := fun o ho => hp o (List.mem_cons_of_mem _ ho)
    rw [execT]
    rcases step_dirty layer e m op (hp op List.mem_cons_self) with h | h
    · rw [h]; exact ih m hp'
    · -- once dirty, the tree stays dirty: it is returned as it is or as another dirty tree
      rcases ih _ hp' with h' | h'
      · rw [h']; exact Or.inr h
      · exact Or.inr h'

theorem clean_unchanged (e : Enc) (ops : List Op) (m : Tree) (hp : ∀ op ∈ ops, isPersist op = false)
    (hc : (execT layer e m ops).dirty = false) : execT layer e m ops = m :=
  (exec_dirty layer e ops m hp).resolve_right (by rw [hc]; nofun)

end Tree
end Mast
