import Mastverif.Model.Codec
/-!
# Round trip of the compact binary node format

`decBinRaw (encBin n)` gives back every node whose lengths are below 128^9 (no 10-byte varints),
except that codec.go reads a zero-length body as "absent" (`decBinRaw_encBin_fits`); so the node
itself comes back when every marshaled key / value and every name is non-empty, a real side
condition of the format, true of every JSON form (`NodeOK`, `decBinRaw_encBin`).
-/
namespace Mast.Codec

theorem uvarint_small (n : Nat) (h : n < 128) : uvarint n = [n.toUInt8] := by
  rw [uvarint, dif_pos h]

theorem uvarint_big (n : Nat) (h : ¬ n < 128) : uvarint n = (n % 128 + 128).toUInt8 :: uvarint (n / 128) := by
  rw [uvarint, dif_neg h]

theorem toUInt8_toNat_lt (n : Nat) (h : n < 256) : n.toUInt8.toNat = n := by
  simp [Nat.toUInt8, UInt8.toNat_ofNat', Nat.mod_eq_of_lt h]

/-- `h10`: the tenth byte may only be 0 or 1 -/
theorem readUvarintAux_last (fuel m acc shift : Nat) (rest : Bytes) (hm : m < 128) (h10 : fuel = 0 → m ≤ 1) :
    readUvarintAux (fuel + 1) acc shift (m.toUInt8 :: rest) = some (acc + m * 2 ^ shift, rest) := by
  rw [readUvarintAux, toUInt8_toNat_lt m (Nat.lt_trans hm (by decide)), if_pos hm,
    if_neg fun h => Nat.not_lt.mpr (h10 (Nat.succ.inj h.1)) h.2]

theorem readUvarintAux_more (fuel m acc shift : Nat) (rest : Bytes) (hm : m < 128) :
    readUvarintAux (fuel + 1) acc shift ((m + 128).toUInt8 :: rest) =
      readUvarintAux fuel (acc + m * 2 ^ shift) (shift + 7) rest := by
  rw [readUvarintAux, toUInt8_toNat_lt (m + 128) (Nat.add_lt_add_right hm 128),
    if_neg (Nat.not_lt.mpr (Nat.le_add_left 128 m)), Nat.add_sub_cancel]

theorem readUvarintAux_uvarint : ∀ (fuel n acc shift : Nat) (rest : Bytes), n < 128 ^ fuel →
    readUvarintAux (fuel + 1) acc shift (uvarint n ++ rest) = some (acc + n * 2 ^ shift, rest) := by
  intro fuel
  induction fuel with
  | zero =>
    intro n acc shift rest h
    rw [uvarint_small n (Nat.lt_trans h (by decide))]
    exact readUvarintAux_last 0 n acc shift rest (Nat.lt_trans h (by decide)) fun _ => Nat.le_of_lt h
  | succ fuel ih =>
    intro n acc shift rest h
    by_cases hs : n < 128
    · rw [uvarint_small n hs]
      exact readUvarintAux_last _ n acc shift rest hs fun h0 => absurd h0 (Nat.succ_ne_zero fuel)
    · have hq : n / 128 < 128 ^ fuel :=
        Nat.div_lt_of_lt_mul (by rw [Nat.mul_comm, ← Nat.pow_succ]; exact h)
      rw [uvarint_big n hs, List.cons_append, readUvarintAux_more _ _ _ _ _ (Nat.mod_lt n (by decide)),
        ih (n / 128) _ _ rest hq]
      -- the low seven bits at `shift`, the rest at `shift + 7`: `n = 128 * (n / 128) + n % 128`
      rw [Nat.add_assoc, Nat.pow_add, Nat.mul_comm (2 ^ shift), ← Nat.mul_assoc, ← Nat.add_mul,
        Nat.mul_comm (n / 128), Nat.add_comm (n % 128)]
      exact congrArg (fun x => some (acc + x * 2 ^ shift, rest)) (Nat.div_add_mod n 128)

/-- lengths the format can carry in at most nine varint bytes (the 9 behind an equation: proofs get
    the fuel of `readUvarintAux_uvarint` as a variable and nothing evaluates `128 ^ 9`) -/
def fits (n : Nat) : Prop := ∃ f, f = 9 ∧ n < 128 ^ f

theorem fits_small (n : Nat) (h : n < 128) : fits n :=
  ⟨9, rfl, Nat.lt_of_lt_of_le h (Nat.le_self_pow (by decide) 128)⟩

theorem fits_zero : fits 0 := fits_small 0 (by decide)

theorem fits_of_le {m n : Nat} (h : m ≤ n) : fits n → fits m
  | ⟨f, hf, hlt⟩ => ⟨f, hf, Nat.lt_of_le_of_lt h hlt⟩

theorem readUvarint_uvarint (n : Nat) (rest : Bytes) (h : fits n) :
    readUvarint (uvarint n ++ rest) = some (n, rest) := by
  obtain ⟨_, rfl, h⟩ := h
  exact (readUvarintAux_uvarint 9 n 0 0 rest h).trans (by rw [Nat.pow_zero, Nat.mul_one, Nat.zero_add])

theorem decodeLength_uvarint (n : Nat) (rest : Bytes) (hf : fits n) (hle : n ≤ rest.length) :
    decodeLength (uvarint n ++ rest) = some (n, rest) := by
  unfold decodeLength
  rw [readUvarint_uvarint n rest hf]
  exact if_neg (Nat.not_lt.mpr hle)

/-- what the decoder makes of a body: codec.go reads a zero length as "absent" -/
def readBody (b : Bytes) : Option Bytes := if b = [] then none else some b

/-- one element as `appendEfaceSlice` / the link loop writes it -/
theorem decodeBytes_body (b rest : Bytes) (h : fits b.length) :
    decodeBytes (uvarint b.length ++ (b ++ rest)) = some (readBody b, rest) := by
  unfold decodeBytes
  rw [decodeLength_uvarint _ _ h (by rw [List.length_append]; exact Nat.le_add_right _ _)]
  cases b with
  | nil => rfl
  | cons x b => simp [readBody]

theorem uvarint_length_pos (n : Nat) : 0 < (uvarint n).length := by
  by_cases h : n < 128
  · rw [uvarint_small n h]; exact Nat.zero_lt_one
  · rw [uvarint_big n h]; exact Nat.zero_lt_succ _

theorem decodeSlice_bodies : ∀ (l : List Bytes) (rest : Bytes), (∀ b ∈ l, fits b.length) →
    decodeSlice l.length ((l.map fun body => uvarint body.length ++ body).flatten ++ rest) =
      some (l.map readBody, rest) := by
  intro l
  induction l with
  | nil => intro rest _; rfl
  | cons b l ih =>
    intro rest h
    simp only [List.length_cons, List.map_cons, List.flatten_cons, decodeSlice, List.append_assoc]
    rw [decodeBytes_body b _ (h b List.mem_cons_self)]
    dsimp only
    rw [ih rest fun b' hb' => h b' (List.mem_cons_of_mem _ hb')]

theorem length_le_elems (l : List Bytes) :
    l.length ≤ (l.map fun body => uvarint body.length ++ body).flatten.length := by
  induction l with
  | nil => exact Nat.le_refl 0
  | cons b l ih =>
    rw [List.map_cons, List.flatten_cons, List.length_append, List.length_append, List.length_cons, Nat.add_comm]
    exact Nat.add_le_add (Nat.le_trans (uvarint_length_pos _) (Nat.le_add_right _ _)) ih

theorem decodeCounted_appendSlice (l : List Bytes) (rest : Bytes) (h : ∀ b ∈ l, fits b.length)
    (hf : fits l.length) : decodeCounted (appendSlice l ++ rest) = some (l.map readBody, rest) := by
  unfold decodeCounted appendSlice
  rw [List.append_assoc, decodeLength_uvarint _ _ hf (by
    rw [List.length_append]
    exact Nat.le_trans (length_le_elems l) (Nat.le_add_right _ _))]
  exact decodeSlice_bodies l rest h

theorem decBinRaw_encBin_fits (n : NodeB) (hk : ∀ b ∈ n.keys, fits b.length) (hv : ∀ b ∈ n.vals, fits b.length)
    (hl : ∀ o ∈ n.links, fits (o.getD []).length) (nk : fits n.keys.length) (nv : fits n.vals.length)
    (nl : fits n.links.length) :
    decBinRaw (encBin n) = some { keys := n.keys.map readBody, vals := n.vals.map readBody,
                                  links := if n.links.all Option.isNone then []
                                           else (n.links.map fun l => l.getD []).map readBody } := by
  unfold decBinRaw encBin
  rw [List.append_assoc, decodeCounted_appendSlice _ _ hk nk]
  dsimp only
  rw [decodeCounted_appendSlice _ _ hv nv]
  dsimp only
  cases n.links.all Option.isNone with
  | true => rw [if_pos rfl, if_pos rfl, uvarint_small 0 (by decide)]; rfl
  | false =>
    have := decodeCounted_appendSlice (n.links.map fun l => l.getD []) []
      (fun b hb => by obtain ⟨o, ho, rfl⟩ := List.mem_map.mp hb; exact hl o ho)
      (by rw [List.length_map]; exact nl)
    rw [List.append_nil] at this
    rw [if_neg Bool.false_ne_true, if_neg Bool.false_ne_true, this]

/-- an element the decoder reads back unchanged: present bodies are non-empty -/
def ElemOK (o : Option Bytes) : Prop := (∀ b, o = some b → b ≠ []) ∧ fits (o.getD []).length

theorem elemOK_some {b : Bytes} (h : b ≠ [] ∧ fits b.length) : ElemOK (some b) :=
  ⟨fun _ hb => Option.some.inj hb ▸ h.1, h.2⟩

theorem readBody_getD {o : Option Bytes} (h : ElemOK o) : readBody (o.getD []) = o := by
  cases o with
  | none => rfl
  | some b => exact if_neg (h.1 b rfl)

/-- a node all of whose parts the decoder reads back -/
structure NodeOK (n : NodeB) : Prop where
  keys : ∀ b ∈ n.keys, b ≠ [] ∧ fits b.length
  vals : ∀ b ∈ n.vals, b ≠ [] ∧ fits b.length
  links : ∀ o ∈ n.links, ElemOK o
  nk : fits n.keys.length
  nv : fits n.vals.length
  nl : fits n.links.length

theorem decBinRaw_encBin (n : NodeB) (h : NodeOK n) :
    decBinRaw (encBin n) = some { keys := n.keys.map some, vals := n.vals.map some,
                                  links := if n.links.all Option.isNone then [] else n.links } := by
  have ek : n.keys.map readBody = n.keys.map some := List.map_congr_left fun b hb => if_neg (h.keys b hb).1
  have ev : n.vals.map readBody = n.vals.map some := List.map_congr_left fun b hb => if_neg (h.vals b hb).1
  have el : (n.links.map fun l => l.getD []).map readBody = n.links := by
    rw [List.map_map]
    exact (List.map_congr_left fun o ho => readBody_getD (h.links o ho)).trans (List.map_id' n.links)
  rw [decBinRaw_encBin_fits n (fun b hb => (h.keys b hb).2) (fun b hb => (h.vals b hb).2)
    (fun o ho => (h.links o ho).2) h.nk h.nv h.nl, ek, ev, el]

end Mast.Codec
