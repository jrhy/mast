import Mastverif.Lemmas.CursorFwd
/-!
# `Max` and `Backward`

The mirror image of `Min` / `Forward`, stated against the same notion: `Max` leaves exactly one
entry ahead, `Backward` puts one more entry ahead — or leaves the path, and then everything was
ahead already.  Which entry it is need not be said: what is ahead is a suffix of the entry list
(`Ahead.suffix`), so its length determines it.
-/
namespace Mast
open T
namespace Cursor

theorem maxFrom_spec {root : T} : ∀ (fuel : Nat) (node : T) (i : Nat) (rest : Path), lvl node < fuel →
    Full node → ChainFrom root ((node, i) :: rest) →
    ∃ x, Ahead root (maxFrom fuel node rest) (x :: out rest) := by
  intro fuel
  induction fuel with
  | zero => intro node i rest h; exact absurd h (Nat.not_lt_zero _)
  | succ fuel ih =>
    intro node i rest hf hfull hch
    cases hc : (linkAt node (rowLen node)).isNil with
    | true =>
      rw [maxFrom_stop _ hc]
      -- the last link is nil, so the node has an entry: its last one
      obtain ⟨m, hm⟩ : ∃ m, rowLen node = m + 1 := by
        cases h0 : rowLen node with
        | zero =>
          have := hfull.link0 h0
          rw [h0] at hc; rw [hc] at this; cases this
        | succ m => exact ⟨m, rfl⟩
      have hlt : m < rowLen node := Nat.lt_of_lt_of_eq (Nat.lt_succ_self m) hm.symm
      obtain ⟨e, _, hrow⟩ := seekRow_lt node m hlt
      rw [← hm, isNil_iff.mp hc, seekRow_ge node _ (Nat.le_refl _)] at hrow
      rw [hm, Nat.add_sub_cancel]
      exact ⟨e, chain_reindex hch, hlt, by rw [out_cons, hrow]; rfl⟩
    | false =>
      rw [maxFrom_down _ hc]
      obtain ⟨x, hx⟩ := ih _ 0 _ (Nat.lt_of_lt_of_le (lvl_linkAt_lt node _ hc) (Nat.le_of_lt_succ hf))
        (Full.link hfull.1 hc) (chain_push (chain_reindex hch) hc)
      exact ⟨x, hx.cast (by rw [out_cons_ge rest (Nat.le_refl _)])⟩

/-- the pop loop of `Backward` drops the top element, then every ancestor entered through its first
    link: it stops before the entry that precedes the subtree of the top element, or leaves the
    path when that subtree began the entry list -/
theorem popBwd_spec {root : T} : ∀ (rest : Path) (x : T × Nat), ChainFrom root (x :: rest) →
    (popBwd (x :: rest) = [] ∧ toList x.1 ++ out rest = toList root) ∨
    ∃ e, Ahead root (popBwd (x :: rest)) (e :: (toList x.1 ++ out rest)) := by
  intro rest
  induction rest with
  | nil => intro x h; exact Or.inl ⟨rfl, h.1 ▸ List.append_nil _⟩
  | cons y rest ih =>
    intro x h
    obtain ⟨n, j⟩ := y
    obtain ⟨⟨hx, hnil⟩, ht⟩ := h
    rw [popBwd]
    cases j with
    | zero =>
      -- `x` hangs on the first link of `n`: its subtree begins that of `n`
      have e0 : toList x.1 ++ out ((n, 0) :: rest) = toList n ++ out rest := by
        rw [hx, out_cons, toList_link0 n, List.append_assoc]
      rw [if_neg (Nat.lt_irrefl 0), e0]
      exact ih (n, 0) ht
    | succ j =>
      have hlt : j < rowLen n := le_rowLen_of_link (hx ▸ hnil)
      obtain ⟨e, _, hrow⟩ := seekRow_lt n j hlt
      rw [if_pos (Nat.succ_pos j), Nat.add_sub_cancel]
      exact Or.inr ⟨e, chain_reindex ht, hlt, by rw [out_cons, hrow, hx, out_cons, List.cons_append, List.append_assoc]⟩

theorem backward_down {node : T} {i : Nat} (h : (linkAt node i).isNil = false) (fuel : Nat) (rest : Path) :
    backward fuel ((node, i) :: rest) = maxFrom fuel (linkAt node i) ((node, i) :: rest) := by
  rw [backward]
  exact if_pos (by rw [h]; exact Bool.false_ne_true)

theorem backward_flat {node : T} {i : Nat} (h : (linkAt node i).isNil = true) (fuel : Nat) (rest : Path) :
    backward fuel ((node, i) :: rest) = if i > 0 then (node, i - 1) :: rest else popBwd ((node, i) :: rest) := by
  rw [backward]
  exact if_neg fun hc => hc h

/-- the cursor leaves the path exactly when everything was ahead already -/
theorem backward_spec {root : T} {fuel : Nat} (hs : Solid root) (hf : lvl root < fuel) {p : Path}
    {l : List (Nat × Nat)} (h : Ahead root p l) (hne : p ≠ []) :
    (backward fuel p = [] ∧ l = toList root) ∨ ∃ x, Ahead root (backward fuel p) (x :: l) := by
  obtain ⟨hch, hat, rfl⟩ := h
  cases p with
  | nil => exact absurd rfl hne
  | cons y rest =>
    obtain ⟨node, i⟩ := y
    cases hc : (linkAt node i).isNil with
    | false =>
      rw [backward_down hc]
      have hch2 : ChainFrom root ((linkAt node i, 0) :: (node, i) :: rest) := chain_push hch hc
      exact Or.inr (maxFrom_spec fuel _ 0 _ (chain_fuel hf hch2) (Full.link (chain_solid hs rest node i hch) hc) hch2)
    | true =>
      rw [backward_flat hc]
      cases i with
      | zero =>
        have e0 : out ((node, 0) :: rest) = toList node ++ out rest := by
          rw [out_cons, toList_link0 node, isNil_iff.mp hc]; rfl
        rw [if_neg (Nat.lt_irrefl 0), e0]
        exact popBwd_spec rest (node, 0) hch
      | succ i =>
        obtain ⟨e, _, hrow⟩ := seekRow_lt node i (Nat.lt_of_succ_lt hat)
        rw [if_pos (Nat.succ_pos i), Nat.add_sub_cancel]
        exact Or.inr ⟨e, chain_reindex hch, Nat.lt_of_succ_lt hat,
          by rw [out_cons, hrow, isNil_iff.mp hc, out_cons]; rfl⟩

theorem max_spec {root : T} {fuel : Nat} (hfull : Full root) (hf : lvl root < fuel) :
    ∃ x, Ahead root (max fuel [(root, 0)]) [x] :=
  maxFrom_spec fuel root 0 [] hf hfull (chain_single root 0)

end Cursor
end Mast
