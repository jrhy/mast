import Mastverif.Lemmas.Seek
import Mastverif.Lemmas.WF
/-!
# A cursor over a tree and the entries ahead of it; `Min`, `Ceil`, `Forward`

The one invariant of a cursor path is `ChainFrom root`: a chain of non-nil child links from the
root.  Everything local follows from it: the nodes on the path are `Solid` when the root is, no
deeper than the root, and every ancestor's index is within its row.  `Ahead root p l` says that `p`
is such a chain, stands at an entry (or is empty) and has exactly the entries `l` ahead
(`Cursor.out`); `l` is then a suffix of `toList root`, so it fixes the position.  `Min` placement
has the whole list ahead, `Ceil` placement the entries not smaller than the probe, `Forward` takes
the tail.  Nodes are `Solid` (Lemmas/WF.lean), so a descent through first links ends at an entry.
-/
namespace Mast
open T

namespace T

theorem solid_linkAt : ∀ (node : T) (i : Nat), Solid node →
    Solid (linkAt node i) ∧ ((linkAt node i).isNil = true ∨ isEmptyRow (linkAt node i) = false) := by
  intro node
  induction node with
  | nil => intro i _; cases i <;> exact ⟨trivial, Or.inl rfl⟩
  | last p c _ =>
    intro i h
    cases i with
    | zero => exact ⟨h.2, h.1⟩
    | succ i => exact ⟨trivial, Or.inl rfl⟩
  | cons p c k v r _ ihr =>
    intro i h
    cases i with
    | zero => exact ⟨h.2.1, h.1⟩
    | succ i => exact ihr i h.2.2

theorem Full.link {node : T} (hs : Solid node) {i : Nat} (hc : (linkAt node i).isNil = false) :
    Full (linkAt node i) := by
  obtain ⟨h1, h2⟩ := solid_linkAt node i hs
  rcases h2 with h | h
  · rw [hc] at h; cases h
  · exact ⟨h1, h, hc⟩

theorem Full.link0 {node : T} (h : Full node) (h0 : rowLen node = 0) : (linkAt node 0).isNil = false := by
  cases node with
  | nil => exact h.2.2
  | last p c =>
    cases c with
    | nil => exact h.2.1.symm ▸ rfl
    | last q d => rfl
    | cons q d k v r => rfl
  | cons p c k v r => exact absurd h0 (Nat.succ_ne_zero _)

end T

namespace Cursor

def AtEntry : Path → Prop
  | [] => True
  | (node, i) :: _ => i < rowLen node

/-- the path is a chain of non-nil child links starting at `root` -/
def ChainFrom (root : T) : Path → Prop
  | [] => True
  | (c, _) :: rest =>
      (match rest with
       | [] => c = root
       | (n, j) :: _ => c = linkAt n j ∧ c.isNil = false) ∧ ChainFrom root rest

theorem chain_single (root : T) (i : Nat) : ChainFrom root [(root, i)] := ⟨rfl, trivial⟩

theorem chain_reindex {root : T} {node : T} {i j : Nat} {rest : Path}
    (h : ChainFrom root ((node, i) :: rest)) : ChainFrom root ((node, j) :: rest) := h

theorem chain_tail {root : T} {x} {rest : Path} (h : ChainFrom root (x :: rest)) : ChainFrom root rest := h.2

theorem chain_push {root : T} {node : T} {i j : Nat} {rest : Path}
    (h : ChainFrom root ((node, i) :: rest)) (hc : (linkAt node i).isNil = false) :
    ChainFrom root ((linkAt node i, j) :: (node, i) :: rest) :=
  ⟨⟨rfl, hc⟩, h⟩

theorem chain_depth (root : T) : ∀ (rest : Path) (c : T) (i : Nat), ChainFrom root ((c, i) :: rest) →
    rest.length + lvl c ≤ lvl root := by
  intro rest
  induction rest with
  | nil => intro c i h; rw [h.1]; exact Nat.le_of_eq (Nat.zero_add _)
  | cons y rest' ih =>
    intro c i h
    obtain ⟨n, j⟩ := y
    obtain ⟨⟨hc, hnil⟩, ht⟩ := h
    have hlt : lvl c < lvl n := by rw [hc]; exact lvl_linkAt_lt n j (hc ▸ hnil)
    rw [List.length_cons, Nat.succ_add_eq_add_succ]
    exact Nat.le_trans (Nat.add_le_add_left hlt _) (ih n j ht)

theorem chain_fuel {root : T} {fuel : Nat} (hf : lvl root < fuel) {node : T} {i : Nat} {rest : Path}
    (h : ChainFrom root ((node, i) :: rest)) : lvl node < fuel :=
  Nat.lt_of_le_of_lt (Nat.le_trans (Nat.le_add_left _ _) (chain_depth root rest node i h)) hf

theorem chain_solid {root : T} (hs : Solid root) : ∀ (rest : Path) (node : T) (i : Nat),
    ChainFrom root ((node, i) :: rest) → Solid node := by
  intro rest
  induction rest with
  | nil => intro node i h; exact h.1 ▸ hs
  | cons y rest' ih =>
    intro node i h
    obtain ⟨n, j⟩ := y
    exact h.1.1 ▸ (solid_linkAt n j (ih n j h.2)).1

theorem chain_above (root : T) : ∀ (rest : Path) (node : T) (i : Nat), ChainFrom root ((node, i) :: rest) →
    ∃ a, a ++ (toList node ++ out rest) = toList root := by
  intro rest
  induction rest with
  | nil => intro node i h; exact ⟨[], h.1 ▸ List.append_nil _⟩
  | cons y rest' ih =>
    intro node i h
    obtain ⟨n, j⟩ := y
    obtain ⟨a, ha⟩ := ih n j h.2
    obtain ⟨b, hb⟩ := row_split n j
    refine ⟨a ++ b, ?_⟩
    rw [← ha, hb, h.1.1, out_cons]
    simp only [List.append_assoc]

structure Ahead (root : T) (p : Path) (l : List (Nat × Nat)) : Prop where
  chain : ChainFrom root p
  at_ : AtEntry p
  out_eq : out p = l

theorem Ahead.nil {root : T} : Ahead root [] [] := ⟨trivial, trivial, rfl⟩

theorem Ahead.cast {root : T} {p : Path} {l l' : List (Nat × Nat)} (h : Ahead root p l) (e : l = l') :
    Ahead root p l' := e ▸ h

theorem Ahead.suffix {root : T} {p : Path} {l : List (Nat × Nat)} (h : Ahead root p l) :
    ∃ a, a ++ l = toList root := by
  obtain ⟨hch, _, rfl⟩ := h
  cases p with
  | nil => exact ⟨toList root, List.append_nil _⟩
  | cons x rest =>
    obtain ⟨node, i⟩ := x
    obtain ⟨a, ha⟩ := chain_above root rest node i hch
    obtain ⟨b, hb⟩ := row_split node i
    refine ⟨a ++ (b ++ toList (linkAt node i)), ?_⟩
    rw [← ha, hb, out_cons]
    simp only [List.append_assoc]

theorem Ahead.get {root : T} {p : Path} {l : List (Nat × Nat)} (h : Ahead root p l) : get p = l.head? := by
  obtain ⟨_, hat, rfl⟩ := h
  cases p with
  | nil => rfl
  | cons x rest =>
    obtain ⟨node, i⟩ := x
    obtain ⟨e, he, hrow⟩ := seekRow_lt node i hat
    rw [out_cons, hrow]
    exact he

theorem Ahead.eq_nil_iff {root : T} {p : Path} {l : List (Nat × Nat)} (h : Ahead root p l) : p = [] ↔ l = [] := by
  obtain ⟨_, hat, rfl⟩ := h
  cases p with
  | nil => exact Iff.intro (fun _ => rfl) (fun _ => rfl)
  | cons x rest =>
    obtain ⟨node, i⟩ := x
    obtain ⟨e, _, hrow⟩ := seekRow_lt node i hat
    rw [out_cons, hrow]
    exact Iff.intro (fun h => nomatch h) (fun h => nomatch h)

theorem minFrom_spec {root : T} : ∀ (fuel : Nat) (node : T) (rest : Path), lvl node < fuel → Full node →
    ChainFrom root ((node, 0) :: rest) →
    Ahead root (minFrom fuel node ((node, 0) :: rest)) (toList node ++ out rest) := by
  intro fuel
  induction fuel with
  | zero => intro node rest h; exact absurd h (Nat.not_lt_zero _)
  | succ fuel ih =>
    intro node rest hf hfull hch
    cases hc : (linkAt node 0).isNil with
    | true =>
      rw [minFrom_stop _ hc]
      refine ⟨hch, Nat.pos_of_ne_zero fun h0 => ?_, ?_⟩
      · have := hfull.link0 h0
        rw [hc] at this; cases this
      · rw [out_cons, toList_link0 node, isNil_iff.mp hc]; rfl
    | false =>
      rw [minFrom_down _ hc]
      refine (ih _ _ (Nat.lt_of_lt_of_le (lvl_linkAt_lt node 0 hc) (Nat.le_of_lt_succ hf))
        (Full.link hfull.1 hc) (chain_push hch hc)).cast ?_
      rw [out_cons, toList_link0 node, List.append_assoc]

/-- the pop loop of `Forward` drops the top, then every exhausted ancestor -/
theorem popFwd_spec {root : T} : ∀ (rest : Path) (x : T × Nat), ChainFrom root (x :: rest) →
    Ahead root (popFwd (x :: rest)) (out rest) := by
  intro rest
  induction rest with
  | nil => intro x _; exact Ahead.nil
  | cons y rest ih =>
    intro x h
    obtain ⟨node, i⟩ := y
    rw [popFwd]
    split
    · next hlt => exact ⟨chain_tail h, hlt, rfl⟩
    · next hge => exact (ih (node, i) (chain_tail h)).cast (out_cons_ge rest (Nat.le_of_not_lt hge)).symm

theorem forward_down {node : T} {i : Nat} (h : (linkAt node (i + 1)).isNil = false) (fuel : Nat) (rest : Path) :
    forward fuel ((node, i) :: rest) =
      minFrom fuel (linkAt node (i + 1)) ((linkAt node (i + 1), 0) :: (node, i + 1) :: rest) := by
  rw [forward]
  exact if_pos ⟨Nat.lt_succ_of_le (le_rowLen_of_link h), by rw [h]; exact Bool.false_ne_true⟩

theorem forward_flat {node : T} {i : Nat} (h : (linkAt node (i + 1)).isNil = true) (fuel : Nat) (rest : Path) :
    forward fuel ((node, i) :: rest) =
      if i + 1 < rowLen node then (node, i + 1) :: rest else popFwd ((node, i) :: rest) := by
  rw [forward]
  exact if_neg fun hc => hc.2 h

theorem forward_spec {root : T} {fuel : Nat} (hs : Solid root) (hf : lvl root < fuel) {p : Path}
    {l : List (Nat × Nat)} (h : Ahead root p l) : Ahead root (forward fuel p) l.tail := by
  obtain ⟨hch, hat, rfl⟩ := h
  cases p with
  | nil => exact Ahead.nil
  | cons x rest =>
    obtain ⟨node, i⟩ := x
    obtain ⟨e, _, hrow⟩ := seekRow_lt node i hat
    have htail : (out ((node, i) :: rest)).tail = toList (linkAt node (i + 1)) ++ out ((node, i + 1) :: rest) := by
      rw [out_cons, hrow, List.cons_append, List.tail_cons, List.append_assoc]; rfl
    have hch1 : ChainFrom root ((node, i + 1) :: rest) := chain_reindex hch
    rw [htail]
    cases hc : (linkAt node (i + 1)).isNil with
    | false =>
      rw [forward_down hc]
      have hch2 : ChainFrom root ((linkAt node (i + 1), 0) :: (node, i + 1) :: rest) := chain_push hch1 hc
      exact minFrom_spec fuel _ _ (chain_fuel hf hch2) (Full.link (chain_solid hs rest node i hch) hc) hch2
    | true =>
      rw [forward_flat hc, isNil_iff.mp hc]
      split
      · next hlt => exact ⟨hch1, hlt, rfl⟩
      · next hge => exact (popFwd_spec rest (node, i) hch).cast (out_cons_ge rest (Nat.le_of_not_lt hge)).symm

theorem min_spec {root : T} {fuel : Nat} (hfull : Full root) (hf : lvl root < fuel) :
    Ahead root (min fuel [(root, 0)]) (toList root) :=
  (minFrom_spec fuel root [] hf hfull (chain_single root 0)).cast (List.append_nil _)

def forwardN (fuel : Nat) : Nat → Path → Path
  | 0, p => p
  | n+1, p => forwardN fuel n (forward fuel p)

theorem forwardN_spec {root : T} {fuel : Nat} (hs : Solid root) (hf : lvl root < fuel) (n : Nat) {p : Path}
    {l : List (Nat × Nat)} (h : Ahead root p l) : Ahead root (forwardN fuel n p) (l.drop n) := by
  induction n generalizing p l with
  | zero => exact h
  | succ n ih => exact (ih (forward_spec hs hf h)).cast List.drop_tail

/-- leaving the exhausted nodes ends at an entry and changes nothing ahead -/
theorem popCeil_spec {root : T} : ∀ (rest : Path) (node : T) (i : Nat), ChainFrom root ((node, i) :: rest) →
    i ≤ rowLen node → Ahead root (popCeil ((node, i) :: rest)) (out ((node, i) :: rest)) := by
  intro rest
  induction rest with
  | nil =>
    intro node i h hi
    rw [popCeil]
    split
    · next he => exact Ahead.nil.cast (out_cons_ge [] (Nat.le_of_eq he.symm)).symm
    · next hne => exact ⟨h, Nat.lt_of_le_of_ne hi hne, rfl⟩
  | cons y rest ih =>
    intro node i h hi
    obtain ⟨n, j⟩ := y
    rw [popCeil]
    split
    · next he =>
      exact (ih n j h.2 (le_rowLen_of_link (h.1.1 ▸ h.1.2))).cast (out_cons_ge _ (Nat.le_of_eq he.symm)).symm
    · next hne => exact ⟨h, Nat.lt_of_le_of_ne hi hne, rfl⟩

theorem ceil_spec {root : T} (k : Nat) : ∀ (fuel : Nat) (node : T) (i0 : Nat) (rest : Path), lvl node < fuel →
    ChainFrom root ((node, i0) :: rest) →
    Ahead root (ceil k fuel ((node, i0) :: rest)) (seekT k node ++ out rest) := by
  intro fuel
  induction fuel with
  | zero => intro node i0 rest h; exact absurd h (Nat.not_lt_zero _)
  | succ fuel ih =>
    intro node i0 rest hf hch
    have hch1 : ChainFrom root ((node, lowerBound k node) :: rest) := chain_reindex hch
    rw [seekT_ceilDown k node]
    cases hd : ceilDown k node with
    | none =>
      rw [ceil_stop hd]
      exact popCeil_spec rest node _ hch1 (lowerBound_le k node)
    | some ci =>
      obtain ⟨c, i⟩ := ci
      obtain ⟨rfl, rfl, hc⟩ := ceilDown_some hd
      rw [ceil_down hd]
      exact (ih _ 0 _ (Nat.lt_of_lt_of_le (lvl_linkAt_lt node _ hc) (Nat.le_of_lt_succ hf))
        (chain_push hch1 hc)).cast (List.append_assoc _ _ _).symm

end Cursor
end Mast
