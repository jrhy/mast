import Mastverif.Lemmas.CursorWalk
/-!
# What cursor moves read

A move loads the nodes that join the path through name links (`newLoads`; for `Ceil` the nodes it
descends through, `ceilLoads`).  A path that is a chain from the root has at most `lvl root + 1`
elements, one per level; hence no move reads more than one node per level.
-/
namespace Mast
open T
namespace Cursor

/-- every element of the path but the last (the root end) can have been loaded -/
theorem loadedOn_cons_le : ∀ (l : Path) (x : T × Nat), (loadedOn (x :: l)).length ≤ l.length := by
  intro l
  induction l with
  | nil => intro x; obtain ⟨c, i⟩ := x; exact Nat.le_refl 0
  | cons y rest ih =>
    intro x
    obtain ⟨c, i⟩ := x
    obtain ⟨n, j⟩ := y
    show ((if flagAt n j = true then [c] else []) ++ loadedOn ((n, j) :: rest)).length ≤ rest.length + 1
    rw [List.length_append, Nat.add_comm]
    refine Nat.add_le_add (ih (n, j)) ?_
    split
    · exact Nat.le_refl 1
    · exact Nat.zero_le 1

/-- a move loads from the new path cut off one node above what it shares with the old one -/
theorem newLoads_le (old new : Path) {n : Nat} (h : new.length ≤ n + 1) : (newLoads old new).length ≤ n := by
  simp only [newLoads]
  rw [← List.take_add]
  generalize new.length - commonFromRoot old.reverse new.reverse + 1 = m
  cases hl : List.take m new with
  | nil => exact Nat.zero_le n
  | cons x l =>
    have : (x :: l).length ≤ n + 1 := hl ▸ Nat.le_trans (List.length_take_le' m new) h
    exact Nat.le_trans (loadedOn_cons_le l x) (Nat.le_of_succ_le_succ this)

theorem chain_length (root : T) (p : Path) (h : ChainFrom root p) : p.length ≤ lvl root + 1 := by
  cases p with
  | nil => exact Nat.zero_le _
  | cons x rest =>
    obtain ⟨c, i⟩ := x
    exact Nat.succ_le_succ (Nat.le_trans (Nat.le_add_right _ _) (chain_depth root rest c i h))


theorem newLoads_le_height (root : T) (old new : Path) (h : ChainFrom root new) :
    (newLoads old new).length ≤ lvl root :=
  newLoads_le old new (chain_length root new h)

/-- `Ceil` reads the child it enters only if that hangs on a name link -/
theorem ceilLoads_succ (k f : Nat) (node : T) (j : Nat) (rest : Path) :
    ceilLoads k (f + 1) ((node, j) :: rest) =
      match ceilDown k node with
      | some (c, i) => (if flagAt node i then [c] else []) ++ ceilLoads k f ((c, 0) :: (node, i) :: rest)
      | none => [] := by
  rw [ceilLoads]
  exact (ceilDown_elim k node [] fun c i =>
    (if flagAt node i then [c] else []) ++ ceilLoads k f ((c, 0) :: (node, i) :: rest)).symm

theorem ceilLoads_le (k : Nat) : ∀ (fuel : Nat) (node : T) (i : Nat) (rest : Path),
    (ceilLoads k fuel ((node, i) :: rest)).length ≤ lvl node := by
  intro fuel
  induction fuel with
  | zero => intro node i rest; exact Nat.zero_le _
  | succ fuel ih =>
    intro node i rest
    rw [ceilLoads_succ]
    cases hd : ceilDown k node with
    | none => exact Nat.zero_le _
    | some ci =>
      obtain ⟨c, j⟩ := ci
      obtain ⟨rfl, rfl, hc⟩ := ceilDown_some hd
      have h1 := ih (linkAt node (lowerBound k node)) 0 ((node, lowerBound k node) :: rest)
      have h2 := lvl_linkAt_lt node (lowerBound k node) hc
      show ((if flagAt node (lowerBound k node) = true then [linkAt node (lowerBound k node)] else []) ++ _).length ≤ _
      rw [List.length_append]
      split
      · rw [Nat.add_comm]; exact Nat.lt_of_le_of_lt h1 h2
      · exact Nat.le_trans (Nat.le_of_eq (Nat.zero_add _)) (Nat.le_of_lt (Nat.lt_of_le_of_lt h1 h2))

end Cursor
end Mast
