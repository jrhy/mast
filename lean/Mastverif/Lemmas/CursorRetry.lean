import Mastverif.Lemmas.Seek
/-!
# A placement that is resumed from a partial descent (functional cursor)

`Min`, `Max` and `Ceil` walk down from the node on top of the path.  When a load fails part-way the
Go code returns with the path it has built so far.  The relations `MinPartial`, `MaxPartial`,
`CeilPartial` describe those intermediate paths; the lemmas say that the same placement called
again on such a path ends exactly where the uninterrupted placement ends — provided the model's
loop fuel covers the descent (`MinDone` / `MaxDone` / `CeilDone`: the Go loops have no fuel).
Each argument is the same: one round of the descent from `P` is the descent from the next partial
path with one unit of fuel less, and fuel beyond what the descent needs changes nothing.
-/
namespace Mast.Cursor
open Mast.T

def MinDone : Nat → T → Prop
  | 0, _ => False
  | f+1, node => (linkAt node 0).isNil = true ∨ MinDone f (linkAt node 0)

theorem MinDone.succ {f : Nat} {node : T} (h : MinDone f node) : MinDone (f + 1) node := by
  induction f generalizing node with
  | zero => exact h.elim
  | succ f ih => exact h.imp id ih

theorem MinDone.down {f : Nat} {node : T} (h : MinDone (f + 1) node) (hn : (linkAt node 0).isNil = false) :
    MinDone f (linkAt node 0) :=
  h.resolve_left (by rw [hn]; exact Bool.false_ne_true)

theorem minFrom_succ {f : Nat} {node : T} (P : Path) (h : MinDone f node) :
    minFrom (f + 1) node P = minFrom f node P := by
  induction f generalizing node P with
  | zero => exact h.elim
  | succ f ih =>
    cases hn : (linkAt node 0).isNil with
    | true => rw [minFrom_stop _ hn, minFrom_stop _ hn]
    | false =>
      rw [minFrom_down _ hn, minFrom_down _ hn]
      exact ih _ (h.down hn)

/-- paths a failing `Min` can leave: the descent so far -/
inductive MinPartial : Path → Path → Prop
  | here (P : Path) : MinPartial P P
  | down (node : T) (j : Nat) (rest P'' : Path) : (linkAt node 0).isNil = false →
      MinPartial ((linkAt node 0, 0) :: (node, j) :: rest) P'' → MinPartial ((node, j) :: rest) P''

def MinDoneP (f : Nat) : Path → Prop
  | [] => True
  | (node, _) :: _ => MinDone f node

theorem MinDoneP.succ {f : Nat} : ∀ {P : Path}, MinDoneP f P → MinDoneP (f + 1) P
  | [], _ => trivial
  | _ :: _, h => MinDone.succ h

theorem min_succ {f : Nat} : ∀ {P : Path}, MinDoneP f P → min (f + 1) P = min f P
  | [], _ => rfl
  | _ :: _, h => minFrom_succ _ h

theorem MinPartial.done {P P'' : Path} (hp : MinPartial P P'') : ∀ {f : Nat}, MinDoneP f P → MinDoneP f P'' := by
  induction hp with
  | here _ => exact fun h => h
  | down node j rest P'' hn _ ih =>
    intro f h
    cases f with
    | zero => exact h.elim
    | succ f => exact (ih (MinDone.down h hn)).succ

/-- from any path a failing `Min` can leave, `Min` ends where it would have -/
theorem min_resume {P P'' : Path} (hp : MinPartial P P'') : ∀ {f : Nat}, MinDoneP f P → min f P'' = min f P := by
  induction hp with
  | here _ => exact fun _ => rfl
  | down node j rest P'' hn hp ih =>
    intro f h
    cases f with
    | zero => exact h.elim
    | succ f =>
      have h' := MinDone.down h hn
      have e : min (f + 1) ((node, j) :: rest) = min f ((linkAt node 0, 0) :: (node, j) :: rest) :=
        minFrom_down _ hn
      rw [e, ← ih h']
      exact min_succ (hp.done h')

def MaxDone : Nat → T → Prop
  | 0, _ => False
  | f+1, node => (linkAt node (rowLen node)).isNil = true ∨ MaxDone f (linkAt node (rowLen node))

theorem MaxDone.succ {f : Nat} {node : T} (h : MaxDone f node) : MaxDone (f + 1) node := by
  induction f generalizing node with
  | zero => exact h.elim
  | succ f ih => exact h.imp id ih

theorem MaxDone.down {f : Nat} {node : T} (h : MaxDone (f + 1) node)
    (hn : (linkAt node (rowLen node)).isNil = false) : MaxDone f (linkAt node (rowLen node)) :=
  h.resolve_left (by rw [hn]; exact Bool.false_ne_true)

theorem maxFrom_succ {f : Nat} {node : T} (P : Path) (h : MaxDone f node) :
    maxFrom (f + 1) node P = maxFrom f node P := by
  induction f generalizing node P with
  | zero => exact h.elim
  | succ f ih =>
    cases hn : (linkAt node (rowLen node)).isNil with
    | true => rw [maxFrom_stop _ hn, maxFrom_stop _ hn]
    | false =>
      rw [maxFrom_down _ hn, maxFrom_down _ hn]
      exact ih _ (h.down hn)

/-- paths a failing `Max` can leave: `Max` takes the top node off the path and puts it back with the
    index of the link it follows, so the index of the top entry is whatever the last round left -/
inductive MaxPartial : Path → Path → Prop
  | here (node : T) (j j' : Nat) (rest : Path) : MaxPartial ((node, j) :: rest) ((node, j') :: rest)
  | down (node : T) (j : Nat) (rest P'' : Path) : (linkAt node (rowLen node)).isNil = false →
      MaxPartial ((linkAt node (rowLen node), 0) :: (node, rowLen node) :: rest) P'' →
      MaxPartial ((node, j) :: rest) P''

def MaxDoneP (f : Nat) : Path → Prop
  | [] => True
  | (node, _) :: _ => MaxDone f node

theorem MaxDoneP.succ {f : Nat} : ∀ {P : Path}, MaxDoneP f P → MaxDoneP (f + 1) P
  | [], _ => trivial
  | _ :: _, h => MaxDone.succ h

theorem max_succ {f : Nat} : ∀ {P : Path}, MaxDoneP f P → max (f + 1) P = max f P
  | [], _ => rfl
  | _ :: _, h => maxFrom_succ _ h

theorem MaxPartial.done {P P'' : Path} (hp : MaxPartial P P'') : ∀ {f : Nat}, MaxDoneP f P → MaxDoneP f P'' := by
  induction hp with
  | here _ _ _ _ => exact fun h => h
  | down node j rest P'' hn _ ih =>
    intro f h
    cases f with
    | zero => exact h.elim
    | succ f => exact (ih (MaxDone.down h hn)).succ

theorem max_resume {P P'' : Path} (hp : MaxPartial P P'') : ∀ {f : Nat}, MaxDoneP f P → max f P'' = max f P := by
  induction hp with
  | here _ _ _ _ => exact fun _ => rfl
  | down node j rest P'' hn hp ih =>
    intro f h
    cases f with
    | zero => exact h.elim
    | succ f =>
      have h' := MaxDone.down h hn
      have e : max (f + 1) ((node, j) :: rest) = max f ((linkAt node (rowLen node), 0) :: (node, rowLen node) :: rest) :=
        maxFrom_down _ hn
      rw [e, ← ih h']
      exact max_succ (hp.done h')

def CeilDone (k : Nat) : Nat → Path → Prop
  | 0, _ => False
  | _+1, [] => True
  | f+1, (node, _) :: rest =>
      match ceilDown k node with
      | none => True
      | some (c, i) => CeilDone k f ((c, 0) :: (node, i) :: rest)

theorem CeilDone.down {k f : Nat} {node c : T} {i j : Nat} {rest : Path} (hd : ceilDown k node = some (c, i)) :
    CeilDone k (f + 1) ((node, j) :: rest) ↔ CeilDone k f ((c, 0) :: (node, i) :: rest) := by
  rw [CeilDone, hd]

theorem CeilDone.stop {k f : Nat} {node : T} {j : Nat} {rest : Path} (hd : ceilDown k node = none) :
    CeilDone k (f + 1) ((node, j) :: rest) := by
  rw [CeilDone, hd]; trivial

theorem CeilDone.succ {k f : Nat} {P : Path} (h : CeilDone k f P) : CeilDone k (f + 1) P := by
  induction f generalizing P with
  | zero => exact h.elim
  | succ f ih =>
    cases P with
    | nil => trivial
    | cons x rest =>
      obtain ⟨node, j⟩ := x
      cases hd : ceilDown k node with
      | none => exact CeilDone.stop hd
      | some ci => exact (CeilDone.down hd).mpr (ih ((CeilDone.down hd).mp h))

theorem ceil_succ {k f : Nat} {P : Path} (h : CeilDone k f P) : ceil k (f + 1) P = ceil k f P := by
  induction f generalizing P with
  | zero => exact h.elim
  | succ f ih =>
    cases P with
    | nil => rfl
    | cons x rest =>
      obtain ⟨node, j⟩ := x
      cases hd : ceilDown k node with
      | none => rw [ceil_stop hd, ceil_stop hd]
      | some ci =>
        rw [ceil_down hd, ceil_down hd]
        exact ih ((CeilDone.down hd).mp h)

/-- paths a failing `Ceil` can leave (the index of the top entry is whatever the search left) -/
inductive CeilPartial (k : Nat) : Path → Path → Prop
  | here (node : T) (j j' : Nat) (rest : Path) : CeilPartial k ((node, j) :: rest) ((node, j') :: rest)
  | down (node c : T) (i j : Nat) (rest P'' : Path) : ceilDown k node = some (c, i) →
      CeilPartial k ((c, 0) :: (node, i) :: rest) P'' → CeilPartial k ((node, j) :: rest) P''

/-- `Ceil` does not look at the index of the top entry -/
theorem ceil_reindex {k : Nat} (f : Nat) (node : T) (j j' : Nat) (rest : Path) :
    ceil k (f + 1) ((node, j') :: rest) = ceil k (f + 1) ((node, j) :: rest) := by
  rw [ceil_step, ceil_step]

theorem CeilPartial.done {k : Nat} {P P'' : Path} (hp : CeilPartial k P P'') :
    ∀ {f : Nat}, CeilDone k f P → CeilDone k f P'' := by
  induction hp with
  | here node j j' rest =>
    intro f h
    cases f with
    | zero => exact h.elim
    | succ f => exact h
  | down node c i j rest P'' hd _ ih =>
    intro f h
    cases f with
    | zero => exact h.elim
    | succ f => exact (ih ((CeilDone.down hd).mp h)).succ

theorem ceil_resume {k : Nat} {P P'' : Path} (hp : CeilPartial k P P'') :
    ∀ {f : Nat}, CeilDone k f P → ceil k f P'' = ceil k f P := by
  induction hp with
  | here node j j' rest =>
    intro f h
    cases f with
    | zero => exact h.elim
    | succ f => exact ceil_reindex f node j j' rest
  | down node c i j rest P'' hd hp ih =>
    intro f h
    cases f with
    | zero => exact h.elim
    | succ f =>
      have h' := (CeilDone.down hd).mp h
      rw [ceil_down hd, ← ih h']
      exact ceil_succ (hp.done h')

end Mast.Cursor
