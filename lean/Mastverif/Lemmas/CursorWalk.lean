import Mastverif.Lemmas.CursorBwd
/-!
# Every cursor walk is index arithmetic on the sorted entry list

`Rel root p (some n)`: the cursor `p` over the tree `root` stands at index `n` of `toList root`,
i.e. has `(toList root).drop n` ahead; `Rel root p none`: it reads nothing and never will (`Off`).
`Min`, `Max` and `Ceil` establish it (at `0`, at `length - 1`, at the number of keys smaller than
the probe), `Forward` / `Backward` move it by one and leave the path (for good) when stepping off
either end.  `walk_spec` lifts this to every list of moves, in any order, on every solid tree —
also the two forms of a tree without entries.
-/
namespace Mast
open T
namespace Cursor

inductive Move where
  | fwd | bwd
  deriving Repr, DecidableEq

inductive Place where
  | min | max | ceil (k : Nat)
  deriving Repr, DecidableEq

def stepPath (fuel : Nat) (p : Path) : Move → Path
  | .fwd => forward fuel p
  | .bwd => backward fuel p

def place (fuel : Nat) (root : T) : Place → Path
  | .min => min fuel [(root, 0)]
  | .max => max fuel [(root, 0)]
  | .ceil k => ceil k fuel [(root, 0)]

/-- the specification: a position is an index into the sorted list, or "no entry" (absorbing) -/
def stepIdx (len : Nat) : Option Nat → Move → Option Nat
  | none, _ => none
  | some n, .fwd => if n + 1 < len then some (n + 1) else none
  | some n, .bwd => if 0 < n then some (n - 1) else none

def placeIdx (L : List (Nat × Nat)) : Place → Option Nat
  | .min => if 0 < L.length then some 0 else none
  | .max => if 0 < L.length then some (L.length - 1) else none
  | .ceil k =>
      let m := (L.takeWhile fun e => decide (e.1 < k)).length
      if m < L.length then some m else none

/-- the cursor reads nothing and every move empties it: it has stepped off either end, or was placed
    on a tree without entries -/
def Off (p : Path) : Prop := get p = none ∧ ∀ fuel m, stepPath fuel p m = []

theorem off_nil : Off [] := ⟨rfl, fun _ m => by cases m <;> rfl⟩

def Rel (root : T) (p : Path) : Option Nat → Prop
  | none => ChainFrom root p ∧ Off p
  | some n => n < (toList root).length ∧ Ahead root p ((toList root).drop n)

theorem Rel.chain {root : T} {p : Path} : ∀ {s : Option Nat}, Rel root p s → ChainFrom root p
  | none, h => h.1
  | some _, h => h.2.chain

theorem rel_nil (root : T) : Rel root [] none := ⟨trivial, off_nil⟩

theorem get_rel {root : T} {p : Path} : ∀ {s : Option Nat}, Rel root p s →
    get p = s.bind fun n => (toList root)[n]?
  | none, h => h.2.1
  | some _, h => h.2.get.trans List.head?_drop

theorem suffix_eq_drop {α} {a l L : List α} (h : a ++ l = L) :
    l.length ≤ L.length ∧ l = L.drop (L.length - l.length) := by
  subst h
  rw [List.length_append, Nat.add_sub_cancel]
  exact ⟨Nat.le_add_left _ _, List.drop_left.symm⟩

theorem step_rel {root : T} {fuel : Nat} (hs : Solid root) (hf : lvl root < fuel) {p : Path} {s : Option Nat}
    (m : Move) (h : Rel root p s) : Rel root (stepPath fuel p m) (stepIdx (toList root).length s m) := by
  cases s with
  | none => rw [h.2.2 fuel m]; exact rel_nil root
  | some n =>
    obtain ⟨hn, ha⟩ := h
    cases m with
    | fwd =>
      have ha' := (forward_spec hs hf ha).cast List.tail_drop
      show Rel root (forward fuel p) (if n + 1 < (toList root).length then some (n + 1) else none)
      split
      · next hlt => exact ⟨hlt, ha'⟩
      · next hge =>
        rw [ha'.eq_nil_iff.mpr (List.drop_eq_nil_iff.mpr (Nat.le_of_not_lt hge))]
        exact rel_nil root
    | bwd =>
      have hne : p ≠ [] := fun hp =>
        absurd (List.drop_eq_nil_iff.mp (ha.eq_nil_iff.mp hp)) (Nat.not_le_of_lt hn)
      show Rel root (backward fuel p) (if 0 < n then some (n - 1) else none)
      rcases backward_spec hs hf ha hne with ⟨hb, hall⟩ | ⟨x, hx⟩
      · -- everything was ahead: the index was 0
        have hlen := congrArg List.length hall
        rw [List.length_drop] at hlen
        have h0 : n = 0 := Nat.eq_zero_of_not_pos fun hpos =>
          absurd hlen (Nat.ne_of_lt (Nat.sub_lt (Nat.lt_of_le_of_lt (Nat.zero_le n) hn) hpos))
        subst h0
        rw [hb]
        exact rel_nil root
      · -- one more entry ahead of a suffix of the list: the index before
        obtain ⟨a, hsuf⟩ := hx.suffix
        obtain ⟨hle, e⟩ := suffix_eq_drop hsuf
        rw [List.length_cons, List.length_drop] at hle e
        have hpos : 0 < n := Nat.pos_of_ne_zero fun h0 => by
          subst h0; exact Nat.not_succ_le_self _ hle
        rw [Nat.sub_add_eq, Nat.sub_sub_self (Nat.le_of_lt hn)] at e
        rw [if_pos hpos]
        exact ⟨Nat.lt_of_le_of_lt (Nat.sub_le n 1) hn, hx.cast e⟩

theorem walk_rel {root : T} {fuel : Nat} (hs : Solid root) (hf : lvl root < fuel) (ms : List Move) {p : Path}
    {s : Option Nat} (h : Rel root p s) :
    Rel root (ms.foldl (stepPath fuel) p) (ms.foldl (stepIdx (toList root).length) s) := by
  induction ms generalizing p s with
  | nil => exact h
  | cons m ms ih => exact ih (step_rel hs hf m h)

theorem dropWhile_eq_drop (q : Nat × Nat → Bool) : ∀ l : List (Nat × Nat),
    l.dropWhile q = l.drop (l.takeWhile q).length := by
  intro l
  induction l with
  | nil => rfl
  | cons x l ih =>
    cases hx : q x with
    | true => rw [List.dropWhile_cons_of_pos hx, List.takeWhile_cons_of_pos hx]; exact ih
    | false =>
      have hx' : ¬ q x = true := by rw [hx]; exact Bool.false_ne_true
      rw [List.dropWhile_cons_of_neg hx', List.takeWhile_cons_of_neg hx']; rfl

theorem ceil_ahead {root : T} {fuel : Nat} (hsrt : Sorted (toList root)) (hf : lvl root < fuel) (k : Nat) :
    Ahead root (ceil k fuel [(root, 0)]) ((toList root).dropWhile fun e => decide (e.1 < k)) :=
  (ceil_spec k fuel root 0 [] hf (chain_single root 0)).cast ((List.append_nil _).trans (seekT_spec k root hsrt))

/-- both forms of the empty tree: no root node, or an entry-less top node -/
def EmptyRoot (root : T) : Prop := root = nil ∨ ∃ q, root = last q nil

theorem full_or_empty {root : T} (hs : Solid root) : Full root ∨ EmptyRoot root := by
  cases root with
  | nil => exact Or.inr (Or.inl rfl)
  | last q c =>
    cases c with
    | nil => exact Or.inr (Or.inr ⟨q, rfl⟩)
    | last _ _ => exact Or.inl ⟨hs, rfl, rfl⟩
    | cons _ _ _ _ _ => exact Or.inl ⟨hs, rfl, rfl⟩
  | cons p c k v r => exact Or.inl ⟨hs, rfl, rfl⟩

theorem place_empty {root : T} (he : EmptyRoot root) (fuel : Nat) (pl : Place) : Rel root (place fuel root pl) none := by
  have hoff : Off [(root, 0)] := by
    rcases he with rfl | ⟨q, rfl⟩ <;> exact ⟨rfl, fun _ m => by cases m <;> rfl⟩
  have : place fuel root pl = [] ∨ place fuel root pl = [(root, 0)] := by
    -- there is nothing to descend into: `Min` and `Max` stay on the root, `Ceil` leaves it
    cases pl with
    | min => exact Or.inr (by rcases he with rfl | ⟨q, rfl⟩ <;> cases fuel <;> rfl)
    | max =>
      cases fuel with
      | zero => exact Or.inl rfl
      | succ f => exact Or.inr (by rcases he with rfl | ⟨q, rfl⟩ <;> rfl)
    | ceil k =>
      cases fuel with
      | zero => exact Or.inr rfl
      | succ f => exact Or.inl (by rcases he with rfl | ⟨q, rfl⟩ <;> rfl)
  rcases this with h | h
  · rw [h]; exact rel_nil root
  · rw [h]; exact ⟨chain_single root 0, hoff⟩

theorem place_rel {root : T} {fuel : Nat} (hs : Solid root) (hsrt : Sorted (toList root)) (hf : lvl root < fuel)
    (pl : Place) : Rel root (place fuel root pl) (placeIdx (toList root) pl) := by
  rcases full_or_empty hs with hfull | he
  · have hlen : 0 < (toList root).length :=
      List.length_pos_iff.mpr (toList_ne_nil_of_solid root hfull.1 hfull.2.1 hfull.2.2)
    cases pl with
    | min =>
      show Rel root _ (if 0 < (toList root).length then some 0 else none)
      rw [if_pos hlen]
      exact ⟨hlen, min_spec hfull hf⟩
    | max =>
      show Rel root _ (if 0 < (toList root).length then some ((toList root).length - 1) else none)
      rw [if_pos hlen]
      obtain ⟨x, hx⟩ := max_spec hfull hf
      obtain ⟨a, hsuf⟩ := hx.suffix
      exact ⟨Nat.sub_lt hlen Nat.one_pos, hx.cast (suffix_eq_drop hsuf).2⟩
    | ceil k =>
      have ha := (ceil_ahead hsrt hf k).cast (dropWhile_eq_drop _ _)
      show Rel root _ (if _ < (toList root).length then some _ else none)
      split
      · next hlt => exact ⟨hlt, ha⟩
      · next hge =>
        show Rel root (ceil k fuel [(root, 0)]) none
        rw [ha.eq_nil_iff.mpr (List.drop_eq_nil_iff.mpr (Nat.le_of_not_lt hge))]
        exact rel_nil root
  · have hl : toList root = [] := by rcases he with rfl | ⟨q, rfl⟩ <;> rfl
    rw [hl, show placeIdx [] pl = none by cases pl <;> rfl]
    exact place_empty he fuel pl

theorem stepIdx_none (len : Nat) : ∀ ms : List Move, ms.foldl (stepIdx len) none = none := by
  intro ms
  induction ms with
  | nil => rfl
  | cons m ms ih => exact ih

theorem walk_spec {root : T} {fuel : Nat} (hs : Solid root) (hsrt : Sorted (toList root)) (hf : lvl root < fuel)
    (pl : Place) (ms : List Move) :
    get (ms.foldl (stepPath fuel) (place fuel root pl)) =
      (ms.foldl (stepIdx (toList root).length) (placeIdx (toList root) pl)).bind fun n => (toList root)[n]? :=
  get_rel (walk_rel hs hf ms (place_rel hs hsrt hf pl))

end Cursor
end Mast
