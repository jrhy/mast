import Mastverif.Lemmas.Get
/-!
# `del` refines `delL` and preserves the shape; `mergeRow` concatenates
-/
namespace Mast
namespace T
variable (layer : Nat → Nat)

theorem toList_mergeRow (l r : T) : toList (mergeRow l r) = toList l ++ toList r := by
  fun_induction mergeRow l r with
  | case1 r => rfl
  | case2 r p c k v rest ih => rw [toList, toList, ih, List.append_assoc, List.cons_append]
  | case3 p c => exact (List.append_nil _).symm
  | case4 p c p2 c2 h => rw [isNil_iff.mp h]; rfl
  | case5 p c p2 c2 _ h => rw [isNil_iff.mp h]; exact (List.append_nil _).symm
  | case6 p c p2 c2 _ _ ih => exact ih
  | case7 p c p2 c2 k v r2 h => rw [isNil_iff.mp h]; rfl
  | case8 p c p2 c2 k v r2 _ h => rw [isNil_iff.mp h]; rfl
  | case9 p c p2 c2 k v r2 _ _ ih => simp only [toList, ih, List.append_assoc]

/-- `deleteEntry` hands `mergeNodes` the link left of the deleted entry as a node of its own -/
theorem joinAt_eq_mergeRow (p : Bool) (c : T) {r : T} (h : r ≠ nil) : joinAt p c r = mergeRow (last p c) r := by
  cases r with
  | nil => exact absurd rfl h
  | _ => rfl

theorem toList_joinAt (p : Bool) (c : T) (r : T) (h : r ≠ nil) : toList (joinAt p c r) = toList c ++ toList r := by
  rw [joinAt_eq_mergeRow p c h, toList_mergeRow]; rfl

/-- the merged link of two present child links of the same level -/
theorem childOK_merge {d : Nat} {c c2 : T} (hc : ChildOK layer d c) (hc2 : ChildOK layer d c2)
    (h1 : c ≠ nil) (h2 : c2 ≠ nil) (ih : ∀ d', WF layer d' c → WF layer d' c2 → WF layer d' (mergeRow c c2)) :
    ChildOK layer d (mergeRow c c2) := by
  cases d with
  | zero => exact absurd (childOK_zero layer hc) h1
  | succ d =>
    obtain ⟨n1, w1, l1⟩ := ((childOK_succ layer).mp hc).resolve_left h1
    obtain ⟨_, w2, l2⟩ := ((childOK_succ layer).mp hc2).resolve_left h2
    refine childOK_of layer (ih d w1 w2) ?_ ?_ <;> rw [toList_mergeRow]
    · exact List.append_ne_nil_of_left_ne_nil (toList_ne_nil layer w1 n1) _
    · exact fun x hx => (List.mem_append.mp hx).elim (l1 x) (l2 x)

theorem mergeRow_WF (l r : T) (d : Nat) (h : WF layer d l) (hr : WF layer d r) : WF layer d (mergeRow l r) := by
  fun_induction mergeRow l r generalizing d with
  | case1 r => exact h.elim
  | case2 r p c k v rest ih => exact ⟨h.1, ih d h.2.1 hr, h.2.2⟩
  | case3 p c => exact hr.elim
  | case4 p c p2 c2 _ => exact hr
  | case5 p c p2 c2 _ _ => exact h
  | case6 p c p2 c2 h1 h2 ih => exact childOK_merge layer h hr (mt isNil_iff.mpr h1) (mt isNil_iff.mpr h2) ih
  | case7 p c p2 c2 k v r2 _ => exact hr
  | case8 p c p2 c2 k v r2 _ _ => exact ⟨hr.1, hr.2.1, h⟩
  | case9 p c p2 c2 k v r2 h1 h2 ih =>
    exact ⟨hr.1, hr.2.1, childOK_merge layer h hr.2.2 (mt isNil_iff.mpr h1) (mt isNil_iff.mpr h2) ih⟩

theorem joinAt_WF (p : Bool) (c r : T) (d : Nat) (hc : ChildOK layer d c) (hr : WF layer d r) :
    WF layer d (joinAt p c r) := by
  rw [joinAt_eq_mergeRow p c (WF_ne_nil layer hr)]; exact mergeRow_WF layer (last p c) r d hc hr

theorem childOK_del {d k : Nat} {c c' : T} (hc : ChildOK layer (d + 1) c)
    (hw : WF layer d c') (hl : toList c' = delL k (toList c)) : ChildOK layer (d + 1) (mk c') :=
  childOK_mk layer hw (fun e he => child_low layer hc e (mem_delL (hl ▸ he)))

theorem del_nil (k s : Nat) : del k s nil = none := by cases s <;> rfl

theorem del_cons_lt {k k' : Nat} (h : k' < k) (s : Nat) (p : Bool) (c : T) (v' : Nat) (r : T) :
    del k s (cons p c k' v' r) = (del k s r).map (cons p c k' v') := by
  cases s <;> simp only [del, if_pos h]

theorem del_spec (k : Nat) {tgt : Nat} (hk : tgt ≤ layer k) : ∀ (t : T) (s : Nat),
    t = nil ∨ WF layer (tgt + s) t → Sorted (toList t) → layer k ≤ tgt ∨ s = 0 →
    ∀ t', del k s t = some t' → toList t' = delL k (toList t) ∧ WF layer (tgt + s) t' := by
  refine descent_induction layer hk ?absent ?last_here ?last_down ?cons_lt ?cons_eq ?cons_gt_here ?cons_gt_down
  case absent => intro s _ t' h; rw [del_nil] at h; cases h
  case last_here => intro p c _ _ _ t' h; cases h
  case last_down =>
    intro s p c _ hc _ ih t' h
    obtain ⟨c', hc', rfl⟩ := Option.map_eq_some_iff.mp h
    obtain ⟨hl, hw⟩ := ih c' hc'
    exact ⟨(toList_mk c').trans hl, childOK_del layer hc hw hl⟩
  case cons_lt =>
    intro s p c k' v' r h hlt ih t' ht
    rw [del_cons_lt hlt] at ht
    obtain ⟨r', hr', rfl⟩ := Option.map_eq_some_iff.mp ht
    obtain ⟨hl, hw⟩ := ih r' hr'
    refine ⟨?_, h.key, hw, h.child⟩
    rw [toList, toList, hl, delL_append, delL_cons_ne (x := (k', v')) _ (Nat.ne_of_lt hlt),
      delL_of_not_mem k _ (fun e he => Nat.ne_of_lt (h.child_lt layer hlt e he))]
  case cons_eq =>
    intro p c v' r h t' ht
    simp only [del, Nat.lt_irrefl, if_false, if_true, Option.some.injEq] at ht
    subst ht
    refine ⟨?_, joinAt_WF layer p c r tgt h.child h.rest⟩
    rw [toList_joinAt p c r (WF_ne_nil layer h.rest), toList, delL_append, delL_cons_self, delL_of_not_mem k _ (fun e he => Nat.ne_of_lt (h.lt e he)),
      delL_of_not_mem k _ (fun e he => Nat.ne_of_gt (h.gt e he))]
  case cons_gt_here =>
    intro p c k' v' r _ hgt _ t' ht
    simp only [del, if_neg (Nat.lt_asymm hgt), if_neg (Nat.ne_of_gt hgt), reduceCtorEq] at ht
  case cons_gt_down =>
    intro s p c k' v' r h hgt _ ih t' ht
    simp only [del, if_neg (Nat.lt_asymm hgt), if_neg (Nat.ne_of_gt hgt)] at ht
    obtain ⟨c', hc', rfl⟩ := Option.map_eq_some_iff.mp ht
    obtain ⟨hl, hw⟩ := ih c' hc'
    refine ⟨?_, h.key, h.rest, childOK_del layer h.child hw hl⟩
    rw [toList, toList, toList_mk, hl, delL_append,
      delL_of_not_mem k (_ :: _) (fun e he => Nat.ne_of_gt (h.tail_gt layer hgt v' e he))]

theorem toList_del (k : Nat) (t : T) (s tgt : Nat) (t' : T)
    (h : WF layer (tgt + s) t) (hsrt : Sorted (toList t)) (hk : tgt ≤ layer k)
    (hs : layer k ≤ tgt ∨ s = 0) (hi : del k s t = some t') : toList t' = delL k (toList t) :=
  (del_spec layer k hk t s (Or.inr h) hsrt hs t' hi).1

theorem del_WF (k : Nat) (t : T) (s tgt : Nat) (t' : T)
    (h : WF layer (tgt + s) t) (hsrt : Sorted (toList t)) (hk : tgt ≤ layer k)
    (hs : layer k ≤ tgt ∨ s = 0) (hi : del k s t = some t') : WF layer (tgt + s) t' :=
  (del_spec layer k hk t s (Or.inr h) hsrt hs t' hi).2

theorem del_isSome_of_get (k : Nat) (t : T) (s : Nat) (v : Nat) (h : get k s t = some v) :
    (del k s t).isSome = true := by
  fun_induction del k s t with
  | case1 s => rw [get_nil] at h; cases h
  | case2 p c => cases h
  | case3 p c k' v' r hlt ih => rw [get, if_pos hlt] at h; rw [Option.isSome_map]; exact ih h
  | case4 p c v' r hlt => rfl
  | case5 p c k' v' r hlt hne => rw [get, if_neg hlt, if_neg hne] at h; cases h
  | case6 s p c ih => rw [Option.isSome_map]; exact ih h
  | case7 s p c k' v' r hlt ih => rw [get, if_pos hlt] at h; rw [Option.isSome_map]; exact ih h
  | case8 s p c v' r hlt => rw [get, if_neg hlt, if_pos rfl] at h; cases h
  | case9 s p c k' v' r hlt hne ih => rw [get, if_neg hlt, if_neg hne] at h; rw [Option.isSome_map]; exact ih h

end T
end Mast
