import Mastverif.Model.Diff
import Mastverif.Lemmas.Basic
/-!
# The literal `diffOne` refines the sorted-merge diff

`flat` reads a stack as the entry list it still stands for; `mu` is a termination measure.
`Step` is what one `diffOne` call does, as a relation; `step_spec` is the case analysis of `step` from
which the entry events (here) and the link events (`DiffLinks`, `DiffOnce`) are read off (`Step.ok`,
`run_entries`).  The same-link shortcut (`step_linkEq`, `run_same`) and `Opened.step` evaluate `step`
themselves.  The only assumption on link identity: links with equal names have equal contents.
-/
namespace Mast
namespace Diff
open T

def flat : List Item → List (Nat × Nat)
  | [] => []
  | Item.link _ t :: s => toList t ++ flat s
  | Item.yld k v :: s => (k, v) :: flat s

@[simp] theorem flat_append (a b : List Item) : flat (a ++ b) = flat a ++ flat b := by
  induction a with
  | nil => rfl
  | cons x a ih =>
    cases x with
    | link p t => exact (congrArg (toList t ++ ·) ih).trans (List.append_assoc ..).symm
    | yld k v => exact congrArg ((k, v) :: ·) ih

@[simp] theorem flat_linkItem (p : Bool) (c : T) : flat (linkItem p c) = toList c := by
  cases c
  · rfl
  · exact List.append_nil _
  · exact List.append_nil _

@[simp] theorem flat_items (t : T) : flat (items t) = toList t := by
  induction t with
  | nil => rfl
  | last p c _ => exact flat_linkItem p c
  | cons p c k v r _ ihr =>
    rw [items, flat_append, flat_linkItem, flat, ihr]; rfl

def wItem : Item → Nat
  | Item.link _ t => 1 + W t
  | Item.yld _ _ => 1

def mu (s : List Item) : Nat := (s.map wItem).sum

theorem mu_append (a b : List Item) : mu (a ++ b) = mu a + mu b := by simp [mu]

theorem mu_cons (x : Item) (s : List Item) : mu (x :: s) = wItem x + mu s := by simp [mu]

theorem mu_linkItem (p : Bool) (c : T) : mu (linkItem p c) ≤ 1 + W c := by
  cases c
  · exact Nat.zero_le _
  · exact Nat.le_refl _
  · exact Nat.le_refl _

theorem mu_items (t : T) : mu (items t) ≤ W t := by
  induction t with
  | nil => exact Nat.le_refl _
  | last p c _ => exact mu_linkItem p c
  | cons p c k v r _ ihr =>
    rw [items, mu_append, mu_cons]
    show _ ≤ 1 + W c + 1 + W r
    rw [Nat.add_assoc (1 + W c)]
    exact Nat.add_le_add (mu_linkItem p c) (Nat.add_le_add_left ihr 1)

theorem expand_lt (p : Bool) (t : T) (s : List Item) : mu (items t ++ s) < mu (Item.link p t :: s) := by
  rw [mu_append, mu_cons]
  exact Nat.add_lt_add_right (Nat.lt_of_le_of_lt (mu_items t) (Nat.lt_add_of_pos_left Nat.one_pos)) _

/-- sorted-merge specification of the entry diff -/
def diffL : List (Nat × Nat) → List (Nat × Nat) → List DEv
  | [], [] => []
  | [], (k, v) :: b => DEv.add k v :: diffL [] b
  | (k, v) :: a, [] => DEv.rem k v :: diffL a []
  | (k, v) :: a, (k', v') :: b =>
      if k < k' then DEv.rem k v :: diffL a ((k', v') :: b)
      else if k = k' then (if v = v' then diffL a b else DEv.chg k v v' :: diffL a b)
      else DEv.add k' v' :: diffL ((k, v) :: a) b
termination_by a b => a.length + b.length

theorem diffL_nil_nil : diffL [] [] = [] := by rw [diffL]
theorem diffL_nil_cons (k v b) : diffL [] ((k, v) :: b) = DEv.add k v :: diffL [] b := by rw [diffL]
theorem diffL_cons_nil (k v a) : diffL ((k, v) :: a) [] = DEv.rem k v :: diffL a [] := by rw [diffL]
theorem diffL_cons_cons (k v a k' v' b) : diffL ((k, v) :: a) ((k', v') :: b) =
    if k < k' then DEv.rem k v :: diffL a ((k', v') :: b)
    else if k = k' then (if v = v' then diffL a b else DEv.chg k v v' :: diffL a b)
    else DEv.add k' v' :: diffL ((k, v) :: a) b := by rw [diffL]

theorem diffL_prefix (p a b : List (Nat × Nat)) : diffL (p ++ a) (p ++ b) = diffL a b := by
  induction p with
  | nil => rfl
  | cons x p ih =>
    obtain ⟨k, v⟩ := x
    simp [diffL_cons_cons, ih]

/-- the entry events among the events of a step -/
def ents (l : List DEv) : List DEv := l.filter isEntryEv

@[simp] theorem ents_add (k v : Nat) : ents [DEv.add k v] = [DEv.add k v] := rfl
@[simp] theorem ents_rem (k v : Nat) : ents [DEv.rem k v] = [DEv.rem k v] := rfl
@[simp] theorem ents_chg (k a b : Nat) : ents [DEv.chg k a b] = [DEv.chg k a b] := rfl
@[simp] theorem ents_nil : ents [] = [] := rfl

variable (layer : Nat → Nat) (nameOf : T → List UInt8)

theorem ents_link_only (a b : List DEv) (ha : ∀ e ∈ a, isEntryEv e = false) (hb : ∀ e ∈ b, isEntryEv e = false) :
    ents (a ++ b) = [] := by
  simp only [ents, List.filter_append]
  rw [List.filter_eq_nil_iff.mpr (by intro e he; simp [ha e he]), List.filter_eq_nil_iff.mpr (by intro e he; simp [hb e he])]
  rfl

/-! ## One call of `diffOne`, branch by branch -/

/-- the names `alreadyNotified` lets through when it looks at a link -/
def rep (memo : Memo) (p : Bool) (t : T) : List (List UInt8) :=
  if (notified layer nameOf memo p t).1 = true then [] else [nameOf t]

/-- a side whose stack stays as it is: untouched, or its top link looked at by `alreadyNotified`
    (stack, memo before, memo after, names let through) -/
inductive Look : List Item → Memo → Memo → List (List UInt8) → Prop
  | keep {stack memo} : Look stack memo memo []
  | look {p t rest memo} :
      Look (Item.link p t :: rest) memo (notified layer nameOf memo p t).2.1 (rep layer nameOf memo p t)

/-- the link events of a call: removed names before added names -/
def linkEvs (ro rn : List (List UInt8)) : List DEv := ro.map DEv.remLink ++ rn.map DEv.addLink

/-- What `step` does, as a relation (loads left open): one step of the sorted merge, the same link
    dropped on both sides, or the top link of one side or of both opened; a single-link node is opened
    like any other (`items (last q c) = linkItem q c`).  The link events enter through an equation
    because the model writes them as `if … then [] else [·]` lists. -/
inductive Step : St → Option Out → Prop
  | stop {mo mn} : Step ⟨[], [], mo, mn⟩ none
  | addLast {k v ns mo mn} :
      Step ⟨[], .yld k v :: ns, mo, mn⟩ (some ⟨⟨[], ns, mo, mn⟩, [.add k v], []⟩)
  | remLast {k v os mo mn} :
      Step ⟨.yld k v :: os, [], mo, mn⟩ (some ⟨⟨os, [], mo, mn⟩, [.rem k v], []⟩)
  | rem {k v os k' v' ns mo mn} : k < k' →
      Step ⟨.yld k v :: os, .yld k' v' :: ns, mo, mn⟩ (some ⟨⟨os, .yld k' v' :: ns, mo, mn⟩, [.rem k v], []⟩)
  | both {k v os v' ns mo mn} :
      Step ⟨.yld k v :: os, .yld k v' :: ns, mo, mn⟩
        (some ⟨⟨os, ns, mo, mn⟩, if v = v' then [] else [.chg k v v'], []⟩)
  | add {k v os k' v' ns mo mn} : k' < k →
      Step ⟨.yld k v :: os, .yld k' v' :: ns, mo, mn⟩ (some ⟨⟨.yld k v :: os, ns, mo, mn⟩, [.add k' v'], []⟩)
  | same {pa a os pb b ns mo mn} : nameOf a = nameOf b →
      Step ⟨.link pa a :: os, .link pb b :: ns, mo, mn⟩ (some ⟨⟨os, ns, mo, mn⟩, [], []⟩)
  | openOld {p t os new mo mn mn' rn evs lds} : Look layer nameOf new mn mn' rn →
      evs = linkEvs (rep layer nameOf mo p t) rn →
      Step ⟨.link p t :: os, new, mo, mn⟩
        (some ⟨⟨items t ++ os, new, (notified layer nameOf mo p t).2.1, mn'⟩, evs, lds⟩)
  | openNew {old p t ns mo mn mo' ro evs lds} : Look layer nameOf old mo mo' ro →
      evs = linkEvs ro (rep layer nameOf mn p t) →
      Step ⟨old, .link p t :: ns, mo, mn⟩
        (some ⟨⟨old, items t ++ ns, mo', (notified layer nameOf mn p t).2.1⟩, evs, lds⟩)
  | openBoth {pa a os pb b ns mo mn evs lds} :
      evs = linkEvs (rep layer nameOf mo pa a) (rep layer nameOf mn pb b) →
      Step ⟨.link pa a :: os, .link pb b :: ns, mo, mn⟩
        (some ⟨⟨items a ++ os, items b ++ ns, (notified layer nameOf mo pa a).2.1,
          (notified layer nameOf mn pb b).2.1⟩, evs, lds⟩)

theorem evs_old (c : Bool) (n : List UInt8) :
    (if c = true then [] else [DEv.remLink n]) = linkEvs (if c = true then [] else [n]) [] := by
  cases c <;> rfl

theorem evs_new (c : Bool) (n : List UInt8) :
    (if c = true then [] else [DEv.addLink n]) = linkEvs [] (if c = true then [] else [n]) := by
  cases c <;> rfl

theorem evs_both (c1 c2 : Bool) (n1 n2 : List UInt8) :
    (if c1 = true then [] else [DEv.remLink n1]) ++ (if c2 = true then [] else [DEv.addLink n2]) =
      linkEvs (if c1 = true then [] else [n1]) (if c2 = true then [] else [n2]) := by
  cases c1 <;> cases c2 <;> rfl

/-- the tests `isPass` and `firstKey` are decided by the shape of the row -/
theorem step_spec (s : St) : Step layer nameOf s (step layer nameOf s) := by
  obtain ⟨old, new, mo, mn⟩ := s
  cases old with
  | nil =>
    cases new with
    | nil => exact .stop
    | cons y ns =>
      cases y with
      | link p t => exact .openNew .keep (evs_new _ _)
      | yld k v => exact .addLast
  | cons x os =>
    cases x with
    | yld k v =>
      cases new with
      | nil => exact .remLast
      | cons y ns =>
        cases y with
        | link p t => exact .openNew .keep (evs_new _ _)
        | yld k' v' =>
          show Step layer nameOf _ (ite (k < k') _ _)
          by_cases h1 : k < k'
          · rw [if_pos h1]; exact .rem h1
          · rw [if_neg h1]
            by_cases h2 : k = k'
            · subst h2; rw [if_pos rfl]; exact .both
            · rw [if_neg h2]; exact .add (Nat.lt_of_le_of_ne (Nat.le_of_not_lt h1) (Ne.symm h2))
    | link pa a =>
      cases new with
      | nil => exact .openOld .keep (evs_old _ _)
      | cons y ns =>
        cases y with
        | yld k v => exact .openOld .keep (evs_old _ _)
        | link pb b =>
          show Step layer nameOf _ (ite (linkEq nameOf pa a pb b = true) _ _)
          by_cases he : linkEq nameOf pa a pb b = true
          · rw [if_pos he]; exact .same (eq_of_beq (Bool.and_eq_true_iff.mp he).2)
          · rw [if_neg he]
            cases a with
            | last q c => exact .openOld .look (evs_both _ _ _ _)
            | nil =>
              cases b with
              | last q c => exact .openNew .look (evs_both _ _ _ _)
              | nil => exact .openBoth (evs_both _ _ _ _)
              | cons q c k v r => exact .openBoth (evs_both _ _ _ _)
            | cons qa ca ka va ra =>
              cases b with
              | last q c => exact .openNew .look (evs_both _ _ _ _)
              | nil => exact .openBoth (evs_both _ _ _ _)
              | cons qb cb kb vb rb =>
                show Step layer nameOf _ (ite (ka < kb) _ _)
                by_cases h1 : ka < kb
                · rw [if_pos h1]; exact .openOld .look (evs_both _ _ _ _)
                · rw [if_neg h1]
                  by_cases h2 : kb < ka
                  · rw [if_pos h2]; exact .openNew .look (evs_both _ _ _ _)
                  · rw [if_neg h2]; exact .openBoth (evs_both _ _ _ _)

theorem step_none {s : St} (h : step layer nameOf s = none) : s.old = [] ∧ s.new = [] := by
  have hs := step_spec layer nameOf s
  rw [h] at hs
  cases hs
  exact ⟨rfl, rfl⟩

theorem ents_linkEvs (ro rn : List (List UInt8)) : ents (linkEvs ro rn) = [] :=
  ents_link_only _ _ (fun _ he => by obtain ⟨_, _, rfl⟩ := List.mem_map.mp he; rfl)
    (fun _ he => by obtain ⟨_, _, rfl⟩ := List.mem_map.mp he; rfl)

theorem mu_pop (x : Item) (s : List Item) : mu s < mu (x :: s) := by
  rw [mu_cons]
  cases x
  · exact Nat.lt_add_of_pos_left (Nat.add_pos_left Nat.one_pos _)
  · exact Nat.lt_add_of_pos_left Nat.one_pos

theorem flat_open (p : Bool) (t : T) (s : List Item) : flat (items t ++ s) = flat (Item.link p t :: s) := by
  rw [flat_append, flat_items]; rfl

def StepOK (s : St) (r : Option Out) : Prop :=
  match r with
  | none => flat s.old = [] ∧ flat s.new = []
  | some o =>
      diffL (flat s.old) (flat s.new) = ents o.evs ++ diffL (flat o.st.old) (flat o.st.new) ∧
      mu o.st.old + mu o.st.new < mu s.old + mu s.new ∧ Sorted (flat o.st.old) ∧ Sorted (flat o.st.new)

theorem Step.ok (hle : ∀ a b, nameOf a = nameOf b → toList a = toList b) {s : St} {r : Option Out}
    (h : Step layer nameOf s r) (ho : Sorted (flat s.old)) (hn : Sorted (flat s.new)) : StepOK s r := by
  cases h with
  | stop => exact And.intro rfl rfl
  | addLast => exact And.intro (diffL_nil_cons _ _ _) ⟨Nat.add_lt_add_left (mu_pop _ _) _, ho, sorted_tail hn⟩
  | remLast => exact And.intro (diffL_cons_nil _ _ _) ⟨Nat.add_lt_add_right (mu_pop _ _) _, sorted_tail ho, hn⟩
  | rem h1 =>
    exact And.intro ((diffL_cons_cons ..).trans (if_pos h1)) ⟨Nat.add_lt_add_right (mu_pop _ _) _, sorted_tail ho, hn⟩
  | add h1 =>
    exact And.intro ((diffL_cons_cons ..).trans ((if_neg (Nat.lt_asymm h1)).trans (if_neg (Nat.ne_of_gt h1))))
      ⟨Nat.add_lt_add_left (mu_pop _ _) _, ho, sorted_tail hn⟩
  | @both k v os v' ns =>
    refine And.intro ?_ ⟨Nat.add_lt_add (mu_pop _ _) (mu_pop _ _), sorted_tail ho, sorted_tail hn⟩
    refine (diffL_cons_cons ..).trans ((if_neg (Nat.lt_irrefl k)).trans ((if_pos rfl).trans ?_))
    by_cases h3 : v = v' <;> simp only [h3, if_true, if_false] <;> rfl
  | @same pa a os pb b ns _ _ hnm =>
    have e : toList a = toList b := hle a b hnm
    refine And.intro ?_ ⟨?_, (sorted_append ho).2.1, (sorted_append hn).2.1⟩
    · show diffL (toList a ++ flat os) (toList b ++ flat ns) = _
      rw [e, diffL_prefix]; rfl
    · exact Nat.add_lt_add (mu_pop _ _) (mu_pop _ _)
  | openOld _ hev =>
    subst hev
    exact And.intro (by rw [ents_linkEvs, flat_open]; rfl)
      ⟨Nat.add_lt_add_right (expand_lt _ _ _) _, by rw [flat_open]; exact ho, hn⟩
  | openNew _ hev =>
    subst hev
    exact And.intro (by rw [ents_linkEvs, flat_open]; rfl)
      ⟨Nat.add_lt_add_left (expand_lt _ _ _) _, ho, by rw [flat_open]; exact hn⟩
  | openBoth hev =>
    subst hev
    exact And.intro (by rw [ents_linkEvs, flat_open, flat_open]; rfl)
      ⟨Nat.add_lt_add (expand_lt _ _ _) (expand_lt _ _ _), by rw [flat_open]; exact ho, by rw [flat_open]; exact hn⟩

/-! ## The loop -/

theorem run_none {s : St} (h : step layer nameOf s = none) (f : Nat) : run layer nameOf (f + 1) s = ([], []) := by
  rw [run, h]

theorem run_some {s : St} {o : Out} (h : step layer nameOf s = some o) (f : Nat) :
    run layer nameOf (f + 1) s = (o.evs ++ (run layer nameOf f o.st).1, o.loads ++ (run layer nameOf f o.st).2) := by
  rw [run, h]

theorem step_ok (hle : ∀ a b, nameOf a = nameOf b → toList a = toList b)
    (s : St) (ho : Sorted (flat s.old)) (hn : Sorted (flat s.new)) :
    StepOK s (step layer nameOf s) :=
  (step_spec layer nameOf s).ok layer nameOf hle ho hn

theorem run_entries (hle : ∀ a b, nameOf a = nameOf b → toList a = toList b) :
    ∀ (f : Nat) (s : St), Sorted (flat s.old) → Sorted (flat s.new) →
    ∃ rest, diffL (flat s.old) (flat s.new) = ents (run layer nameOf f s).1 ++ rest ∧
      (mu s.old + mu s.new < f → rest = []) := by
  intro f
  induction f with
  | zero => exact fun s _ _ => ⟨_, rfl, fun h => absurd h (Nat.not_lt_zero _)⟩
  | succ f ih =>
    intro s ho hn
    have hs := step_ok layer nameOf hle s ho hn
    cases hst : step layer nameOf s with
    | none =>
      rw [hst] at hs
      exact ⟨[], by rw [run_none layer nameOf hst, hs.1, hs.2, diffL_nil_nil]; rfl, fun _ => rfl⟩
    | some o =>
      rw [hst] at hs
      rw [run_some layer nameOf hst]
      obtain ⟨h1, h2, h3, h4⟩ := hs
      obtain ⟨rest, e, hr⟩ := ih o.st h3 h4
      refine ⟨rest, ?_, fun hf => hr (Nat.lt_of_lt_of_le h2 (Nat.le_of_lt_succ hf))⟩
      rw [h1, e, ← List.append_assoc]
      exact congrArg (· ++ rest) (List.filter_append ..).symm

theorem run_correct (hle : ∀ a b, nameOf a = nameOf b → toList a = toList b)
    (f : Nat) (s : St) (ho : Sorted (flat s.old)) (hn : Sorted (flat s.new))
    (hf : mu s.old + mu s.new < f) : ents (run layer nameOf f s).1 = diffL (flat s.old) (flat s.new) := by
  obtain ⟨rest, e, hr⟩ := run_entries layer nameOf hle f s ho hn
  rw [e, hr hf, List.append_nil]

/-! ## The initial stacks; the same persisted link on both sides -/

theorem rootItems_cases (p : Bool) (t : T) : rootItems p t = [] ∨ rootItems p t = [Item.link p t] := by
  unfold rootItems
  split
  · exact Or.inl rfl
  · exact Or.inl rfl
  · exact Or.inr rfl

theorem flat_rootItems (p : Bool) (t : T) : flat (rootItems p t) = toList t := by
  unfold rootItems
  split <;> simp [flat, toList]

theorem mu_rootItems (p : Bool) (t : T) : mu (rootItems p t) ≤ 1 + W t := by
  rcases rootItems_cases p t with h | h <;> rw [h]
  · exact Nat.zero_le _
  · exact Nat.le_refl _

def oldEntries : Option (Bool × T) → List (Nat × Nat)
  | some (_, t) => toList t
  | none => []

def oldWeight : Option (Bool × T) → Nat
  | some (_, t) => 1 + W t
  | none => 0

theorem linkEq_self (t : T) : linkEq nameOf true t true t = true := beq_self_eq_true (nameOf t)

theorem step_linkEq {s : St} {pa pb : Bool} {a b : T} {os ns : List Item}
    (ho : s.old = Item.link pa a :: os) (hn : s.new = Item.link pb b :: ns)
    (he : linkEq nameOf pa a pb b = true) :
    step layer nameOf s = some ⟨{ s with old := os, new := ns }, [], []⟩ := by
  obtain ⟨_, _, mo, mn⟩ := s
  subst ho hn
  exact if_pos he

/-- every call drops a common link or a common entry -/
theorem run_same : ∀ (f : Nat) (st : List Item) (mo mn : Memo), (∀ p t, Item.link p t ∈ st → p = true) →
    run layer nameOf f ⟨st, st, mo, mn⟩ = ([], []) := by
  intro f
  induction f with
  | zero => intros; rfl
  | succ f ih =>
    intro st mo mn hp
    cases st with
    | nil => rfl
    | cons x os =>
      have hos : ∀ p t, Item.link p t ∈ os → p = true := fun p t h => hp p t (List.mem_cons_of_mem _ h)
      have hst : step layer nameOf ⟨x :: os, x :: os, mo, mn⟩ = some ⟨⟨os, os, mo, mn⟩, [], []⟩ := by
        cases x with
        | link p t =>
          cases hp p t (List.mem_cons_self ..)
          exact step_linkEq layer nameOf rfl rfl (linkEq_self nameOf t)
        | yld k v =>
          show ite (k < k) _ _ = _
          rw [if_neg (Nat.lt_irrefl k), if_pos rfl, if_pos rfl]
      rw [run_some layer nameOf hst]
      exact ih os mo mn hos

theorem run_same_version (t : T) (fuel : Nat) :
    run layer nameOf fuel (init (some (true, t)) true t) = ([], []) := by
  refine run_same layer nameOf fuel (rootItems true t) [] [] fun p u h => ?_
  rcases rootItems_cases true t with e | e <;> rw [e] at h
  · cases h
  · cases List.mem_singleton.mp h; rfl

/-! ## Two different links on top (what `Lemmas/RefDiff.lean` compares the object-level code with) -/

theorem chain_of_firstKey {p : Bool} {t : T} {k : Nat} (h : firstKey t = some k) :
    (chain layer p t).1 = some (layer k) := by
  cases t with
  | cons q c k' v r => cases h; rfl
  | nil => cases h
  | last q c => cases h

/-- which of two different top links `diffOne` opens, by the rows they stand for: a single-link node
    first (the old one before the new one), otherwise the side with the smaller first key, or both -/
inductive Opened (pa : Bool) (ta : T) (Lot : List Item) (pb : Bool) (tb : T) (Lnt : List Item) :
    List Item → List Item → Prop
  | passOld (q : Bool) (c : T) : ta = last q c → Opened pa ta Lot pb tb Lnt (items ta ++ Lot) (Item.link pb tb :: Lnt)
  | passNew (q : Bool) (c : T) : isPass ta = none → tb = last q c →
      Opened pa ta Lot pb tb Lnt (Item.link pa ta :: Lot) (items tb ++ Lnt)
  | lt (ka kb : Nat) : isPass ta = none → isPass tb = none → firstKey ta = some ka → firstKey tb = some kb → ka < kb →
      Opened pa ta Lot pb tb Lnt (items ta ++ Lot) (Item.link pb tb :: Lnt)
  | gt (ka kb : Nat) : isPass ta = none → isPass tb = none → firstKey ta = some ka → firstKey tb = some kb →
      ¬ ka < kb → kb < ka → Opened pa ta Lot pb tb Lnt (Item.link pa ta :: Lot) (items tb ++ Lnt)
  | eq (ka kb : Nat) : isPass ta = none → isPass tb = none → firstKey ta = some ka → firstKey tb = some kb →
      ¬ ka < kb → ¬ kb < ka → Opened pa ta Lot pb tb Lnt (items ta ++ Lot) (items tb ++ Lnt)

theorem Opened.ok {pa pb : Bool} {ta tb : T} {Lot Lnt Lo' Ln' : List Item} (h : Opened pa ta Lot pb tb Lnt Lo' Ln') :
    flat Lo' = flat (Item.link pa ta :: Lot) ∧ flat Ln' = flat (Item.link pb tb :: Lnt) ∧
      mu Lo' + mu Ln' < mu (Item.link pa ta :: Lot) + mu (Item.link pb tb :: Lnt) := by
  cases h with
  | passOld | lt => exact ⟨flat_open .., rfl, Nat.add_lt_add_right (expand_lt ..) _⟩
  | passNew | gt => exact ⟨rfl, flat_open .., Nat.add_lt_add_left (expand_lt ..) _⟩
  | eq => exact ⟨flat_open .., flat_open .., Nat.add_lt_add (expand_lt ..) (expand_lt ..)⟩

theorem Opened.step {pa pb : Bool} {ta tb : T} {Lot Lnt Lo' Ln' : List Item}
    (MO MN : Memo) (h : Opened pa ta Lot pb tb Lnt Lo' Ln') (hne : linkEq nameOf pa ta pb tb = false) :
    ∃ lds, Diff.step layer nameOf { old := Item.link pa ta :: Lot, new := Item.link pb tb :: Lnt, memoOld := MO, memoNew := MN } =
      some { st := { old := Lo', new := Ln', memoOld := (notified layer nameOf MO pa ta).2.1,
                     memoNew := (notified layer nameOf MN pb tb).2.1 },
             evs := (if (notified layer nameOf MO pa ta).1 then [] else [DEv.remLink (nameOf ta)]) ++
               (if (notified layer nameOf MN pb tb).1 then [] else [DEv.addLink (nameOf tb)]),
             loads := lds } := by
  -- `step` is unfolded in an equation for its value before the case split: unfolding it in every case is slow
  obtain ⟨R, hR⟩ : ∃ R, R = Diff.step layer nameOf
      { old := Item.link pa ta :: Lot, new := Item.link pb tb :: Lnt, memoOld := MO, memoNew := MN } := ⟨_, rfl⟩
  rw [← hR]
  simp only [Diff.step, hne, Bool.false_eq_true, if_false] at hR
  cases h with
  | passOld q c hta => subst hta; exact ⟨_, hR⟩
  | passNew q c hpa htb => subst htb; rw [hpa] at hR; exact ⟨_, hR⟩
  | lt ka kb hpa hpb hfa hfb h1 => simp only [hpa, hpb, hfa, hfb, if_pos h1] at hR; exact ⟨_, hR⟩
  | gt ka kb hpa hpb hfa hfb h1 h2 => simp only [hpa, hpb, hfa, hfb, if_neg h1, if_pos h2] at hR; exact ⟨_, hR⟩
  | eq ka kb hpa hpb hfa hfb h1 h2 => simp only [hpa, hpb, hfa, hfb, if_neg h1, if_neg h2] at hR; exact ⟨_, hR⟩

end Diff
end Mast
