import Mastverif.Lemmas.DiffNames
import Mastverif.Lemmas.DiffOnce
import Mastverif.Lemmas.CursorFwd
/-!
# The hypotheses of `run_once`, discharged for well-formed trees with content names

In a tree with strictly ascending entries and no entry-less childless node below the top
(`Solid`), every node leads to a key, and — with collision-free content names — distinct nodes
have distinct names: two nodes with the same name have the same entries and the same number of
nodes below; so neither lies below the other (the counts would differ), and they do not hang off
different links of one row (their entries would be disjoint and non-empty).
-/
namespace Mast
namespace T

/-- what holds of a node `x` below a row `t` without entry-less childless nodes -/
structure Below (x t : T) : Prop where
  solid : Solid x
  notNil : x.isNil = false
  notEmpty : isEmptyRow x = false
  fewer : (nodesBelow x).length < (nodesBelow t).length
  entries : ∀ e ∈ toList x, e ∈ toList t

theorem Below.mono {x t t' : T} (h : Below x t) (hl : (nodesBelow t).length ≤ (nodesBelow t').length)
    (he : ∀ e ∈ toList t, e ∈ toList t') : Below x t' :=
  ⟨h.solid, h.notNil, h.notEmpty, Nat.lt_of_lt_of_le h.fewer hl, fun e h' => he e (h.entries e h')⟩

theorem below_link {p : Bool} {c : T} (ih : Solid c → ∀ x ∈ nodesBelow c, Below x c) (hs : Solid (last p c)) :
    ∀ x ∈ nodesBelow (last p c), Below x (last p c) := by
  intro x hx
  cases hc : c.isNil with
  | true => rw [nodesBelow, hc] at hx; cases hx
  | false =>
    have e : nodesBelow (last p c) = c :: nodesBelow c := by rw [nodesBelow, hc]; rfl
    have hl : (nodesBelow c).length < (nodesBelow (last p c)).length := e ▸ Nat.lt_succ_self _
    rcases List.mem_cons.mp (e ▸ hx) with rfl | hx
    · exact ⟨hs.2, hc, hs.1.resolve_left (hc ▸ Bool.false_ne_true), hl, fun _ h => h⟩
    · exact (ih hs.2 x hx).mono (Nat.le_of_lt hl) fun _ h => h

theorem nodesBelow_props : ∀ (t : T), Solid t → ∀ x ∈ nodesBelow t, Below x t := by
  intro t
  induction t with
  | nil => intro _ x hx; cases hx
  | last p c ih => exact below_link ih
  | cons p c k v r ihc ihr =>
    intro hs x hx
    rcases List.mem_append.mp (show x ∈ nodesBelow (last p c) ++ nodesBelow r from hx) with hx | hx
    · exact (below_link ihc ⟨hs.1, hs.2.1⟩ x hx).mono (List.length_append ▸ Nat.le_add_right _ _)
        fun _ h => List.mem_append_left _ h
    · exact (ihr hs.2.2 x hx).mono (List.length_append ▸ Nat.le_add_left _ _)
        fun _ h => List.mem_append_right _ (List.mem_cons_of_mem _ h)

theorem chain_some (layer : Nat → Nat) : ∀ (x : T) (q : Bool), Solid x → x.isNil = false → isEmptyRow x = false →
    ∃ h, (Diff.chain layer q x).1 = some h := by
  intro x
  induction x with
  | nil => intro q _ h; cases h
  | last p c ih =>
    intro q hs _ hne
    have hc : c.isNil = false := by
      cases c with
      | nil => cases hne
      | _ => rfl
    exact ih p hs.2 hc (hs.1.resolve_left (hc ▸ Bool.false_ne_true))
  | cons p c k v r _ _ => intro q _ _ _; exact ⟨layer k, rfl⟩

theorem names_nodup (e : Enc) (hnc : NoCollision e)
    (hk : Function.Injective e.keyB) (hv : Function.Injective e.valB) :
    ∀ (t : T), Solid t → Sorted (toList t) → ((nodesBelow t).map (nodeName e)).Nodup := by
  -- a name determines the number of nodes below, so no node has the name of a node below it
  have link : ∀ (p : Bool) (c : T), Solid (last p c) → ((nodesBelow c).map (nodeName e)).Nodup →
      ((nodesBelow (last p c)).map (nodeName e)).Nodup := by
    intro p c hs hn
    cases hc : c.isNil with
    | true => rw [nodesBelow, hc]; exact List.nodup_nil
    | false =>
      rw [nodesBelow, hc]
      refine List.nodup_cons.mpr ⟨fun hmem => ?_, hn⟩
      obtain ⟨x, hx, hxn⟩ := List.mem_map.mp hmem
      have hl := congrArg List.length (rowB_eq_below e hnc x c (hnc x c hxn))
      rw [List.length_map, List.length_map] at hl
      exact Nat.lt_irrefl _ (hl ▸ (nodesBelow_props c hs.2 x hx).fewer)
  intro t
  induction t with
  | nil => intro _ _; exact List.nodup_nil
  | last p c ih => exact fun hs hsrt => link p c hs (ih hs.2 hsrt)
  | cons p c k v r ihc ihr =>
    intro hs hsrt
    obtain ⟨sc, sr, hcr⟩ := sorted_append (show Sorted (toList c ++ (k, v) :: toList r) from hsrt)
    have hsl : Solid (last p c) := ⟨hs.1, hs.2.1⟩
    show ((nodesBelow (last p c) ++ nodesBelow r).map (nodeName e)).Nodup
    rw [List.map_append]
    refine List.nodup_append.mpr ⟨link p c hsl (ihc hs.2.1 sc), ihr hs.2.2 (sorted_tail sr), ?_⟩
    -- x hangs off the left link, y lies in the rest of the row: they cannot share an entry
    intro n1 h1 n2 h2 heq
    obtain ⟨x, hx, hxn⟩ := List.mem_map.mp h1
    obtain ⟨y, hy, hyn⟩ := List.mem_map.mp h2
    have hxy : toList x = toList y := name_eq_toList e hnc hk hv x y (hxn.trans (heq.trans hyn.symm))
    have bx := nodesBelow_props _ hsl x hx
    have by' := nodesBelow_props r hs.2.2 y hy
    obtain ⟨e0, he0⟩ := List.exists_mem_of_ne_nil _ (toList_ne_nil_of_solid y by'.solid by'.notEmpty by'.notNil)
    exact Nat.lt_irrefl _ (hcr e0 (bx.entries e0 (hxy ▸ he0)) e0 (List.mem_cons_of_mem _ (by'.entries e0 he0)))

end T

namespace Diff
open T

theorem versionNodes_cases (p : Bool) (t : T) : versionNodes p t = [] ∨
    (versionNodes p t = nodesBelow (last false t) ∧ (t.isNil = true ∨ isEmptyRow t = false)) := by
  cases t with
  | nil => exact Or.inl rfl
  | last q c =>
    cases c with
    | nil => exact Or.inl rfl
    | last _ _ => exact Or.inr ⟨List.append_nil _, Or.inr rfl⟩
    | cons _ _ _ _ _ => exact Or.inr ⟨List.append_nil _, Or.inr rfl⟩
  | cons _ _ _ _ _ => exact Or.inr ⟨List.append_nil _, Or.inr rfl⟩

theorem oinv_root (layer : Nat → Nat) (e : Enc) (hnc : NoCollision e)
    (hk : Function.Injective e.keyB) (hv : Function.Injective e.valB)
    (p : Bool) (t : T) (hs : Solid t) (hsrt : Sorted (toList t)) :
    OInv layer (nodeName e) (rootItems p t) [] [] := by
  rcases versionNodes_cases p t with h | ⟨h, hne⟩
  · exact init_once layer _ p t (h ▸ List.nodup_nil) (h ▸ fun _ hx => nomatch hx)
  · have hs' : Solid (last false t) := ⟨hne, hs⟩
    refine init_once layer _ p t (h ▸ names_nodup e hnc hk hv _ hs' hsrt) ?_
    rw [h]
    intro x hx q
    have b := nodesBelow_props _ hs' x hx
    exact chain_some layer x q b.solid b.notNil b.notEmpty

end Diff
end Mast
