import Mastverif.Lemmas.Diff
/-!
# The link reports of the literal `diffOne`: within, complete

`nodesBelow t` lists the nodes below a row; `pend stack` the nodes a stack still stands for.
By `Step`, a call does one of four things to a side: leave or look at its top link, open its top
link (after looking at it), pop an entry, or drop a link it has in common with the other side.
`Side` / `Trans` say that a pair of predicates on a side (its stack, its `alreadyNotified` memo,
the names reported so far) survives these; `run_sides` carries such a pair through the run.
`SInv` is such a predicate; when both stacks are empty it is `Final` (`run_links`).
Assumption on link identity (as for the entry diff): equal names ⇒ the same names below.
-/
namespace Mast
namespace T

def nodesBelow : T → List T
  | nil => []
  | last _ c => if c.isNil then [] else c :: nodesBelow c
  | cons _ c _ _ r => (if c.isNil then [] else c :: nodesBelow c) ++ nodesBelow r

end T

namespace Diff
open T

abbrev Name := List UInt8

def pend : List Item → List T
  | [] => []
  | Item.link _ t :: s => t :: nodesBelow t ++ pend s
  | Item.yld _ _ :: s => pend s

@[simp] theorem pend_append (a b : List Item) : pend (a ++ b) = pend a ++ pend b := by
  induction a with
  | nil => rfl
  | cons x a ih =>
    cases x with
    | link p t => exact (congrArg (t :: nodesBelow t ++ ·) ih).trans (List.append_assoc ..).symm
    | yld k v => exact ih

theorem pend_linkItem (p : Bool) (c : T) : pend (linkItem p c) = nodesBelow (last p c) := by
  cases c
  · rfl
  · exact List.append_nil _
  · exact List.append_nil _

theorem items_last (q : Bool) (c : T) : items (last q c) = linkItem q c := rfl

@[simp] theorem pend_items (t : T) : pend (items t) = nodesBelow t := by
  induction t with
  | nil => rfl
  | last p c _ => exact pend_linkItem p c
  | cons p c k v r _ ihr =>
    rw [items, pend_append, pend_linkItem, pend, ihr]; rfl

def adds : List DEv → List Name
  | [] => []
  | DEv.addLink n :: l => n :: adds l
  | _ :: l => adds l

def rems : List DEv → List Name
  | [] => []
  | DEv.remLink n :: l => n :: rems l
  | _ :: l => rems l

theorem adds_append (a b : List DEv) : adds (a ++ b) = adds a ++ adds b := by
  induction a with
  | nil => rfl
  | cons x a ih =>
    cases x with
    | addLink n => exact congrArg (n :: ·) ih
    | _ => exact ih

theorem rems_append (a b : List DEv) : rems (a ++ b) = rems a ++ rems b := by
  induction a with
  | nil => rfl
  | cons x a ih =>
    cases x with
    | remLink n => exact congrArg (n :: ·) ih
    | _ => exact ih

theorem adds_linkEvs (ro rn : List Name) : adds (linkEvs ro rn) = rn := by
  induction ro with
  | cons _ _ ih => exact ih
  | nil =>
    induction rn with
    | nil => rfl
    | cons n _ ih => exact congrArg (n :: ·) ih

theorem rems_linkEvs (ro rn : List Name) : rems (linkEvs ro rn) = ro := by
  induction ro with
  | cons n _ ih => exact congrArg (n :: ·) ih
  | nil =>
    induction rn with
    | nil => rfl
    | cons _ _ ih => exact ih

variable (layer : Nat → Nat) (nameOf : T → Name)
variable {Mine : List T} {Other : List Name} {p : Bool} {t : T} {rest : List Item} {memo : Memo} {R : List Name}

theorem memoGet_mem {m : Memo} {h : Nat} {n : Name} (hg : memoGet m h = some n) : ∃ e ∈ m, e.2 = n := by
  unfold memoGet at hg
  cases hf : m.find? (fun e => e.1 == h) with
  | none => simp [hf] at hg
  | some e =>
    simp only [hf, Option.some.injEq] at hg
    exact ⟨e, List.mem_of_find?_eq_some hf, hg⟩

theorem memoSet_mem {m : Memo} {h : Nat} {n : Name} {e} (he : e ∈ memoSet m h n) : e = (h, n) ∨ e ∈ m := by
  unfold memoSet at he
  simp only [List.mem_cons, List.mem_filter] at he
  rcases he with he | he
  · exact Or.inl he
  · exact Or.inr he.1

section
variable {layer nameOf}

theorem notified_none (h : (chain layer p t).1 = none) :
    notified layer nameOf memo p t = (false, memo, loadsOf nameOf (chain layer p t).2) := by
  unfold notified; simp only [h]

-- `hh % 256`: diff.go keeps the memo of `alreadyNotified` in an array indexed by the layer as a `uint8`
theorem notified_hit {hh : Nat} (h : (chain layer p t).1 = some hh)
    (hg : memoGet memo (hh % 256) = some (nameOf t)) :
    notified layer nameOf memo p t = (true, memo, loadsOf nameOf (chain layer p t).2) := by
  unfold notified; simp only [h, hg, BEq.rfl, if_true]

theorem notified_miss {hh : Nat} (h : (chain layer p t).1 = some hh)
    (hg : memoGet memo (hh % 256) ≠ some (nameOf t)) :
    notified layer nameOf memo p t =
      (false, memoSet memo (hh % 256) (nameOf t), loadsOf nameOf (chain layer p t).2) := by
  unfold notified; simp only [h, beq_iff_eq, hg, if_false]

end

theorem notified_spec (memo : Memo) (p : Bool) (t : T) :
    (nameOf t ∈ rep layer nameOf memo p t ∨ ∃ e ∈ memo, e.2 = nameOf t) ∧
    (∀ e ∈ (notified layer nameOf memo p t).2.1, e ∈ memo ∨ e.2 = nameOf t) := by
  unfold rep
  cases hc : (chain layer p t).1 with
  | none => rw [notified_none hc]; exact ⟨Or.inl (List.mem_singleton_self _), fun e he => Or.inl he⟩
  | some hh =>
    by_cases hg : memoGet memo (hh % 256) = some (nameOf t)
    · rw [notified_hit hc hg]; exact ⟨Or.inr (memoGet_mem hg), fun e he => Or.inl he⟩
    · rw [notified_miss hc hg]
      refine ⟨Or.inl (List.mem_singleton_self _), fun e he => ?_⟩
      rcases memoSet_mem he with rfl | he
      · exact Or.inr rfl
      · exact Or.inl he

/-! ## Invariants of one side, and of both -/

/-- a predicate on one side (stack, memo, names reported so far) that survives whatever a call does to a
    side that is not dropped -/
structure Side (P : List Item → Memo → List Name → Prop) : Prop where
  look : ∀ {p t rest memo R}, P (Item.link p t :: rest) memo R →
    P (Item.link p t :: rest) (notified layer nameOf memo p t).2.1 (R ++ rep layer nameOf memo p t) ∧
    nameOf t ∈ R ++ rep layer nameOf memo p t
  opn : ∀ {p t rest memo R}, P (Item.link p t :: rest) memo R → nameOf t ∈ R → P (items t ++ rest) memo R
  pop : ∀ {k v rest memo R}, P (Item.yld k v :: rest) memo R → P rest memo R

section
variable {layer nameOf}

theorem Side.ofLook {P} (sd : Side layer nameOf P) {stack memo memo' r R}
    (hl : Look layer nameOf stack memo memo' r) (h : P stack memo R) : P stack memo' (R ++ r) := by
  cases hl with
  | keep => rw [List.append_nil]; exact h
  | look => exact (sd.look h).1

theorem Side.opened {P} (sd : Side layer nameOf P) {p t rest memo R} (h : P (Item.link p t :: rest) memo R) :
    P (items t ++ rest) (notified layer nameOf memo p t).2.1 (R ++ rep layer nameOf memo p t) :=
  sd.opn (sd.look h).1 (sd.look h).2

end

/-- side predicates of the new and of the old version that also survive the dropping of a common link -/
structure Trans (Pn Po : List Item → Memo → List Name → Prop) : Prop where
  new : Side layer nameOf Pn
  old : Side layer nameOf Po
  drop : ∀ {pa a os mo Rr pb b ns mn Ra}, Pn (Item.link pb b :: ns) mn Ra → Po (Item.link pa a :: os) mo Rr →
    nameOf a = nameOf b → Pn ns mn Ra ∧ Po os mo Rr

/-- every branch of `diffOne` moves each side by look / open / pop / drop -/
theorem step_generic {Pn Po : List Item → Memo → List Name → Prop} (tr : Trans layer nameOf Pn Po)
    {s : St} {o : Out} (h : Step layer nameOf s (some o)) {Ra Rr : List Name}
    (hn : Pn s.new s.memoNew Ra) (ho : Po s.old s.memoOld Rr) :
    Pn o.st.new o.st.memoNew (Ra ++ adds o.evs) ∧ Po o.st.old o.st.memoOld (Rr ++ rems o.evs) := by
  cases h with
  | addLast => simp only [adds, rems, List.append_nil]; exact ⟨tr.new.pop hn, ho⟩
  | remLast => simp only [adds, rems, List.append_nil]; exact ⟨hn, tr.old.pop ho⟩
  | rem _ => simp only [adds, rems, List.append_nil]; exact ⟨hn, tr.old.pop ho⟩
  | add _ => simp only [adds, rems, List.append_nil]; exact ⟨tr.new.pop hn, ho⟩
  | both =>
    simp only [apply_ite adds, apply_ite rems, adds, rems, ite_self, List.append_nil]
    exact ⟨tr.new.pop hn, tr.old.pop ho⟩
  | same hnm => simp only [adds, rems, List.append_nil]; exact tr.drop hn ho hnm
  | openOld hl hev =>
    subst hev; rw [adds_linkEvs, rems_linkEvs]
    exact ⟨tr.new.ofLook hl hn, tr.old.opened ho⟩
  | openNew hl hev =>
    subst hev; rw [adds_linkEvs, rems_linkEvs]
    exact ⟨tr.new.opened hn, tr.old.ofLook hl ho⟩
  | openBoth hev =>
    subst hev; rw [adds_linkEvs, rems_linkEvs]
    exact ⟨tr.new.opened hn, tr.old.opened ho⟩

/-- `s'` is the state in which the run stops -/
theorem run_sides {Pn Po : List Item → Memo → List Name → Prop} (tr : Trans layer nameOf Pn Po) :
    ∀ (f : Nat) (s : St) (Ra Rr : List Name), Pn s.new s.memoNew Ra → Po s.old s.memoOld Rr →
    ∃ s' : St, Pn s'.new s'.memoNew (Ra ++ adds (run layer nameOf f s).1) ∧
      Po s'.old s'.memoOld (Rr ++ rems (run layer nameOf f s).1) ∧
      ((∀ a b, nameOf a = nameOf b → toList a = toList b) → Sorted (flat s.old) → Sorted (flat s.new) →
        mu s.old + mu s.new < f → s'.old = [] ∧ s'.new = []) := by
  intro f
  induction f with
  | zero =>
    intro s Ra Rr hn ho
    refine ⟨s, ?_, ?_, fun _ _ _ h => absurd h (Nat.not_lt_zero _)⟩
    · simp only [run, adds, List.append_nil]; exact hn
    · simp only [run, rems, List.append_nil]; exact ho
  | succ f ih =>
    intro s Ra Rr hn ho
    have hsp := step_spec layer nameOf s
    cases hst : step layer nameOf s with
    | none =>
      rw [run_none layer nameOf hst]
      refine ⟨s, ?_, ?_, fun _ _ _ _ => step_none layer nameOf hst⟩
      · simp only [adds, List.append_nil]; exact hn
      · simp only [rems, List.append_nil]; exact ho
    | some o =>
      rw [hst] at hsp
      rw [run_some layer nameOf hst]
      obtain ⟨h1, h2⟩ := step_generic layer nameOf tr hsp hn ho
      obtain ⟨s', i1, i2, i3⟩ := ih o.st _ _ h1 h2
      refine ⟨s', ?_, ?_, ?_⟩
      · rw [adds_append, ← List.append_assoc]; exact i1
      · rw [rems_append, ← List.append_assoc]; exact i2
      · intro hle so sn hf
        obtain ⟨_, m, so', sn'⟩ := hsp.ok layer nameOf hle so sn
        exact i3 hle so' sn' (Nat.lt_of_lt_of_le m (Nat.le_of_lt_succ hf))

/-! ## The link reports are within the versions and complete -/

/-- one side of the traversal: what is pending belongs to the version; every node of the version
    is reported, pending, or known to the other version by name; the memo holds reported names only;
    every report names a node of the version -/
structure SInv (Mine : List T) (Other : List Name) (stack : List Item) (memo : Memo) (R : List Name) : Prop where
  pending : ∀ x ∈ pend stack, x ∈ Mine
  covered : ∀ x ∈ Mine, nameOf x ∈ R ∨ x ∈ pend stack ∨ nameOf x ∈ Other
  remembered : ∀ e ∈ memo, e.2 ∈ R
  within : ∀ n ∈ R, n ∈ Mine.map nameOf

theorem report_pres (h : SInv nameOf Mine Other (Item.link p t :: rest) memo R) :
    SInv nameOf Mine Other (Item.link p t :: rest) (notified layer nameOf memo p t).2.1
        (R ++ rep layer nameOf memo p t) ∧
    nameOf t ∈ R ++ rep layer nameOf memo p t := by
  obtain ⟨s1, s2⟩ := notified_spec layer nameOf memo p t
  have hin : nameOf t ∈ R ++ rep layer nameOf memo p t := by
    rcases s1 with h1 | ⟨e, he, hen⟩
    · exact List.mem_append_right _ h1
    · exact List.mem_append_left _ (hen ▸ h.remembered e he)
  refine ⟨⟨h.pending, ?_, ?_, ?_⟩, hin⟩
  · intro x hx
    rcases h.covered x hx with h1 | h1
    · exact Or.inl (List.mem_append_left _ h1)
    · exact Or.inr h1
  · intro e he
    rcases s2 e he with h1 | h2
    · exact List.mem_append_left _ (h.remembered e h1)
    · exact h2 ▸ hin
  · intro n hn
    rcases List.mem_append.mp hn with hn | hn
    · exact h.within n hn
    · unfold rep at hn
      split at hn
      · cases hn
      · cases List.mem_singleton.mp hn
        exact List.mem_map_of_mem (h.pending t (List.mem_cons_self ..))

theorem open_pres (h : SInv nameOf Mine Other (Item.link p t :: rest) memo R) (hr : nameOf t ∈ R) :
    SInv nameOf Mine Other (items t ++ rest) memo R := by
  have e : pend (Item.link p t :: rest) = t :: pend (items t ++ rest) := by
    rw [pend_append, pend_items]; rfl
  refine ⟨fun x hx => h.pending x (e ▸ List.mem_cons_of_mem _ hx), ?_, h.remembered, h.within⟩
  intro x hx
  rcases h.covered x hx with h1 | h1 | h1
  · exact Or.inl h1
  · rcases List.mem_cons.mp (e ▸ h1) with rfl | h1
    · exact Or.inl hr
    · exact Or.inr (Or.inl h1)
  · exact Or.inr (Or.inr h1)

theorem sinv_side (Mine : List T) (Other : List Name) : Side layer nameOf (SInv nameOf Mine Other) where
  look := report_pres layer nameOf
  opn := open_pres nameOf
  pop := fun h => ⟨h.pending, h.covered, h.remembered, h.within⟩

theorem drop_pres (h : SInv nameOf Mine Other (Item.link p t :: rest) memo R)
    (ho : ∀ x ∈ t :: nodesBelow t, nameOf x ∈ Other) : SInv nameOf Mine Other rest memo R := by
  refine ⟨fun x hx => h.pending x (List.mem_append_right (t :: nodesBelow t) hx), ?_, h.remembered, h.within⟩
  intro x hx
  rcases h.covered x hx with h1 | h1 | h1
  · exact Or.inl h1
  · rcases List.mem_append.mp (show x ∈ (t :: nodesBelow t) ++ pend rest from h1) with h1 | h1
    · exact Or.inr (Or.inr (ho x h1))
    · exact Or.inr (Or.inl h1)
  · exact Or.inr (Or.inr h1)

/-- equal names ⇒ the same names below (collision-freeness; discharged for the real encoder in
    `Lemmas/DiffNames.lean`) -/
def SameBelow : Prop :=
  ∀ a b : T, nameOf a = nameOf b → ∀ x ∈ nodesBelow b, ∃ y ∈ nodesBelow a, nameOf y = nameOf x

/-- a link of one version whose name is the name of a pending link of the other -/
theorem known_below {nameOf : T → Name} (hsb : SameBelow nameOf) {a b : T}
    (h : SInv nameOf Mine Other (Item.link p a :: rest) memo R) (hnm : nameOf a = nameOf b) :
    ∀ x ∈ b :: nodesBelow b, nameOf x ∈ Mine.map nameOf := by
  intro x hx
  rcases List.mem_cons.mp hx with rfl | hx
  · exact hnm ▸ List.mem_map_of_mem (h.pending a (List.mem_cons_self ..))
  · obtain ⟨y, hy, hyn⟩ := hsb a b hnm x hx
    exact hyn ▸ List.mem_map_of_mem
      (h.pending y (List.mem_append_left _ (List.mem_cons_of_mem _ hy)))

theorem sinv_trans (hsb : SameBelow nameOf) (ON NN : List T) :
    Trans layer nameOf (SInv nameOf NN (ON.map nameOf)) (SInv nameOf ON (NN.map nameOf)) where
  new := sinv_side layer nameOf _ _
  old := sinv_side layer nameOf _ _
  drop := fun hn ho hnm =>
    ⟨drop_pres nameOf hn (known_below hsb ho hnm), drop_pres nameOf ho (known_below hsb hn hnm.symm)⟩

theorem sinv_init (Mine : List T) (Other : List Name) (stack : List Item) (h : Mine = pend stack) :
    SInv nameOf Mine Other stack [] [] :=
  ⟨fun _ hx => h ▸ hx, fun _ hx => Or.inr (Or.inl (h ▸ hx)), fun _ hx => (nomatch hx), fun _ hx => (nomatch hx)⟩

structure Final (ON NN : List T) (Ra Rr : List Name) : Prop where
  complete_added : ∀ x ∈ NN, nameOf x ∈ Ra ∨ nameOf x ∈ ON.map nameOf
  complete_removed : ∀ x ∈ ON, nameOf x ∈ Rr ∨ nameOf x ∈ NN.map nameOf
  within_added : ∀ n ∈ Ra, n ∈ NN.map nameOf
  within_removed : ∀ n ∈ Rr, n ∈ ON.map nameOf

theorem Final.covers {nameOf : T → Name} {ON NN : List T} {Ra Rr : List Name} (h : Final nameOf ON NN Ra Rr)
    (store : List Name) (hold : ∀ x ∈ ON, nameOf x ∈ store) (hadd : ∀ n ∈ Ra, n ∈ store) :
    ∀ x ∈ NN, nameOf x ∈ store := by
  intro x hx
  rcases h.complete_added x hx with h1 | h1
  · exact hadd _ h1
  · obtain ⟨y, hy, hyn⟩ := List.mem_map.mp h1
    exact hyn ▸ hold y hy

theorem SInv.done {nameOf : T → Name}
    (h : SInv nameOf Mine Other [] memo R) : ∀ x ∈ Mine, nameOf x ∈ R ∨ nameOf x ∈ Other := by
  intro x hx
  rcases h.covered x hx with h1 | h1 | h1
  · exact Or.inl h1
  · cases h1
  · exact Or.inr h1

theorem run_links (hle : ∀ a b, nameOf a = nameOf b → toList a = toList b) (hsb : SameBelow nameOf)
    (ON NN : List T) (f : Nat) (s : St) (Ra Rr : List Name)
    (hn : SInv nameOf NN (ON.map nameOf) s.new s.memoNew Ra) (ho : SInv nameOf ON (NN.map nameOf) s.old s.memoOld Rr)
    (so : Sorted (flat s.old)) (sn : Sorted (flat s.new)) (hf : mu s.old + mu s.new < f) :
    Final nameOf ON NN (Ra ++ adds (run layer nameOf f s).1) (Rr ++ rems (run layer nameOf f s).1) := by
  obtain ⟨s', h1, h2, h3⟩ := run_sides layer nameOf (sinv_trans layer nameOf hsb ON NN) f s Ra Rr hn ho
  obtain ⟨e1, e2⟩ := h3 hle so sn hf
  rw [e2] at h1; rw [e1] at h2
  exact ⟨h1.done, h2.done, h1.within, h2.within⟩

/-- the nodes of a version: the top node and everything below (none for an empty tree) -/
def versionNodes (p : Bool) (t : T) : List T := pend (rootItems p t)

/-- the nodes of the old version (none when diffing against nothing) -/
def oldNodes : Option (Bool × T) → List T
  | none => []
  | some (p, t) => versionNodes p t

theorem oldNodes_init (oldRoot : Option (Bool × T)) (newP : Bool) (newRoot : T) :
    oldNodes oldRoot = pend (init oldRoot newP newRoot).old := by
  cases oldRoot <;> rfl

end Diff
end Mast
