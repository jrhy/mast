import Mastverif.Lemmas.Names
import Mastverif.Lemmas.DiffLinks
/-!
# The identity assumptions of the diff theorems, discharged for content names

With `nameOf := nodeName e` (the hash of the node's bytes) and the collision-freeness hypothesis
`NoCollision e`, equal names give equal node descriptions, hence equal entries (`name_eq_toList`)
and equal names below (`sameBelow_of_noCollision`).
-/
namespace Mast
namespace T

/-- the nodes hanging off one link, `nodesBelow (last p c)`, are determined by the link's name -/
theorem SameLink.below_eq {e : Enc} {p p2 : Bool} {c c2 : T}
    (h : SameLink e (fun a b => (nodesBelow a).map (nodeName e) = (nodesBelow b).map (nodeName e)) c c2) :
    (nodesBelow (last p c)).map (nodeName e) = (nodesBelow (last p2 c2)).map (nodeName e) := by
  cases h with
  | nil => rfl
  | node hc hc2 hn hb =>
    simp only [nodesBelow, hc, hc2]
    show nodeName e c :: (nodesBelow c).map _ = nodeName e c2 :: (nodesBelow c2).map _
    rw [hn, hb]

theorem rowB_eq_below (e : Enc) (hnc : NoCollision e) :
    ∀ t1 t2 : T, rowB e t1 = rowB e t2 → (nodesBelow t1).map (nodeName e) = (nodesBelow t2).map (nodeName e) :=
  rowB_eq_induction e hnc (P := fun a b => (nodesBelow a).map (nodeName e) = (nodesBelow b).map (nodeName e)) rfl
    (fun _ _ _ _ hl => hl.below_eq)
    fun p c _ _ r p2 c2 _ _ r2 _ _ hl hr => by
      show (nodesBelow (last p c) ++ nodesBelow r).map _ = (nodesBelow (last p2 c2) ++ nodesBelow r2).map _
      rw [List.map_append, List.map_append, hl.below_eq, hr]

end T

namespace Diff
open T

theorem sameBelow_of_noCollision (e : Enc) (hnc : NoCollision e) : SameBelow (nodeName e) := by
  intro a b hn x hx
  have := rowB_eq_below e hnc a b (hnc a b hn)
  have hx' : nodeName e x ∈ (nodesBelow b).map (nodeName e) := List.mem_map.mpr ⟨x, hx, rfl⟩
  rw [← this] at hx'
  obtain ⟨y, hy, hyn⟩ := List.mem_map.mp hx'
  exact ⟨y, hy, hyn⟩

end Diff
end Mast
