import Mastverif.Lemmas.DiffLinks
/-!
# Each node is reported at most once

`alreadyNotified` remembers, per layer of the first key below a link, the last name it reported.
A link is re-considered only while it stays on top of its stack, and nothing else of its side is
reported in between, so the memo still holds its name; once opened or dropped it never comes back.
`OInv` is the side invariant that says so.
Hypotheses: distinct nodes of a version have distinct names, and every node leads to a key
(true of well-formed trees: no entry-less childless node below the top).
-/
namespace Mast
namespace Diff
open T

variable (layer : Nat → Nat) (nameOf : T → Name)
variable {p : Bool} {t : T} {rest : List Item} {memo : Memo} {R : List Name}

theorem memoGet_memoSet (m : Memo) (h : Nat) (n : Name) : memoGet (memoSet m h n) h = some n := by
  simp [memoGet, memoSet]

/-- one side of the traversal, for "at most once"; `c` is `SInv.remembered` -/
structure OInv (stack : List Item) (memo : Memo) (R : List Name) : Prop where
  c : ∀ e ∈ memo, e.2 ∈ R
  e : ((pend stack).map nameOf).Nodup
  f : R.Nodup
  /-- a reported name that is still pending is the top link, and the memo holds it at the slot of its layer -/
  g : ∀ n ∈ R, n ∈ (pend stack).map nameOf → ∃ p t rest h, stack = Item.link p t :: rest ∧ n = nameOf t ∧
        (chain layer p t).1 = some h ∧ memoGet memo (h % 256) = some n
  /-- every pending node leads to a key -/
  k : ∀ x ∈ pend stack, ∀ p, ∃ h, (chain layer p x).1 = some h

theorem once_report
    (h : OInv layer nameOf (Item.link p t :: rest) memo R) :
    OInv layer nameOf (Item.link p t :: rest) (notified layer nameOf memo p t).2.1
        (R ++ rep layer nameOf memo p t) ∧
    nameOf t ∈ R ++ rep layer nameOf memo p t := by
  obtain ⟨hh, hch⟩ := h.k t (List.mem_cons_self ..) p
  have htop : nameOf t ∈ (pend (Item.link p t :: rest)).map nameOf :=
    List.mem_map_of_mem (List.mem_cons_self ..)
  by_cases hg : memoGet memo (hh % 256) = some (nameOf t)
  · have e1 := notified_hit (nameOf := nameOf) hch hg
    obtain ⟨e, he, hen⟩ := memoGet_mem hg
    rw [show rep layer nameOf memo p t = [] from if_pos (by rw [e1]), e1, List.append_nil]
    exact ⟨h, hen ▸ h.c e he⟩
  · have e1 := notified_miss (nameOf := nameOf) hch hg
    -- a reported name that is still pending is remembered by the memo
    have hnotin : nameOf t ∉ R := by
      intro hin
      obtain ⟨_, _, _, h', hst, _, hc', hm⟩ := h.g _ hin htop
      cases hst
      cases hch.symm.trans hc'
      exact hg hm
    rw [show rep layer nameOf memo p t = [nameOf t] from if_neg (by rw [e1]; exact Bool.false_ne_true), e1]
    refine ⟨⟨?_, h.e, ?_, ?_, h.k⟩, List.mem_append_right _ (List.mem_singleton_self _)⟩
    · intro e he
      rcases memoSet_mem he with rfl | he
      · exact List.mem_append_right _ (List.mem_singleton_self _)
      · exact List.mem_append_left _ (h.c e he)
    · refine List.nodup_append.mpr ⟨h.f, List.nodup_cons.mpr ⟨List.not_mem_nil, List.nodup_nil⟩, fun a ha b hb => ?_⟩
      cases List.mem_singleton.mp hb
      exact fun heq => hnotin (heq ▸ ha)
    · intro n hn hp
      rcases List.mem_append.mp hn with hn | hn
      · obtain ⟨_, _, _, _, hst, hnt, _⟩ := h.g n hn hp
        cases hst
        exact absurd (hnt ▸ hn) hnotin
      · cases List.mem_singleton.mp hn
        exact ⟨p, t, rest, hh, rfl, rfl, hch, memoGet_memoSet _ _ _⟩

/-- the top link leaves the stack for good: what is pending afterwards was below it or behind it, so no
    pending name is its name, and no reported name is pending any more -/
theorem once_leave {stack' : List Item}
    (h : OInv layer nameOf (Item.link p t :: rest) memo R)
    (hsub : (pend stack').Sublist (nodesBelow t ++ pend rest)) : OInv layer nameOf stack' memo R := by
  have he : nameOf t ∉ (nodesBelow t ++ pend rest).map nameOf ∧ ((nodesBelow t ++ pend rest).map nameOf).Nodup :=
    List.nodup_cons.mp h.e
  have hsub' : (pend stack').Sublist (pend (Item.link p t :: rest)) := hsub.trans (List.sublist_cons_self _ _)
  refine ⟨h.c, (hsub.map nameOf).nodup he.2, h.f, ?_, fun x hx => h.k x (hsub'.subset hx)⟩
  intro n hn hp
  obtain ⟨_, _, _, _, hst, hnt, _⟩ := h.g n hn ((hsub'.map nameOf).subset hp)
  cases hst
  exact absurd ((hsub.map nameOf).subset (hnt ▸ hp)) he.1

theorem once_open
    (h : OInv layer nameOf (Item.link p t :: rest) memo R) (_ : nameOf t ∈ R) :
    OInv layer nameOf (items t ++ rest) memo R :=
  once_leave layer nameOf h (by rw [pend_append, pend_items]; exact List.Sublist.refl _)

theorem once_pop {k v : Nat}
    (h : OInv layer nameOf (Item.yld k v :: rest) memo R) : OInv layer nameOf rest memo R := by
  refine ⟨h.c, h.e, h.f, ?_, h.k⟩
  intro n hn hp
  obtain ⟨_, _, _, _, hst, _⟩ := h.g n hn hp
  cases hst

theorem oinv_trans : Trans layer nameOf (OInv layer nameOf) (OInv layer nameOf) where
  new := ⟨once_report layer nameOf, once_open layer nameOf, once_pop layer nameOf⟩
  old := ⟨once_report layer nameOf, once_open layer nameOf, once_pop layer nameOf⟩
  drop := fun hn ho _ => ⟨once_leave layer nameOf hn (List.sublist_append_right _ _),
    once_leave layer nameOf ho (List.sublist_append_right _ _)⟩

theorem run_once (f : Nat) (s : St) (Ra Rr : List Name)
    (hn : OInv layer nameOf s.new s.memoNew Ra) (ho : OInv layer nameOf s.old s.memoOld Rr) :
    (Ra ++ adds (run layer nameOf f s).1).Nodup ∧ (Rr ++ rems (run layer nameOf f s).1).Nodup := by
  obtain ⟨_, h1, h2, _⟩ := run_sides layer nameOf (oinv_trans layer nameOf) f s Ra Rr hn ho
  exact ⟨h1.f, h2.f⟩

theorem init_once (p : Bool) (t : T) (hd : ((versionNodes p t).map nameOf).Nodup)
    (hk : ∀ x ∈ versionNodes p t, ∀ q, ∃ h, (chain layer q x).1 = some h) :
    OInv layer nameOf (rootItems p t) [] [] :=
  ⟨fun _ h => (nomatch h), hd, List.nodup_nil, fun _ h => (nomatch h), hk⟩

end Diff
end Mast
