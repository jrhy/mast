import Mastverif.Model.Backends
/-! Lemmas about the key-value contract and the step model of the file store. -/
namespace Mast

namespace KV

theorem load_store (s : Store) (name : String) (b : Bytes) : load (store s name b) name = some b := by
  simp [store, load]

theorem find_filter_ne (s : Store) (name other : String) (h : other ≠ name) :
    (s.filter (fun e => e.1 != name)).find? (fun e => e.1 == other) = s.find? (fun e => e.1 == other) := by
  rw [List.find?_filter]
  congr 1
  funext e
  cases ho : e.1 == other with
  | false => exact decide_eq_false fun h => Bool.false_ne_true h.2
  | true => exact decide_eq_true ⟨by rw [eq_of_beq ho]; exact bne_iff_ne.mpr h, rfl⟩

theorem load_store_other (s : Store) (name other : String) (b : Bytes) (h : other ≠ name) :
    load (store s name b) other = load s other := by
  have hb : (name == other) = false := beq_eq_false_iff_ne.mpr (fun e => h e.symm)
  simp only [store, load, List.find?_cons, hb]
  rw [find_filter_ne s name other h]

theorem load_foldl_store (ops : List (String × Bytes)) (name : String) (h : ∀ op ∈ ops, op.1 ≠ name) :
    ∀ s : Store, load (ops.foldl (fun s op => store s op.1 op.2) s) name = load s name := by
  induction ops with
  | nil => intro s; rfl
  | cons op ops ih =>
    intro s
    rw [List.foldl_cons, ih fun o ho => h o (List.mem_cons_of_mem _ ho),
      load_store_other s op.1 name op.2 fun e => h op List.mem_cons_self e.symm]

end KV

namespace FS

theorem storeCut_fresh (d : Dir) (name : String) (bytes : Bytes) (cut : Nat) (hfresh : KV.load d name = none) :
    storeCut d name bytes cut =
      if cut < 1 + 1 + bytes.length + 1 + 1 then
        if cut ≥ 2 then (name ++ ".tmp-x", bytes.take (cut - 2)) :: d else d
      else KV.store d name bytes := by
  unfold storeCut
  rw [hfresh]
  rfl

theorem storeCut_present (d : Dir) (name : String) (bytes b : Bytes) (cut : Nat)
    (h : KV.load d name = some b) : storeCut d name bytes cut = d := by
  unfold storeCut
  rw [h]
  rfl

/-- the temp file lives under a name that is not the node's -/
theorem load_temp (d : Dir) (name : String) (part : Bytes) :
    KV.load ((name ++ ".tmp-x", part) :: d) name = KV.load d name := by
  have hne : (name ++ ".tmp-x" == name) = false := by
    rw [beq_eq_false_iff_ne]
    intro h
    have := congrArg String.length h
    simp [String.length_append] at this
  simp only [KV.load, List.find?_cons, hne]

theorem load_storeCut (d : Dir) (name : String) (bytes : Bytes) (cut : Nat) :
    KV.load (storeCut d name bytes cut) name = KV.load d name ∨
    KV.load (storeCut d name bytes cut) name = some bytes := by
  cases h : KV.load d name with
  | some b => rw [storeCut_present d name bytes b cut h]; exact Or.inl h
  | none =>
    rw [storeCut_fresh d name bytes cut h]
    by_cases h1 : cut < 1 + 1 + bytes.length + 1 + 1
    · rw [if_pos h1]
      by_cases h2 : cut ≥ 2
      · rw [if_pos h2]; exact Or.inl ((load_temp d name _).trans h)
      · rw [if_neg h2]; exact Or.inl h
    · rw [if_neg h1]; exact Or.inr (KV.load_store d name bytes)

theorem success_complete (d : Dir) (name : String) (bytes : Bytes)
    (hfresh : KV.load d name = none) :
    KV.load (storeCut d name bytes (complete name bytes)) name = some bytes := by
  rw [storeCut_fresh d name bytes _ hfresh, if_neg, KV.load_store]
  rw [Nat.add_comm (1 + 1)]
  exact Nat.lt_irrefl _

theorem repair_after_cut (d : Dir) (name : String) (bytes : Bytes) (cut : Nat)
    (hfresh : KV.load d name = none) :
    KV.load (storeCut (storeCut d name bytes cut) name bytes (complete name bytes)) name = some bytes := by
  rcases load_storeCut d name bytes cut with h | h
  · exact success_complete _ name bytes (h.trans hfresh)
  · rw [storeCut_present _ name bytes bytes _ h]; exact h

end FS
end Mast
