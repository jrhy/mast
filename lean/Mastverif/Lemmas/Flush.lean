import Mastverif.Model.Flush
/-! Invariant of the flush worker pool over all interleavings. -/
namespace Mast.MF

structure Inv (n pool : Nat) (s : S) : Prop where
  disp : s.dIdle + s.dHold + s.dNil + s.dExit = 1
  wgEq : s.wg = s.dIdle + s.dHold + s.dNil + s.nStart + s.nCalling + s.nExit
  sent : s.toSend + s.dHold + s.nStart + s.nCalling + s.okDone + s.errDone + s.skipped = n
  gateEq : s.gate + s.nStart + s.nCalling + s.nExit + s.dExit = pool
  errs : s.firstErr = 0 → s.errDone = 0 ∧ s.skipped = 0
  closedSend : s.closed = 1 → s.toSend = 0
  nilClosed : s.dNil + s.dExit > 0 → s.closed = 1
  retd : s.returned = 1 → s.closed = 1 ∧ s.wg = 0

theorem inv_init (n pool) : Inv n pool (start n pool) := by
  constructor <;> simp [start]

/- Every transition moves tokens between a few counters; the fields it does not touch are handed on, and
   each of the others is one linear fact from the old field and the guard of the transition. -/
theorem inv_step {n pool s s'} (h : Inv n pool s) (st : Step s s') : Inv n pool s' := by
  cases st with
  | send a b c =>
    exact ⟨by have := h.disp; simp only []; omega, by have := h.wgEq; simp only []; omega,
      by have := h.sent; simp only []; omega, h.gateEq, h.errs, fun h1 => by simp only [] at h1; omega, h.nilClosed, h.retd⟩
  | close a b => exact ⟨h.disp, h.wgEq, h.sent, h.gateEq, h.errs, fun _ => a, fun _ => rfl, fun h1 => ⟨rfl, (h.retd h1).2⟩⟩
  | recvClose a b =>
    exact ⟨by have := h.disp; simp only []; omega, by have := h.wgEq; simp only []; omega, h.sent, h.gateEq, h.errs,
      h.closedSend, fun _ => a, h.retd⟩
  | spawn a b =>
    exact ⟨by have := h.disp; simp only []; omega, by have := h.wgEq; simp only []; omega,
      by have := h.sent; simp only []; omega, by have := h.gateEq; simp only []; omega, h.errs, h.closedSend, h.nilClosed,
      fun h1 => by have := h.wgEq; have := h.retd h1; simp only []; omega⟩
  | dispExit a b =>
    exact ⟨by have := h.disp; simp only []; omega, by have := h.wgEq; simp only []; omega, h.sent,
      by have := h.gateEq; simp only []; omega, h.errs, h.closedSend, fun _ => h.nilClosed (by omega),
      fun h1 => by have := h.retd h1; simp only []; omega⟩
  | checkSkip a b =>
    exact ⟨h.disp, by have := h.wgEq; simp only []; omega, by have := h.sent; simp only []; omega,
      by have := h.gateEq; simp only []; omega, fun h1 => by simp only [] at h1; omega, h.closedSend, h.nilClosed, h.retd⟩
  | checkGo a b =>
    exact ⟨h.disp, by have := h.wgEq; simp only []; omega, by have := h.sent; simp only []; omega,
      by have := h.gateEq; simp only []; omega, h.errs, h.closedSend, h.nilClosed, h.retd⟩
  | storeOk a =>
    exact ⟨h.disp, by have := h.wgEq; simp only []; omega, by have := h.sent; simp only []; omega,
      by have := h.gateEq; simp only []; omega, h.errs, h.closedSend, h.nilClosed, h.retd⟩
  | storeErr a =>
    exact ⟨h.disp, by have := h.wgEq; simp only []; omega, by have := h.sent; simp only []; omega,
      by have := h.gateEq; simp only []; omega, fun h1 => absurd h1 (Nat.succ_ne_zero 0), h.closedSend, h.nilClosed, h.retd⟩
  | workerExit a =>
    exact ⟨h.disp, by have := h.wgEq; simp only []; omega, h.sent, by have := h.gateEq; simp only []; omega, h.errs,
      h.closedSend, h.nilClosed, fun h1 => by have := h.retd h1; simp only []; omega⟩
  | waitReturn a b c => exact ⟨h.disp, h.wgEq, h.sent, h.gateEq, h.errs, h.closedSend, h.nilClosed, fun _ => ⟨a, b⟩⟩

theorem inv_reach {n pool s} (r : Reach n pool s) : Inv n pool s := by
  induction r with
  | init => exact inv_init n pool
  | step _ st ih => exact inv_step ih st

end Mast.MF
