import Mastverif.Lemmas.Spec
import Mastverif.Lemmas.WF
/-! `get` refines `getL`. -/
namespace Mast
namespace T
variable (layer : Nat → Nat)

theorem get_nil (k s : Nat) : get k s nil = none := by cases s <;> rfl

theorem get_cons_lt {k k' : Nat} (h : k' < k) (s : Nat) (p : Bool) (c : T) (v' : Nat) (r : T) :
    get k s (cons p c k' v' r) = get k s r := by
  cases s <;> simp only [get, if_pos h]

theorem get_eq_getL (k : Nat) {tgt : Nat} (hk : tgt ≤ layer k) : ∀ (t : T) (s : Nat),
    t = nil ∨ WF layer (tgt + s) t → Sorted (toList t) → layer k ≤ tgt ∨ s = 0 →
    get k s t = getL k (toList t) := by
  refine descent_induction layer hk ?absent ?last_here ?last_down ?cons_lt ?cons_eq ?cons_gt_here ?cons_gt_down
  case absent => intro s _; exact get_nil k s
  case last_here => intro p c _ _ hne; exact (getL_none_iff.mpr hne).symm
  case last_down => intro s p c _ _ _ ih; exact ih
  case cons_lt =>
    intro s p c k' v' r h hlt ih
    rw [get_cons_lt hlt, ih, toList, getL_append_lt _ _ (h.child_lt layer hlt), getL_cons_ne _ (Nat.ne_of_lt hlt)]
  case cons_eq =>
    intro p c v' r h
    rw [toList, getL_append_lt _ _ h.lt, getL_cons_self]
    simp only [get, Nat.lt_irrefl, if_false, if_true]
  case cons_gt_here =>
    intro p c k' v' r h hgt hne
    rw [toList, getL_append_none _ _ (fun e he => Nat.ne_of_gt (h.tail_gt layer hgt v' e he)), getL_none_iff.mpr hne]
    simp only [get, if_neg (Nat.lt_asymm hgt), if_neg (Nat.ne_of_gt hgt)]
  case cons_gt_down =>
    intro s p c k' v' r h hgt _ ih
    rw [toList, getL_append_none _ _ (fun e he => Nat.ne_of_gt (h.tail_gt layer hgt v' e he)), ← ih]
    simp only [get, if_neg (Nat.lt_asymm hgt), if_neg (Nat.ne_of_gt hgt)]

end T
end Mast
