import Mastverif.Lemmas.Del
/-!
# `grow` and `shrink` keep the entries and re-establish the shape one level up / down
-/
namespace Mast
namespace T
variable (layer : Nat → Nat)

theorem unmk_WF {h : Nat} {c : T} (hc : ChildOK layer (h + 1) c) : WF layer h (unmk c) := by
  cases c with
  | nil => exact Or.inl rfl
  | last p x => exact hc.wf layer nofun
  | cons p x k v r => exact hc.wf layer nofun

theorem toList_snoc (k v : Nat) (rest : T) : ∀ c, toList (snoc k v rest c) = toList c ++ (k, v) :: toList rest := by
  intro c; induction c with
  | nil => rfl
  | last p x _ => rfl
  | cons p c k' v' r _ ihr => rw [snoc, toList, ihr, toList, List.append_assoc, List.cons_append]

theorem toList_shrink : ∀ t, toList (shrink t) = toList t := by
  intro t; induction t with
  | nil => rfl
  | last p c _ => exact toList_unmk c
  | cons p c k v r _ ihr => rw [shrink, toList_snoc, ihr, toList]

theorem snoc_WF {h : Nat} {k v : Nat} {rest : T} (hk : h ≤ layer k) (hrest : WF layer h rest) :
    ∀ (c : T), ChildOK layer (h + 1) c → WF layer h (snoc k v rest c) := by
  have row : ∀ (c : T), WF layer h c → WF layer h (snoc k v rest c) := by
    intro c
    induction c with
    | nil => exact False.elim
    | last p x _ => intro hw; exact ⟨hk, hrest, hw⟩
    | cons p c' k' v' r' _ ihr => intro hw; exact ⟨hw.1, ihr hw.2.1, hw.2.2⟩
  intro c hc
  by_cases hn : c = nil
  · subst hn; exact ⟨hk, hrest, Or.inl rfl⟩
  · exact row c (hc.wf layer hn)

theorem shrink_WF (h : Nat) : ∀ (t : T), WF layer (h + 1) t → WF layer h (shrink t) := by
  intro t
  induction t with
  | nil => exact False.elim
  | last p c _ => exact unmk_WF layer
  | cons p c k v r _ ihr =>
    intro hw
    exact snoc_WF layer (Nat.le_of_succ_le hw.1) (ihr hw.2.1) c hw.2.2

/-- the run child that ends at link `c` and holds no key yet -/
theorem childOK_run_end {h : Nat} {p : Bool} {c : T} (hc : ChildOK layer h c) :
    ChildOK layer (h + 1) (mk (last p c)) :=
  childOK_mk layer (q := last p c) hc
    (fun e he => Nat.lt_succ_of_lt (child_low layer hc e he))

theorem prepend_toList (p : Bool) (c : T) (k v : Nat) : ∀ g, g ≠ nil →
    prepend p c k v g ≠ nil ∧ toList (prepend p c k v g) = toList c ++ (k, v) :: toList g := by
  intro g hg
  cases g with
  | nil => exact absurd rfl hg
  | last q ch => exact ⟨nofun, by simp only [prepend, toList, toList_unmk]⟩
  | cons q ch k2 v2 r2 =>
    exact ⟨nofun, by simp only [prepend, toList, toList_unmk, List.append_assoc, List.cons_append]⟩

/-- `prepend` loses its entry on `nil`: the entries are kept because `grow` of a node is never `nil` -/
theorem grow_toList (h : Nat) (t : T) (d : Nat) (hw : WF layer d t) :
    grow layer h t ≠ nil ∧ toList (grow layer h t) = toList t := by
  fun_induction grow layer h t with
  | case1 => exact hw.elim
  | case2 p c => exact ⟨nofun, toList_mk _⟩
  | case3 p c k v r hhi ih => exact ⟨nofun, by rw [toList, toList_mk, (ih hw.2.1).2]; rfl⟩
  | case4 p c k v r hlo ih =>
    obtain ⟨hn, e⟩ := prepend_toList p c k v _ (ih hw.2.1).1
    exact ⟨hn, by rw [e, (ih hw.2.1).2]; rfl⟩

theorem toList_grow (h : Nat) (t : T) (d : Nat) (hw : WF layer d t) : toList (grow layer h t) = toList t :=
  (grow_toList layer h t d hw).2

/-- a key of layer `h` put in front of the first run child of a grown node -/
theorem prepend_WF {h : Nat} {p : Bool} {c : T} {k v : Nat} {g : T}
    (hg : WF layer (h + 1) g) (hk1 : h ≤ layer k) (hk2 : layer k ≤ h) (hc : ChildOK layer h c) :
    WF layer (h + 1) (prepend p c k v g) := by
  have run : ∀ ch : T, ChildOK layer (h + 1) ch → ChildOK layer (h + 1) (cons p c k v (unmk ch)) := by
    intro ch hch
    refine childOK_of layer ⟨hk1, unmk_WF layer hch, hc⟩
      (List.append_ne_nil_of_right_ne_nil _ (List.cons_ne_nil _ _)) (fun e he => ?_)
    rw [toList, toList_unmk] at he
    rcases List.mem_append.mp he with he | he
    · exact Nat.lt_succ_of_lt (child_low layer hc e he)
    · rcases List.mem_cons.mp he with rfl | he
      · exact Nat.lt_succ_of_le hk2
      · exact child_low layer hch e he
  cases g with
  | nil => exact hg.elim
  | last q ch => exact run ch hg
  | cons q ch k2 v2 r2 => exact ⟨hg.1, hg.2.1, run ch hg.2.2⟩

theorem grow_WF (h : Nat) (t : T) (hw : WF layer h t) : WF layer (h + 1) (grow layer h t) := by
  fun_induction grow layer h t with
  | case1 => exact hw.elim
  | case2 p c => exact childOK_run_end layer hw
  | case3 p c k v r hhi ih => exact ⟨hhi, ih hw.2.1, childOK_run_end layer hw.2.2⟩
  | case4 p c k v r hlo ih => exact prepend_WF layer (ih hw.2.1) hw.1 (Nat.le_of_not_lt hlo) hw.2.2

end T
end Mast
