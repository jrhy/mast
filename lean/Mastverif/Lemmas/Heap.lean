import Mastverif.Model.Heap
/-! Frame lemma and preservation of `Closed` / `Agree` by guarded foreign actions. -/
namespace Mast.Heap

theorem applyAct_alloc {h h' : Heap} {nd : MNode} : applyAct h (.alloc nd) = some h' ↔
    ((∀ l ∈ nd.links, linkOK h nd.owner l = true) ∧ (nd.shared = true → ∀ l ∈ nd.links, isPtr l = false)) ∧
      h ++ [nd] = h' := by
  simp only [applyAct, List.all_eq_true, Bool.not_eq_eq_eq_not, Bool.not_true]
  constructor
  · intro hs
    split at hs
    · next hg => exact ⟨hg, Option.some.inj hs⟩
    · cases hs
  · rintro ⟨hg, rfl⟩; exact if_pos hg

theorem applyAct_write {h h' : Heap} {m a : Nat} {nd : MNode} : applyAct h (.write m a nd) = some h' ↔
    ∃ old, h[a]? = some old ∧ (old.owner = m ∧ old.shared = false ∧ nd.owner = m ∧ nd.shared = false ∧
      (∀ l ∈ nd.links, linkOK h m l = true) ∧ m ≠ 0) ∧ h.set a nd = h' := by
  simp only [applyAct, List.all_eq_true]
  constructor
  · intro hs
    split at hs
    · cases hs
    · next old ho =>
      split at hs
      · next hg => exact ⟨old, ho, hg, Option.some.inj hs⟩
      · cases hs
  · rintro ⟨old, ho, hg, rfl⟩; rw [ho]; exact if_pos hg

theorem applyAct_publish {h h' : Heap} {m a : Nat} {links : List HLink} : applyAct h (.publish m a links) = some h' ↔
    ∃ old, h[a]? = some old ∧ (old.owner = m ∧ old.shared = false ∧ (∀ l ∈ links, isPtr l = false) ∧ m ≠ 0) ∧
      h.set a { old with links := links, dirty := false, shared := true } = h' := by
  simp only [applyAct, List.all_eq_true, Bool.not_eq_eq_eq_not, Bool.not_true]
  constructor
  · intro hs
    split at hs
    · cases hs
    · next old ho =>
      split at hs
      · next hg => exact ⟨old, ho, hg, Option.some.inj hs⟩
      · cases hs
  · rintro ⟨old, ho, hg, rfl⟩; rw [ho]; exact if_pos hg

theorem getElem?_append_left' {h ext : Heap} {a : Nat} {nd : MNode} (hx : h[a]? = some nd) :
    (h ++ ext)[a]? = some nd := by
  rw [List.getElem?_append_left (List.getElem?_eq_some_iff.mp hx).1]; exact hx

theorem getElem?_append_single {α : Type} {h : List α} {nd : α} {a : Nat} {x : α}
    (hx : (h ++ [nd])[a]? = some x) : h[a]? = some x ∨ (a = h.length ∧ x = nd) := by
  rw [List.getElem?_append] at hx
  split at hx
  · exact Or.inl hx
  · next hge =>
    rw [List.getElem?_singleton] at hx
    split at hx
    · next h0 => exact Or.inr ⟨Nat.le_antisymm (Nat.le_of_sub_eq_zero h0) (Nat.le_of_not_lt hge), (Option.some.inj hx).symm⟩
    · cases hx

theorem getElem?_set_cases {h : Heap} {a b : Nat} {nd x : MNode} (hx : (h.set a nd)[b]? = some x) :
    (b = a ∧ x = nd) ∨ (b ≠ a ∧ h[b]? = some x) := by
  rw [List.getElem?_set] at hx
  split at hx
  · next hab =>
    split at hx
    · exact Or.inl ⟨hab.symm, (Option.some.inj hx).symm⟩
    · cases hx
  · next hab => exact Or.inr ⟨fun e => hab e.symm, hx⟩

theorem vis_of_not_isPtr {h : Heap} {v : Nat} {l : HLink} (hl : isPtr l = false) : Vis h v l := by
  cases l with
  | ptr a => cases hl
  | nil => trivial
  | ref n => trivial

theorem agree_refl (h : Heap) (v : Nat) : Agree h h v := fun _ _ hx _ => hx

theorem agree_trans {h1 h2 h3 : Heap} {v : Nat} (a : Agree h1 h2 v) (b : Agree h2 h3 v) : Agree h1 h3 v :=
  fun x nd hx hso => b x nd (a x nd hx hso) hso

theorem agree_append (h ext : Heap) (v : Nat) : Agree h (h ++ ext) v := fun _ _ hx _ => getElem?_append_left' hx

theorem vis_mono {h h' : Heap} {v : Nat} (ha : Agree h h' v) {l : HLink} (hv : Vis h v l) : Vis h' v l := by
  cases l with
  | nil => trivial
  | ref n => trivial
  | ptr a =>
    obtain ⟨nd, hnd, hso⟩ := hv
    exact ⟨nd, ha a nd hnd hso, hso⟩

theorem closed_append {h : Heap} {v : Nat} {nd : MNode} (hc : Closed h v)
    (hn : (nd.shared = true ∨ nd.owner = v) → ∀ l ∈ nd.links, Vis h v l) : Closed (h ++ [nd]) v := by
  intro a x hx hso l hl
  apply vis_mono (agree_append h [nd] v)
  rcases getElem?_append_single hx with hx | ⟨_, rfl⟩
  · exact hc a x hx hso l hl
  · exact hn hso l hl

theorem vis_set_mono {h : Heap} {v a : Nat} {old nd : MNode} (ho : h[a]? = some old)
    (hk : (old.shared = true ∨ old.owner = v) → (nd.shared = true ∨ nd.owner = v))
    {l : HLink} (hv : Vis h v l) : Vis (h.set a nd) v l := by
  cases l with
  | nil => trivial
  | ref n => trivial
  | ptr b =>
    obtain ⟨x, hx, hso⟩ := hv
    by_cases hba : b = a
    · subst hba
      rw [ho] at hx; cases hx
      exact ⟨nd, List.getElem?_set_self (List.getElem?_eq_some_iff.mp ho).1, hk hso⟩
    · exact ⟨x, by rw [List.getElem?_set_ne (Ne.symm hba)]; exact hx, hso⟩

theorem closed_set {h : Heap} {v a : Nat} {old nd : MNode} (hc : Closed h v) (ho : h[a]? = some old)
    (hk : (old.shared = true ∨ old.owner = v) → (nd.shared = true ∨ nd.owner = v))
    (hn : (nd.shared = true ∨ nd.owner = v) → ∀ l ∈ nd.links, Vis h v l) : Closed (h.set a nd) v := by
  intro b x hx hso l hl
  apply vis_set_mono ho hk
  rcases getElem?_set_cases hx with ⟨_, rfl⟩ | ⟨_, hx⟩
  · exact hn hso l hl
  · exact hc b x hx hso l hl

theorem foreign_set {h : Heap} {v a : Nat} {old nd : MNode} (hc : Closed h v) (ho : h[a]? = some old)
    (hold : ¬(old.shared = true ∨ old.owner = v))
    (hn : (nd.shared = true ∨ nd.owner = v) → ∀ l ∈ nd.links, Vis h v l) :
    Agree h (h.set a nd) v ∧ Closed (h.set a nd) v := by
  refine ⟨fun b x hx hso => ?_, closed_set hc ho (fun h => absurd h hold) hn⟩
  have hba : a ≠ b := by rintro rfl; rw [ho] at hx; cases hx; exact hold hso
  rw [List.getElem?_set_ne hba]; exact hx

theorem unseen_of_owned {old : MNode} {m v : Nat} (hoo : old.owner = m) (hos : old.shared = false) (hmv : m ≠ v) :
    ¬(old.shared = true ∨ old.owner = v) := by
  rintro (h1 | h1)
  · rw [hos] at h1; cases h1
  · exact hmv (hoo.symm.trans h1)

/-- a guarded action that is foreign to `v` leaves everything `v` can see untouched and keeps
    `v`'s view closed -/
theorem foreign_step {h h' : Heap} {v : Nat} {act : Act}
    (hc : Closed h v) (hf : Foreign v act) (hs : applyAct h act = some h') :
    Agree h h' v ∧ Closed h' v := by
  cases act with
  | alloc nd =>
    obtain ⟨⟨_, hflat⟩, rfl⟩ := applyAct_alloc.mp hs
    -- the new object is visible to `v` only if it is shared, and then it has no pointer links
    exact ⟨agree_append h [nd] v, closed_append hc fun hso l hl =>
      vis_of_not_isPtr (hflat (hso.resolve_right hf) l hl)⟩
  | write m a nd =>
    obtain ⟨old, ho, ⟨hoo, hos, hno, hns, _, _⟩, rfl⟩ := applyAct_write.mp hs
    exact foreign_set hc ho (unseen_of_owned hoo hos hf) (fun hso => absurd hso (unseen_of_owned hno hns hf))
  | publish m a links =>
    obtain ⟨old, ho, ⟨hoo, hos, hflat, _⟩, rfl⟩ := applyAct_publish.mp hs
    exact foreign_set hc ho (unseen_of_owned hoo hos hf) (fun _ l hl => vis_of_not_isPtr (hflat l hl))

theorem foreign_run {v : Nat} (acts : List Act) : ∀ (h h' : Heap),
    Closed h v → (∀ act ∈ acts, Foreign v act) → run h acts = some h' →
    Agree h h' v ∧ Closed h' v := by
  induction acts with
  | nil => intro h h' hc _ hr; cases hr; exact ⟨agree_refl h v, hc⟩
  | cons act acts ih =>
    intro h h' hc hf hr
    simp only [run] at hr
    split at hr
    · cases hr
    · next h1 hs =>
      obtain ⟨ha1, hc1⟩ := foreign_step hc (hf act List.mem_cons_self) hs
      obtain ⟨ha2, hc2⟩ := ih h1 h' hc1 (fun a ha => hf a (List.mem_cons_of_mem _ ha)) hr
      exact ⟨agree_trans ha1 ha2, hc2⟩

/-- FRAME: operations that leave v's visible objects alone cannot change what v observes. -/
theorem frame (h h' : Heap) (v : Nat) (hc : Closed h v) (ha : Agree h h' v) (f : Nat) :
    ∀ (l : HLink), Vis h v l → contents h' f l = contents h f l := by
  induction f with
  | zero => intro l _; cases l <;> rfl
  | succ f ih =>
    intro l hv
    cases l with
    | nil => rfl
    | ref n => rfl
    | ptr a =>
      obtain ⟨nd, hnd, hso⟩ := hv
      simp only [contents, hnd, ha a nd hnd hso]
      rw [List.map_congr_left fun l hl => ih l (hc a nd hnd hso l hl)]

theorem sequenceO_map_mono {f g : HLink → Option (List Tok)} (ls : List HLink) : ∀ {cs : List (List Tok)},
    (∀ l ∈ ls, ∀ c, f l = some c → g l = some c) →
    sequenceO (ls.map f) = some cs → sequenceO (ls.map g) = some cs := by
  induction ls with
  | nil => intro _ _ h; exact h
  | cons l ls ih =>
    intro cs hm h
    simp only [List.map_cons] at h ⊢
    cases hl : f l with
    | none => rw [hl] at h; cases h
    | some c =>
      rw [hl] at h; rw [hm l List.mem_cons_self c hl]
      simp only [sequenceO, Option.map_eq_some_iff] at h ⊢
      obtain ⟨cs', h1, rfl⟩ := h
      exact ⟨cs', ih (fun l' hl' => hm l' (List.mem_cons_of_mem _ hl')) h1, rfl⟩

/-- the hypothesis is `Mast.Ptr.AllocOnly h h'` -/
theorem contents_mono {h h' : Heap} (ha : ∀ (a : Nat) (nd : MNode), h[a]? = some nd → h'[a]? = some nd) (fuel : Nat) :
    ∀ (l : HLink) (c : List Tok), contents h fuel l = some c → contents h' fuel l = some c := by
  induction fuel with
  | zero => intro l c hc; cases l <;> first | exact hc | cases hc
  | succ f ih =>
    intro l c hc
    cases l with
    | nil => exact hc
    | ref n => exact hc
    | ptr a =>
      simp only [contents] at hc ⊢
      split at hc
      · cases hc
      · next nd hnd =>
        rw [ha a nd hnd]
        simp only [Option.map_eq_some_iff] at hc ⊢
        obtain ⟨cs, h1, rfl⟩ := hc
        exact ⟨cs, sequenceO_map_mono _ (fun l _ c hl => ih l c hl) h1, rfl⟩

theorem contents_append (h ext : Heap) (fuel : Nat) (l : HLink) (c : List Tok)
    (hc : contents h fuel l = some c) : contents (h ++ ext) fuel l = some c :=
  contents_mono (fun _ _ hx => getElem?_append_left' hx) fuel l c hc

end Mast.Heap
