import Mastverif.Lemmas.GrowShrink
/-!
# The height rule

`HOK bf layer h l`: `h` is an admissible height for the entry list `l` —
either 0, or `bf^h < |l|` and some key has layer ≥ h; and `|l| ≤ bf^(h+1)` or no key has a layer
above `h`.  It has at most one solution (`HOK_unique`), it is what Insert's grow loop and
Delete's (repaired) shrink loop re-establish (Lemmas/TreeInv.lean), and it is the logarithm-free
form of `height = min(highest key layer, floor(log_bf(size-1)))`.
-/
namespace Mast
open T

/-- `HOK` (height OK): lower clause (`HLow`) ∧ upper clause (`HUp`), both for `l.length` entries -/
def HOK (bf : Nat) (layer : Nat → Nat) (h : Nat) (l : List (Nat × Nat)) : Prop :=
  (h = 0 ∨ (bf ^ h < l.length ∧ ∃ e ∈ l, h ≤ layer e.1)) ∧
  (l.length ≤ bf ^ (h + 1) ∨ ∀ e ∈ l, layer e.1 ≤ h)

/-- the height is not too large for `n` entries with the keys of `l` -/
abbrev HLow (bf : Nat) (layer : Nat → Nat) (h n : Nat) (l : List (Nat × Nat)) : Prop :=
  h = 0 ∨ (bf ^ h < n ∧ ∃ e ∈ l, h ≤ layer e.1)

/-- the height is not too small -/
abbrev HUp (bf : Nat) (layer : Nat → Nat) (h n : Nat) (l : List (Nat × Nat)) : Prop :=
  n ≤ bf ^ (h + 1) ∨ ∀ e ∈ l, layer e.1 ≤ h

theorem HOK_iff {bf : Nat} {layer : Nat → Nat} {h : Nat} {l : List (Nat × Nat)} :
    HOK bf layer h l ↔ HLow bf layer h l.length l ∧ HUp bf layer h l.length l := Iff.rfl

/-- the upper clause at `h` contradicts the lower clause at any `h' > h` -/
theorem HOK_not_lt {bf : Nat} {layer : Nat → Nat} {h h' : Nat} {l : List (Nat × Nat)} (hbf : 2 ≤ bf)
    (a : HOK bf layer h l) (b : HOK bf layer h' l) : ¬ h < h' := by
  intro hlt
  rcases b.1 with h0 | ⟨hsz, e, he, hle⟩
  · exact Nat.not_lt_zero h (h0 ▸ hlt)
  · rcases a.2 with hsz2 | hall
    · have : bf ^ (h + 1) ≤ bf ^ h' := Nat.pow_le_pow_right (Nat.zero_lt_of_lt hbf) hlt
      exact Nat.lt_irrefl _ (Nat.lt_of_lt_of_le hsz (Nat.le_trans hsz2 this))
    · exact Nat.lt_irrefl _ (Nat.lt_of_le_of_lt (hall e he) (Nat.lt_of_lt_of_le hlt hle))

theorem HOK_unique {bf : Nat} {layer : Nat → Nat} {h h' : Nat} {l : List (Nat × Nat)} (hbf : 2 ≤ bf)
    (a : HOK bf layer h l) (b : HOK bf layer h' l) : h = h' :=
  Nat.le_antisymm (Nat.le_of_not_lt (HOK_not_lt hbf b a)) (Nat.le_of_not_lt (HOK_not_lt hbf a b))

/-- an update changes neither the number of entries nor the keys -/
theorem HOK_insL_present {bf : Nat} {layer : Nat → Nat} {h k v v' : Nat} {l : List (Nat × Nat)}
    (hs : Sorted l) (hg : getL k l = some v') (hh : HOK bf layer h l) : HOK bf layer h (insL k v l) := by
  rw [HOK, length_insL_present l hs hg]
  refine ⟨hh.1.imp_right (fun a => ⟨a.1, key_mem_insL (P := fun x => h ≤ layer x) a.2⟩), hh.2.imp_right (fun b e he => ?_)⟩
  rcases mem_insL he with rfl | he
  · exact b (k, v') (getL_some_mem hg)
  · exact b e he

namespace T
variable (layer : Nat → Nat)

theorem canGrow_iff (h : Nat) : ∀ (t : T), WF layer h t →
    (canGrow layer h t = true ↔ ∃ e ∈ toList t, h < layer e.1) := by
  intro t
  induction t with
  | nil => exact False.elim
  | last p c _ =>
    intro hw
    exact ⟨nofun, fun ⟨e, he, hl⟩ => absurd (child_low layer hw e he) (Nat.lt_asymm hl)⟩
  | cons p c k v r _ ihr =>
    intro hw
    rw [canGrow, Bool.or_eq_true, decide_eq_true_eq, ihr hw.2.1]
    constructor
    · rintro (hl | ⟨e, he, hl⟩)
      · exact ⟨(k, v), List.mem_append_right _ List.mem_cons_self, hl⟩
      · exact ⟨e, List.mem_append_right _ (List.mem_cons_of_mem _ he), hl⟩
    · rintro ⟨e, he, hl⟩
      rcases List.mem_append.mp he with he | he
      · exact absurd (child_low layer hw.2.2 e he) (Nat.lt_asymm hl)
      · rcases List.mem_cons.mp he with rfl | he
        · exact Or.inl hl
        · exact Or.inr ⟨e, he, hl⟩

theorem topEntryless_low {h : Nat} {t : T} (hw : WF layer h t) (ht : Tree.topEntryless t = true) :
    ∀ e ∈ toList t, layer e.1 < h := by
  cases t with
  | nil => exact hw.elim
  | last p c => exact child_low layer (c := c) hw
  | cons p c k v r => cases ht

theorem topEntryless_key {h : Nat} {t : T} (hw : WF layer h t) (ht : Tree.topEntryless t = false) :
    ∃ e ∈ toList t, h ≤ layer e.1 := by
  cases t with
  | nil => exact hw.elim
  | last p c => cases ht
  | cons p c k v r => exact ⟨(k, v), List.mem_append_right _ List.mem_cons_self, hw.1⟩

end T
end Mast
