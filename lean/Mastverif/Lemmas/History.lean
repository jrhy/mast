import Mastverif.Lemmas.TreeInv
import Mastverif.Lemmas.Store
/-!
# Histories: operation sequences on the tree model and on the sorted association list
-/
namespace Mast
open T

namespace Tree
variable (layer : Nat → Nat)

inductive Op where
  | ins (k v : Nat) | del (k v : Nat) | get (k : Nat) | iter | size | persist
  deriving Repr, DecidableEq

inductive Out where
  | ok | err | panic
  | val (o : Option Nat)
  | list (l : List (Nat × Nat))
  | num (n : Nat)
  deriving Repr, DecidableEq

def stepT (e : Enc) (m : Tree) : Op → Tree × Out
  | .ins k v => match insert layer m k v with
      | .ok m' => (m', .ok) | .err _ => (m, .err) | .panic _ => (m, .panic)
  | .del k v => match delete layer m k v with
      | .ok m' => (m', .ok) | .err _ => (m, .err) | .panic _ => (m, .panic)
  | .get k => (m, .val (m.lookup layer k))
  | .iter => (m, .list m.toList)
  | .size => (m, .num m.size)
  | .persist => ((makeRoot e m).2.2, .ok)

def stepL (l : List (Nat × Nat)) : Op → List (Nat × Nat) × Out
  | .ins k v => (insL k v l, .ok)
  | .del k v => if getL k l = some v then (delL k l, .ok) else (l, .err)
  | .get k => (l, .val (getL k l))
  | .iter => (l, .list l)
  | .size => (l, .num l.length)
  | .persist => (l, .ok)

def runT (e : Enc) : Tree → List Op → List Out
  | _, [] => []
  | m, op :: ops => let r := stepT layer e m op; r.2 :: runT e r.1 ops

def runL : List (Nat × Nat) → List Op → List Out
  | _, [] => []
  | l, op :: ops => let r := stepL l op; r.2 :: runL r.1 ops

theorem inv_of_erase {m : Tree} (hi : Inv layer m) {r : T} (rp d : Bool) (hr : erase r = erase m.root) :
    Inv layer { m with root := r, rootP := rp, dirty := d } ∧
      ({ m with root := r, rootP := rp, dirty := d } : Tree).toList = m.toList := by
  have hl : r.toList = m.root.toList := by rw [← toList_erase r, hr, toList_erase]
  exact ⟨⟨(WF_erase layer r m.height).mp (hr ▸ (WF_erase layer m.root m.height).mpr hi.wf),
    hl ▸ hi.sorted, hl ▸ hi.size, hi.bf2, hi.ga, hi.sb⟩, hl⟩

theorem inv_makeRoot (e : Enc) (m : Tree) (hi : Inv layer m) :
    Inv layer (makeRoot e m).2.2 ∧ (makeRoot e m).2.2.toList = m.toList := by
  obtain ⟨r, rp, d, h, hr⟩ := makeRoot_tree e m
  rw [h]; exact inv_of_erase layer hi rp d hr

def isPersist : Op → Bool
  | .persist => true
  | _ => false

theorem stepT_persist (e : Enc) (m : Tree) {op : Op} (hp : isPersist op = true) :
    (stepT layer e m op).1 = (makeRoot e m).2.2 := by
  cases op <;> first | rfl | cases hp

theorem stepT_cases (e : Enc) (m : Tree) (op : Op) (hp : isPersist op = false) :
    (stepT layer e m op).1 = m ∨
    (∃ k v, op = .ins k v ∧ insert layer m k v = .ok (stepT layer e m op).1) ∨
    (∃ k v, op = .del k v ∧ delete layer m k v = .ok (stepT layer e m op).1) := by
  cases op with
  | ins k v =>
    simp only [stepT]
    cases h : insert layer m k v with
    | ok m' => exact Or.inr (Or.inl ⟨k, v, rfl, h⟩)
    | err _ => exact Or.inl rfl
    | panic _ => exact Or.inl rfl
  | del k v =>
    simp only [stepT]
    cases h : delete layer m k v with
    | ok m' => exact Or.inr (Or.inr ⟨k, v, rfl, h⟩)
    | err _ => exact Or.inl rfl
    | panic _ => exact Or.inl rfl
  | get | iter | size => exact Or.inl rfl
  | persist => cases hp

/-- the last clause: the height rule is kept -/
theorem step_spec (e : Enc) (m : Tree) (op : Op) (hi : Inv layer m) :
    (stepT layer e m op).2 = (stepL m.toList op).2 ∧
    Inv layer (stepT layer e m op).1 ∧ (stepT layer e m op).1.toList = (stepL m.toList op).1 ∧
    (stepT layer e m op).1.bf = m.bf ∧
    (HOK m.bf layer m.height m.toList →
      HOK (stepT layer e m op).1.bf layer (stepT layer e m op).1.height (stepT layer e m op).1.toList) := by
  cases op with
  | ins k v =>
    obtain ⟨m', h1, h2, h3, h4, h5⟩ := insert_spec_hok layer m k v hi
    rw [show stepT layer e m (.ins k v) = (m', .ok) by rw [stepT, h1]]
    exact ⟨rfl, h2, h3, h4, h5⟩
  | del k v =>
    by_cases hp : getL k m.toList = some v
    · obtain ⟨m', h1, h2, h3, h4, h5⟩ := delete_spec_hok layer m k v hi hp
      rw [show stepT layer e m (.del k v) = (m', .ok) by rw [stepT, h1], stepL, if_pos hp]
      exact ⟨rfl, h2, h3, h4, h5⟩
    · obtain ⟨er, h1⟩ := delete_absent layer m k v hi hp
      rw [show stepT layer e m (.del k v) = (m, .err) by rw [stepT, h1], stepL, if_neg hp]
      exact ⟨rfl, hi, rfl, rfl, id⟩
  | get k => exact ⟨congrArg Out.val (lookup_eq layer m k hi), hi, rfl, rfl, id⟩
  | iter => exact ⟨rfl, hi, rfl, rfl, id⟩
  | size => exact ⟨congrArg Out.num hi.size, hi, rfl, rfl, id⟩
  | persist =>
    obtain ⟨r, rp, d, h, hr⟩ := makeRoot_tree e m
    obtain ⟨h1, h2⟩ := inv_of_erase layer hi rp d hr
    rw [show stepT layer e m .persist = ({ m with root := r, rootP := rp, dirty := d }, .ok) by rw [stepT, h]]
    exact ⟨rfl, h1, h2, rfl, fun hh => h2 ▸ hh⟩

theorem step_refines (e : Enc) (m : Tree) (op : Op) (hi : Inv layer m) :
    (stepT layer e m op).2 = (stepL m.toList op).2 ∧
    Inv layer (stepT layer e m op).1 ∧ (stepT layer e m op).1.toList = (stepL m.toList op).1 :=
  let ⟨h1, h2, h3, _⟩ := step_spec layer e m op hi
  ⟨h1, h2, h3⟩

theorem runT_eq_runL (e : Enc) : ∀ (ops : List Op) (m : Tree), Inv layer m →
    runT layer e m ops = runL m.toList ops := by
  intro ops
  induction ops with
  | nil => intro m _; rfl
  | cons op ops ih =>
    intro m hi
    obtain ⟨h1, h2, h3⟩ := step_refines layer e m op hi
    simp only [runT, runL]
    rw [h1, ih _ h2, h3]

def execT (e : Enc) : Tree → List Op → Tree
  | m, [] => m
  | m, op :: ops => execT e (stepT layer e m op).1 ops

theorem execT_induct {P : Tree → Prop} (e : Enc) (step : ∀ m op, P m → P (stepT layer e m op).1) :
    ∀ (ops : List Op) (m : Tree), P m → P (execT layer e m ops) := by
  intro ops
  induction ops with
  | nil => intro m h; exact h
  | cons op ops ih => intro m h; exact ih _ (step m op h)

theorem inv_execT (e : Enc) : ∀ (ops : List Op) (m : Tree), Inv layer m → Inv layer (execT layer e m ops) :=
  execT_induct layer e fun m op hi => (step_spec layer e m op hi).2.1

theorem bf_execT (e : Enc) (ops : List Op) (m : Tree) (hi : Inv layer m) : (execT layer e m ops).bf = m.bf :=
  (execT_induct layer e (P := fun m' => Inv layer m' ∧ m'.bf = m.bf)
    (fun m' op h => let s := step_spec layer e m' op h.1; ⟨s.2.1, s.2.2.2.1.trans h.2⟩) ops m ⟨hi, rfl⟩).2

end Tree
end Mast
