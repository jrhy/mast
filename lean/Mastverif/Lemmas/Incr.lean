import Mastverif.Lemmas.Clean
/-!
# Incremental persistence: what is dirty lies on the paths of the modified keys

`DR M lo hi t`: in the row `t`, whose keys lie between the separators `lo` and `hi` of its
ancestors, every child link is nil, or a name whose whole subtree is persisted (`AllP`), or an
in-memory node (a node the next flush writes) whose closed key range contains one of the
modified keys `M` — and so on below.  Insert and Delete (without a change of height) preserve it
when their key is added to `M`.
-/
namespace Mast
namespace T

/-- `Lnk` (link): a child link `(p, c)` is nil, or a name (`p`) whose subtree satisfies `A`, or an
    in-memory node satisfying `B`.  The link clause that `DR` (here) and `TL` (TrueLinks) spell out for
    `last p c` and for the first link of `cons p c k v r` is `DRLink M lo hi p c`, resp.
    `Lnk P (TL P) p c`, by unfolding. -/
def Lnk (A B : T → Prop) (p : Bool) (c : T) : Prop :=
  c.isNil = true ∨ (p = true ∧ A c) ∨ (p = false ∧ B c)

namespace Lnk
variable {A A' B B' C : T → Prop} {p : Bool} {c : T}

theorem imp (hA : A c → A' c) (hB : B c → B' c) (h : Lnk A B p c) : Lnk A' B' p c :=
  Or.imp_right (Or.imp (And.imp_right hA) (And.imp_right hB)) h

theorem mem (h : B c) : Lnk A B false c := Or.inr (Or.inr ⟨rfl, h⟩)

theorem elim (h : Lnk A B p c) (hn : C nil) (hA : A c → C c) (hB : B c → C c) : C c := by
  rcases h with h | h | h
  · exact isNil_iff.mp h ▸ hn
  · exact hA h.2
  · exact hB h.2

theorem written (hw : (p || c.isNil) = false) (h : Lnk A B p c) : B c := by
  rw [Bool.or_eq_false_iff] at hw
  rcases h with h | h | h
  · rw [hw.2] at h; cases h
  · rw [hw.1] at h; cases h.1
  · exact h.2

end Lnk

def loLe : Option Nat → Nat → Prop
  | none, _ => True
  | some l, m => l ≤ m

def leHi : Nat → Option Nat → Prop
  | _, none => True
  | m, some h => m ≤ h

@[simp] theorem loLe_none (m : Nat) : loLe none m = True := rfl
@[simp] theorem loLe_some (l m : Nat) : loLe (some l) m = (l ≤ m) := rfl
@[simp] theorem leHi_none (m : Nat) : leHi m none = True := rfl
@[simp] theorem leHi_some (m h : Nat) : leHi m (some h) = (m ≤ h) := rfl

theorem loLe_trans {lo : Option Nat} {k m : Nat} (h : loLe lo k) (hkm : k ≤ m) : loLe lo m := by
  cases lo with
  | none => trivial
  | some l => exact Nat.le_trans h hkm

theorem leHi_trans {hi : Option Nat} {k m : Nat} (hmk : m ≤ k) (h : leHi k hi) : leHi m hi := by
  cases hi with
  | none => trivial
  | some l => exact Nat.le_trans hmk h

/-- a modified key lies in the closed range `[lo, hi]` -/
def Hit (M : List Nat) (lo hi : Option Nat) : Prop := ∃ m ∈ M, loLe lo m ∧ leHi m hi

/-- `AllP` (all persisted): every link below is a name -/
def AllP : T → Prop
  | nil => True
  | last p c => p = true ∧ AllP c
  | cons p c _ _ r => p = true ∧ AllP c ∧ AllP r

theorem allP_persistAll : ∀ t : T, AllP (persistAll t) := by
  intro t
  induction t with
  | nil => trivial
  | last p c ih => exact ⟨rfl, ih⟩
  | cons p c k v r ihc ihr => exact ⟨rfl, ihc, ihr⟩

theorem storesBelow_of_allP (e : Enc) : ∀ t : T, AllP t → storesBelow e t = [] := by
  intro t
  induction t with
  | nil => intro _; rfl
  | last p c _ => intro h; rw [storesBelow, h.1]; rfl
  | cons p c k v r _ ihr => intro h; rw [storesBelow, h.1, ihr h.2.2]; rfl

/-- after a flush nothing below is in memory: a second flush writes nothing -/
theorem storesBelow_persistAll (e : Enc) : ∀ t : T, storesBelow e (persistAll t) = [] :=
  fun t => storesBelow_of_allP e _ (allP_persistAll t)

/-- `DR` (dirty ⇒ in range), see the head of the file -/
def DR (M : List Nat) : Option Nat → Option Nat → T → Prop
  | _, _, nil => True
  | lo, hi, last p c =>
      c.isNil = true ∨ (p = true ∧ AllP c) ∨ (p = false ∧ Hit M lo hi ∧ DR M lo hi c)
  | lo, hi, cons p c k _ r =>
      (c.isNil = true ∨ (p = true ∧ AllP c) ∨ (p = false ∧ Hit M lo (some k) ∧ DR M lo (some k) c)) ∧
      DR M (some k) hi r

abbrev DRLink (M : List Nat) (lo hi : Option Nat) (p : Bool) (c : T) : Prop :=
  Lnk AllP (fun c => Hit M lo hi ∧ DR M lo hi c) p c

theorem allP_DR (M : List Nat) : ∀ (t : T) (lo hi : Option Nat), AllP t → DR M lo hi t := by
  intro t
  induction t with
  | nil => intros; trivial
  | last p c _ => intro lo hi h; exact Or.inr (Or.inl h)
  | cons p c k v r _ ihr =>
    intro lo hi h
    exact ⟨Or.inr (Or.inl ⟨h.1, h.2.1⟩), ihr (some k) hi h.2.2⟩

theorem DR_weaken {M M' : List Nat} (hm : ∀ m ∈ M, m ∈ M') : ∀ (t : T) {lo hi lo' hi' : Option Nat},
    DR M lo hi t → (∀ m, loLe lo m → loLe lo' m) → (∀ m, leHi m hi → leHi m hi') → DR M' lo' hi' t := by
  have hit : ∀ {lo hi lo' hi'}, (∀ m, loLe lo m → loLe lo' m) → (∀ m, leHi m hi → leHi m hi') →
      Hit M lo hi → Hit M' lo' hi' :=
    fun hl hh ⟨m, h, h1, h2⟩ => ⟨m, hm m h, hl m h1, hh m h2⟩
  intro t
  induction t with
  | nil => intros; trivial
  | last p c ih =>
    intro lo hi lo' hi' (h : DRLink M lo hi p c) hl hh
    exact show DRLink M' lo' hi' p c from h.imp id fun h => ⟨hit hl hh h.1, ih h.2 hl hh⟩
  | cons p c k v r ihc ihr =>
    intro lo hi lo' hi' (h : DRLink M lo (some k) p c ∧ DR M (some k) hi r) hl hh
    exact ⟨show DRLink M' lo' (some k) p c from
      h.1.imp id fun h => ⟨hit hl (fun _ x => x) h.1, ihc h.2 hl (fun _ x => x)⟩, ihr h.2 (fun _ x => x) hh⟩

theorem DR_mono {M M' : List Nat} (hm : ∀ m ∈ M, m ∈ M') (t : T) (lo hi : Option Nat) (h : DR M lo hi t) :
    DR M' lo hi t :=
  DR_weaken hm t h (fun _ x => x) (fun _ x => x)

theorem DR_lo {M : List Nat} {lo hi : Option Nat} {k : Nat} {t : T} (hl : loLe lo k) (h : DR M (some k) hi t) :
    DR M lo hi t :=
  DR_weaken (fun _ x => x) t h (fun _ hm => loLe_trans hl hm) (fun _ x => x)

theorem DR_hi {M : List Nat} {lo hi : Option Nat} {k : Nat} {t : T} (hh : leHi k hi) (h : DR M lo (some k) t) :
    DR M lo hi t :=
  DR_weaken (fun _ x => x) t h (fun _ x => x) (fun _ hm => leHi_trans hm hh)

theorem DR_child {M : List Nat} {lo hi : Option Nat} {p : Bool} {c : T} (h : DRLink M lo hi p c) : DR M lo hi c :=
  h.elim (C := DR M lo hi) trivial (allP_DR M c lo hi) And.right

theorem DR_mk {M : List Nat} {lo hi : Option Nat} {t : T} (h : DR M lo hi t) : DR M lo hi (mk t) := by
  unfold mk
  split
  · trivial
  · exact h

theorem link_of_hit {M : List Nat} {lo hi : Option Nat} {k : Nat} {c : T} (hk : k ∈ M) (hl : loLe lo k)
    (hh : leHi k hi) (h : DR M lo hi c) : DRLink M lo hi false c :=
  Lnk.mem ⟨⟨k, hk, hl, hh⟩, h⟩

theorem link_hit {M : List Nat} {lo hi : Option Nat} {k : Nat} {c : T} (hl : loLe lo k) (hh : leHi k hi)
    (h : DR (k :: M) lo hi c) : DRLink (k :: M) lo hi false c :=
  link_of_hit List.mem_cons_self hl hh h

theorem split_DR (M : List Nat) (x : Nat) (t : T) : ∀ (lo hi : Option Nat),
    DR M lo hi t → loLe lo x → leHi x hi →
    DR (x :: M) lo (some x) (split t x).1 ∧ DR (x :: M) (some x) hi (split t x).2 := by
  fun_induction split t x with
  | case1 x => intros; exact ⟨trivial, trivial⟩
  | case2 p c x q ih =>
    intro lo hi h hl hh
    obtain ⟨i1, i2⟩ := ih lo hi (DR_child h) hl hh
    exact ⟨link_hit hl (Nat.le_refl x) (DR_mk i1), link_hit (Nat.le_refl x) hh (DR_mk i2)⟩
  | case3 p c k v r x hk q ih =>
    intro lo hi h hl hh
    obtain ⟨i1, i2⟩ := ih (some k) hi h.2 (Nat.le_of_lt hk) hh
    exact ⟨⟨(DR_mono (fun m => List.mem_cons_of_mem x) _ lo hi h).1, i1⟩, i2⟩
  | case4 p c k v r x hk q ih =>
    intro lo hi h hl hh
    have hxk : x ≤ k := Nat.le_of_not_lt hk
    obtain ⟨i1, i2⟩ := ih lo (some k) (DR_child h.1) hl hxk
    exact ⟨link_hit hl (Nat.le_refl x) (DR_mk i1),
      link_hit (Nat.le_refl x) hxk (DR_mk i2), DR_mono (fun m => List.mem_cons_of_mem x) _ _ _ h.2⟩

theorem split_DRLink {M : List Nat} {x : Nat} {lo hi : Option Nat} {p : Bool} {c : T} (h : DRLink M lo hi p c)
    (hl : loLe lo x) (hh : leHi x hi) :
    DRLink (x :: M) lo (some x) false (mk (split c x).1) ∧ DRLink (x :: M) (some x) hi false (mk (split c x).2) :=
  have ⟨i1, i2⟩ := split_DR M x c lo hi (DR_child h) hl hh
  ⟨link_hit hl (Nat.le_refl x) (DR_mk i1), link_hit (Nat.le_refl x) hh (DR_mk i2)⟩

theorem fresh_DR (M : List Nat) (k v : Nat) (lo hi : Option Nat) (hl : loLe lo k) (hh : leHi k hi) :
    ∀ s, DR (k :: M) lo hi (freshPath s k v) := by
  intro s
  induction s with
  | zero => exact ⟨Or.inl rfl, Or.inl rfl⟩
  | succ s ih => exact link_hit hl hh ih

theorem ins_DR (M : List Nat) (k v : Nat) (t : T) (s : Nat) : ∀ (lo hi : Option Nat) (t' : T), DR M lo hi t →
    loLe lo k → leHi k hi → ins k v s t = some t' → DR (k :: M) lo hi t' := by
  have mono : ∀ m ∈ M, m ∈ k :: M := fun m => List.mem_cons_of_mem k
  fun_induction ins k v s t with
  | case1 s =>
    intro lo hi t' _ hl hh he
    cases he
    exact fresh_DR M k v lo hi hl hh s
  | case2 p c q =>
    intro lo hi t' h hl hh he
    cases he
    exact split_DRLink h hl hh
  | case3 p c k' v' r hlt ih | case7 s p c k' v' r hlt ih =>
    intro lo hi t' h hl hh he
    obtain ⟨r', hr, rfl⟩ := Option.map_eq_some_iff.mp he
    exact ⟨(DR_mono mono _ lo hi h).1, ih (some k') hi r' h.2 (Nat.le_of_lt hlt) hh hr⟩
  | case4 p c v' r =>
    intro lo hi t' h _ _ he
    cases he
    exact DR_mono mono _ lo hi h
  | case5 p c k' v' r hlt hne q =>
    intro lo hi t' h hl hh he
    cases he
    have ⟨i1, i2⟩ := split_DRLink h.1 hl (Nat.le_of_not_lt hlt)
    exact ⟨i1, i2, DR_mono mono _ _ _ h.2⟩
  | case6 s p c ih =>
    intro lo hi t' h hl hh he
    obtain ⟨c', hc, rfl⟩ := Option.map_eq_some_iff.mp he
    exact link_hit hl hh (ih lo hi c' (DR_child h) hl hh hc)
  | case8 => intro _ _ _ _ _ _ he; cases he
  | case9 s p c k' v' r hlt hne ih =>
    intro lo hi t' h hl hh he
    obtain ⟨c', hc, rfl⟩ := Option.map_eq_some_iff.mp he
    have hk : k ≤ k' := Nat.le_of_not_lt hlt
    exact ⟨link_hit hl hk (ih lo (some k') c' (DR_child h.1) hl hk hc), DR_mono mono _ _ _ h.2⟩

/-- `mergeNodes`: every node built along the merged spine has `k` in its range -/
theorem mergeRow_DR {M : List Nat} {k : Nat} (hk : k ∈ M) (a b : T) : ∀ (lo hi : Option Nat),
    DR M lo (some k) a → DR M (some k) hi b → loLe lo k → leHi k hi →
    (∀ e ∈ toList a, e.1 ≤ k) → (∀ e ∈ toList b, k ≤ e.1) → DR M lo hi (mergeRow a b) := by
  fun_induction mergeRow a b with
  | case1 b => intro lo hi _ hb hl _ _ _; exact DR_lo hl hb
  | case2 p c k1 v rest b ih =>
    intro lo hi ha hb _ hh hka hkb
    exact ⟨ha.1, ih (some k1) hi ha.2 hb (hka (k1, v) (List.mem_append_right _ List.mem_cons_self)) hh
      (fun e he => hka e (List.mem_append_right _ (List.mem_cons_of_mem _ he))) hkb⟩
  | case3 p c | case5 p c p2 c2 =>
    intro lo hi ha _ _ hh _ _
    exact DR_hi hh ha
  | case4 p c p2 c2 | case7 p c p2 c2 k2 v2 r2 =>
    intro lo hi _ hb hl _ _ _
    exact DR_lo hl hb
  | case6 p c p2 c2 _ _ ih =>
    intro lo hi ha hb hl hh hka hkb
    exact link_of_hit hk hl hh (ih lo hi (DR_child ha) (DR_child hb) hl hh hka hkb)
  | case8 p c p2 c2 k2 v2 r2 =>
    intro lo hi ha hb _ _ _ hkb
    exact ⟨DR_hi (hi := some k2) (hkb (k2, v2) (List.mem_append_right _ List.mem_cons_self)) ha, hb.2⟩
  | case9 p c p2 c2 k2 v2 r2 _ _ ih =>
    intro lo hi ha hb hl _ hka hkb
    have hk2 : k ≤ k2 := hkb (k2, v2) (List.mem_append_right _ List.mem_cons_self)
    exact ⟨link_of_hit hk hl hk2 (ih lo (some k2) (DR_child ha) (DR_child hb.1) hl hk2 hka
      (fun e he => hkb e (List.mem_append_left _ he))), hb.2⟩

/-- `deleteEntry` -/
theorem joinAt_DR {M : List Nat} {k : Nat} (hk : k ∈ M) (p : Bool) (c : T) : ∀ (r : T) (lo hi : Option Nat),
    DR M lo (some k) (last p c) → DR M (some k) hi r → loLe lo k → leHi k hi →
    (∀ e ∈ toList c, e.1 ≤ k) → (∀ e ∈ toList r, k ≤ e.1) → DR M lo hi (joinAt p c r) := by
  intro r lo hi ha hb hl hh hka hkb
  by_cases hr : r = nil
  · subst hr; trivial
  · rw [joinAt_eq_mergeRow p c hr]
    exact mergeRow_DR hk (last p c) r lo hi ha hb hl hh hka hkb

theorem del_DR (M : List Nat) (k : Nat) (t : T) (s : Nat) : ∀ (lo hi : Option Nat) (t' : T), DR M lo hi t →
    Sorted (toList t) → loLe lo k → leHi k hi → del k s t = some t' → DR (k :: M) lo hi t' := by
  have mono : ∀ m ∈ M, m ∈ k :: M := fun m => List.mem_cons_of_mem k
  fun_induction del k s t with
  | case1 | case2 | case5 | case8 => intro _ _ _ _ _ _ _ he; cases he
  | case3 p c k' v' r hlt ih | case7 s p c k' v' r hlt ih =>
    intro lo hi t' h hs hl hh he
    obtain ⟨r', hr, rfl⟩ := Option.map_eq_some_iff.mp he
    exact ⟨(DR_mono mono _ lo hi h).1,
      ih (some k') hi r' h.2 (sorted_cons_parts hs).2.1 (Nat.le_of_lt hlt) hh hr⟩
  | case4 p c v' r =>
    intro lo hi t' h hs hl hh he
    cases he
    obtain ⟨_, _, hck, hkr⟩ := sorted_cons_parts hs
    have h' := DR_mono mono _ lo hi h
    exact joinAt_DR List.mem_cons_self p c r lo hi h'.1 h'.2 hl hh
      (fun e he => Nat.le_of_lt (hck e he)) (fun e he => Nat.le_of_lt (hkr e he))
  | case6 s p c ih =>
    intro lo hi t' h hs hl hh he
    obtain ⟨c', hc, rfl⟩ := Option.map_eq_some_iff.mp he
    exact link_hit hl hh (DR_mk (ih lo hi c' (DR_child h) hs hl hh hc))
  | case9 s p c k' v' r hlt hne ih =>
    intro lo hi t' h hs hl hh he
    obtain ⟨c', hc, rfl⟩ := Option.map_eq_some_iff.mp he
    have hk : k ≤ k' := Nat.le_of_not_lt hlt
    exact ⟨link_hit hl hk (DR_mk (ih lo (some k') c' (DR_child h.1) (sorted_cons_parts hs).1 hl hk hc)),
      DR_mono mono _ _ _ h.2⟩

end T

end Mast
