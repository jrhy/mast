import Mastverif.Lemmas.Incr
/-!
# Counting what a flush writes

`cntD t` = number of nodes a flush writes below the row `t` (= length of `storesBelow`).
`cntIn m lo hi t` = how many of them have `m` in their closed key range.
* `cover`: under `DR M`, every written node is counted by at least one modified key;
* `cntIn_claims`: in a tree with strictly ascending keys a key lies in the range of at most two nodes
  per level (one if it is a separator bound of the row), so `cntIn ≤ 2 · lvl`.
Together: `cntD t ≤ |M| · 2 · lvl t`.
-/
namespace Mast
namespace T

def cntD : T → Nat
  | nil => 0
  | last p c => if p || c.isNil then 0 else cntD c + 1
  | cons p c _ _ r => (if p || c.isNil then 0 else cntD c + 1) + cntD r

theorem storesBelow_length (e : Enc) : ∀ t : T, (storesBelow e t).length = cntD t := by
  have link : ∀ {p : Bool} {c : T}, (storesBelow e c).length = cntD c →
      (if p || c.isNil then [] else storesBelow e c ++ [(nodeName e c, nodeBytes e c)]).length =
        if p || c.isNil then 0 else cntD c + 1 := by
    intro p c ih
    cases (p || c.isNil)
    · exact (List.length_append).trans (congrArg (· + 1) ih)
    · rfl
  intro t
  induction t with
  | nil => rfl
  | last p c ih => exact link ih
  | cons p c k v r ihc ihr => exact List.length_append.trans (congr (congrArg _ (link ihc)) ihr)

def inRb (lo hi : Option Nat) (m : Nat) : Bool :=
  (match lo with | none => true | some l => decide (l ≤ m)) &&
  (match hi with | none => true | some h => decide (m ≤ h))

theorem inRb_iff (lo hi : Option Nat) (m : Nat) : inRb lo hi m = true ↔ loLe lo m ∧ leHi m hi := by
  cases lo <;> cases hi <;> simp [inRb]

def cntIn (m : Nat) : Option Nat → Option Nat → T → Nat
  | _, _, nil => 0
  | lo, hi, last p c => if p || c.isNil then 0 else cntIn m lo hi c + (if inRb lo hi m then 1 else 0)
  | lo, hi, cons p c k _ r =>
      (if p || c.isNil then 0 else cntIn m lo (some k) c + (if inRb lo (some k) m then 1 else 0)) +
        cntIn m (some k) hi r

def sumM (M : List Nat) (f : Nat → Nat) : Nat := (M.map f).sum

theorem sumM_add (M : List Nat) (f g : Nat → Nat) : sumM M (fun m => f m + g m) = sumM M f + sumM M g := by
  induction M with
  | nil => rfl
  | cons x M ih => simp only [sumM, List.map_cons, List.sum_cons] at ih ⊢; rw [ih, Nat.add_add_add_comm]

theorem sumM_ge (M : List Nat) (f : Nat → Nat) (m : Nat) (hm : m ∈ M) : f m ≤ sumM M f := by
  induction M with
  | nil => cases hm
  | cons x M ih =>
    simp only [sumM, List.map_cons, List.sum_cons]
    rcases List.mem_cons.mp hm with rfl | h
    · exact Nat.le_add_right _ _
    · exact Nat.le_trans (ih h) (Nat.le_add_left _ _)

theorem sumM_le (M : List Nat) (f : Nat → Nat) (b : Nat) (h : ∀ m ∈ M, f m ≤ b) : sumM M f ≤ M.length * b := by
  induction M with
  | nil => exact Nat.zero_le _
  | cons x M ih =>
    simp only [sumM, List.map_cons, List.sum_cons, List.length_cons, Nat.succ_mul]
    rw [Nat.add_comm]
    exact Nat.add_le_add (ih fun m hm => h m (List.mem_cons_of_mem x hm)) (h x List.mem_cons_self)

theorem cover (M : List Nat) : ∀ (t : T) (lo hi : Option Nat), DR M lo hi t →
    cntD t ≤ sumM M (fun m => cntIn m lo hi t) := by
  have link : ∀ {p : Bool} {c : T} {lo hi : Option Nat},
      (DR M lo hi c → cntD c ≤ sumM M (fun m => cntIn m lo hi c)) → DRLink M lo hi p c →
      (if p || c.isNil then 0 else cntD c + 1) ≤
        sumM M (fun m => if p || c.isNil then 0 else cntIn m lo hi c + (if inRb lo hi m then 1 else 0)) := by
    intro p c lo hi ih h
    cases hw : (p || c.isNil) with
    | true => exact Nat.zero_le _
    | false =>
      have ⟨⟨m, hm, hin⟩, hc⟩ := h.written hw
      have h1 : 1 ≤ sumM M (fun m => if inRb lo hi m then 1 else 0) :=
        Nat.le_trans (by rw [if_pos ((inRb_iff lo hi m).mpr hin)]; exact Nat.le_refl 1) (sumM_ge M _ m hm)
      simp only [Bool.false_eq_true, if_false, sumM_add]
      exact Nat.add_le_add (ih hc) h1
  intro t
  induction t with
  | nil => intro lo hi _; exact Nat.zero_le _
  | last p c ih => intro lo hi h; exact link (ih lo hi) h
  | cons p c k v r ihc ihr =>
    intro lo hi h
    simp only [cntD, cntIn, sumM_add]
    exact Nat.add_le_add (link (ihc lo (some k)) h.1) (ihr (some k) hi h.2)

def loLt : Option Nat → Nat → Prop
  | none, _ => True
  | some l, m => l < m

def ltHi : Nat → Option Nat → Prop
  | _, none => True
  | m, some h => m < h

@[simp] theorem loLt_none (m : Nat) : loLt none m = True := rfl
@[simp] theorem loLt_some (l m : Nat) : loLt (some l) m = (l < m) := rfl
@[simp] theorem ltHi_none (m : Nat) : ltHi m none = True := rfl
@[simp] theorem ltHi_some (m h : Nat) : ltHi m (some h) = (m < h) := rfl

/-- the keys of the row lie strictly between its separators -/
def Bnd (lo hi : Option Nat) (t : T) : Prop := ∀ e ∈ toList t, loLt lo e.1 ∧ ltHi e.1 hi

/-- Bounds on the number `n` of nodes on `L` levels between the separators `lo` and `hi` whose
    closed range holds `m`: none if `m` lies outside, one per level if `m` is a separator. -/
structure CntClaims (m : Nat) (lo hi : Option Nat) (n L : Nat) : Prop where
  z1 : ∀ l, lo = some l → m < l → n = 0
  z2 : ∀ h, hi = some h → h < m → n = 0
  e1 : lo = some m → n ≤ L
  e2 : hi = some m → n ≤ L
  s : n ≤ 2 * L

namespace CntClaims
variable {m : Nat} {lo hi : Option Nat}

theorem zero (L : Nat) : CntClaims m lo hi 0 L :=
  ⟨fun _ _ _ => rfl, fun _ _ _ => rfl, fun _ => Nat.zero_le _, fun _ => Nat.zero_le _, Nat.zero_le _⟩

/-- from the nodes below `c` to the link to `c`: one more level, on which `c` itself may count -/
theorem link {n L : Nat} (p : Bool) (c : T) (h : CntClaims m lo hi n L) :
    CntClaims m lo hi (if p || c.isNil then 0 else n + (if inRb lo hi m then 1 else 0))
      (if c.isNil then 0 else L + 1) := by
  cases hw : (p || c.isNil) with
  | true => exact zero _
  | false =>
    rw [(Bool.or_eq_false_iff.mp hw).2]
    have out : ¬ (loLe lo m ∧ leHi m hi) → n = 0 → n + (if inRb lo hi m then 1 else 0) = 0 :=
      fun hout hn => by rw [hn, if_neg fun hin => hout ((inRb_iff lo hi m).mp hin)]
    have hb : (if inRb lo hi m then 1 else 0) ≤ 1 := by split <;> decide
    refine ⟨fun l hlo hm => ?_, fun u hhi hm => ?_, fun hlo => Nat.add_le_add (h.e1 hlo) hb,
      fun hhi => Nat.add_le_add (h.e2 hhi) hb, Nat.add_le_add h.s (Nat.le_succ_of_le hb)⟩
    · subst hlo; exact out (fun hin => Nat.not_le_of_lt hm hin.1) (h.z1 l rfl hm)
    · subst hhi; exact out (fun hin => Nat.not_le_of_lt hm hin.2) (h.z2 u rfl hm)

theorem join {k nl nr Ll Lr : Nat} (hl : loLt lo k) (hh : ltHi k hi) (cl : CntClaims m lo (some k) nl Ll)
    (cr : CntClaims m (some k) hi nr Lr) : CntClaims m lo hi (nl + nr) (max Ll Lr) := by
  have left : m < k → nl + nr = nl := fun h => by rw [cr.z1 k rfl h]; rfl
  have right : k < m → nl + nr = nr := fun h => by rw [cl.z2 k rfl h, Nat.zero_add]
  refine ⟨fun l hlo hm => ?_, fun u hhi hm => ?_, fun hlo => ?_, fun hhi => ?_, ?_⟩
  · subst hlo; rw [left (Nat.lt_trans hm hl)]; exact cl.z1 l rfl hm
  · subst hhi; rw [right (Nat.lt_trans hh hm)]; exact cr.z2 u rfl hm
  · subst hlo; rw [left hl]; exact Nat.le_trans (cl.e1 rfl) (Nat.le_max_left _ _)
  · subst hhi; rw [right hh]; exact Nat.le_trans (cr.e2 rfl) (Nat.le_max_right _ _)
  · rcases Nat.lt_trichotomy m k with h | h | h
    · rw [left h]; exact Nat.le_trans cl.s (Nat.mul_le_mul_left 2 (Nat.le_max_left _ _))
    · rw [Nat.two_mul]
      exact Nat.add_le_add (Nat.le_trans (cl.e2 (h ▸ rfl)) (Nat.le_max_left _ _))
        (Nat.le_trans (cr.e1 (h ▸ rfl)) (Nat.le_max_right _ _))
    · rw [right h]; exact Nat.le_trans cr.s (Nat.mul_le_mul_left 2 (Nat.le_max_right _ _))

end CntClaims

theorem cntIn_claims (m : Nat) : ∀ (t : T) (lo hi : Option Nat), Sorted (toList t) → Bnd lo hi t →
    CntClaims m lo hi (cntIn m lo hi t) (lvl t) := by
  intro t
  induction t with
  | nil => intro lo hi _ _; exact .zero 0
  | last p c ih => intro lo hi hs hb; exact (ih lo hi hs hb).link p c
  | cons p c k v r ihc ihr =>
    intro lo hi hs hb
    obtain ⟨sc, sr, hck, hkr⟩ := sorted_cons_parts hs
    have hk := hb (k, v) (List.mem_append_right _ List.mem_cons_self)
    have bc : Bnd lo (some k) c := fun e he => ⟨(hb e (List.mem_append_left _ he)).1, hck e he⟩
    have br : Bnd (some k) hi r := fun e he =>
      ⟨hkr e he, (hb e (List.mem_append_right _ (List.mem_cons_of_mem _ he))).2⟩
    exact ((ihc lo (some k) sc bc).link p c).join hk.1 hk.2 (ihr (some k) hi sr br)

theorem cntD_le (M : List Nat) (t : T) (h : DR M none none t) (hs : Sorted (toList t)) :
    cntD t ≤ M.length * (2 * lvl t) :=
  Nat.le_trans (cover M t none none h)
    (sumM_le M _ _ fun m _ => (cntIn_claims m t none none hs fun _ _ => ⟨trivial, trivial⟩).s)

end T
end Mast
