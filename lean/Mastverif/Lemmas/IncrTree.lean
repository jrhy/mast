import Mastverif.Lemmas.IncrCount
/-!
# Incremental persistence at the level of the API

From a version that has nothing to write (`DR [] none none root`: just persisted, just loaded, or
the empty tree), along any history of calls without a persist and without a change of height,
the tree satisfies `DR` for the keys the calls modified; hence the next `MakeRoot` writes at most
`2 · height` nodes per modified key below the top node, plus the top node.
-/
namespace Mast
namespace Tree
open T
variable (layer : Nat → Nat)

theorem growLoop_same (fuel : Nat) (m : Tree) (h : (growLoop layer fuel m).height = m.height) :
    growLoop layer fuel m = m := by
  cases fuel with
  | zero => rfl
  | succ fuel =>
    unfold growLoop at h ⊢
    split
    · next hc =>
      rw [if_pos hc] at h
      have := growLoop_induct layer (P := fun m' => m.height + 1 ≤ m'.height) (fun _ h _ => Nat.le_succ_of_le h)
        fuel (growStep layer m) (Nat.le_refl _)
      exact absurd (h ▸ this) (Nat.not_succ_le_self _)
    · rfl

/-- a step is taken at positive height only -/
theorem shrinkLoop_same (fuel : Nat) (m : Tree) (h : (shrinkLoop fuel m).height = m.height) :
    shrinkLoop fuel m = m := by
  cases fuel with
  | zero => rfl
  | succ fuel =>
    unfold shrinkLoop at h ⊢
    split
    · next hc =>
      rw [if_pos hc] at h
      have := shrinkLoop_induct (P := fun m' => m'.height ≤ m.height - 1) (fun _ h _ => Nat.le_trans (Nat.sub_le _ 1) h)
        fuel (shrinkStep m) (Nat.le_refl _)
      exact absurd (h ▸ this) (Nat.not_le_of_lt (Nat.sub_lt hc.1 Nat.one_pos))
    · rfl

theorem insert_root (m m' : Tree) (k v : Nat) (h : insert layer m k v = .ok m') (hh : m'.height = m.height) :
    m'.root = m.root ∨ ∃ s, ins k v s m.root = some m'.root := by
  rcases insert_ok layer h with rfl | ⟨r, hr, rfl | rfl⟩
  · exact Or.inl rfl
  · exact Or.inr ⟨_, hr⟩
  · exact Or.inr ⟨_, hr.trans (congrArg (some ·.root) (growLoop_same layer _ _ hh).symm)⟩

theorem delete_root (m m' : Tree) (k v : Nat) (h : delete layer m k v = .ok m') (hh : m'.height = m.height) :
    ∃ s, del k s m.root = some m'.root := by
  obtain ⟨r, hr, rfl⟩ := delete_ok layer h
  exact ⟨_, hr.trans (congrArg (some ·.root) (shrinkLoop_same _ _ hh).symm)⟩

def keysOf : Op → List Nat
  | .ins k _ => [k]
  | .del k _ => [k]
  | _ => []

theorem step_DR (e : Enc) (m : Tree) (op : Op) (M : List Nat) (hi : Inv layer m)
    (hd : DR M none none m.root) (hp : isPersist op = false)
    (hh : (stepT layer e m op).1.height = m.height) :
    DR (keysOf op ++ M) none none (stepT layer e m op).1.root := by
  rcases stepT_cases layer e m op hp with h | ⟨k, v, rfl, h⟩ | ⟨k, v, rfl, h⟩
  · rw [h]; exact DR_mono (fun _ => List.mem_append_right _) _ _ _ hd
  · rcases insert_root layer m _ k v h hh with h1 | ⟨s, h1⟩
    · rw [h1]; exact DR_mono (fun _ => List.mem_cons_of_mem k) _ _ _ hd
    · exact ins_DR M k v m.root s none none _ hd trivial trivial h1
  · obtain ⟨s, h1⟩ := delete_root layer m _ k v h hh
    exact del_DR M k m.root s none none _ hd hi.sorted trivial trivial h1

/-- no step of the history changes the height -/
def heightsSame (e : Enc) : Tree → List Op → Prop
  | _, [] => True
  | m, op :: ops => (stepT layer e m op).1.height = m.height ∧ heightsSame e (stepT layer e m op).1 ops

/-- the keys a history modifies (latest first) -/
def modKeys : List Op → List Nat
  | [] => []
  | op :: ops => modKeys ops ++ keysOf op

theorem exec_DR (e : Enc) : ∀ (ops : List Op) (m : Tree) (M : List Nat), Inv layer m → DR M none none m.root →
    (∀ op ∈ ops, isPersist op = false) → heightsSame layer e m ops →
    DR (modKeys ops ++ M) none none (execT layer e m ops).root := by
  intro ops
  induction ops with
  | nil => intro m M _ hd _ _; exact hd
  | cons op ops ih =>
    intro m M hi hd hp hh
    have h1 := step_DR layer e m op M hi hd (hp op List.mem_cons_self) hh.1
    have h2 := ih _ _ (step_refines layer e m op hi).2.1 h1 (fun o ho => hp o (List.mem_cons_of_mem _ ho)) hh.2
    rw [← List.append_assoc] at h2
    exact h2

theorem makeRoot_count (e : Enc) (m : Tree) (M : List Nat) (hi : Inv layer m) (hd : DR M none none m.root) :
    (makeRoot e m).1.length ≤ M.length * (2 * m.height) + 1 := by
  rw [makeRoot_stores]
  split
  · exact Nat.zero_le _
  · rw [List.length_append, storesBelow_length]
    exact Nat.succ_le_succ (Nat.le_trans (cntD_le M m.root hd hi.sorted)
      (Nat.mul_le_mul_left _ (Nat.mul_le_mul_left 2 (lvl_le_of_WF layer m.root m.height hi.wf))))

end Tree
end Mast
