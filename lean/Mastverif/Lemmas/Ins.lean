import Mastverif.Lemmas.Spec
import Mastverif.Lemmas.WF
/-!
# `ins` refines `insL` and preserves the shape

`t` is a node row at level `tgt + s`; the key's target level is `tgt`, i.e. `tgt ≤ layer k`, and
when the descent has levels to go (`s > 0`) the key's layer is exactly the target level
(`layer k ≤ tgt`).  These are the conditions under which `Tree.insert` calls `ins`.
-/
namespace Mast
namespace T
variable (layer : Nat → Nat)

theorem ins_nil (k v s : Nat) : ins k v s nil = some (freshPath s k v) := by cases s <;> rfl

theorem ins_cons_lt {k k' : Nat} (h : k' < k) (v s : Nat) (p : Bool) (c : T) (v' : Nat) (r : T) :
    ins k v s (cons p c k' v' r) = (ins k v s r).map (cons p c k' v') := by
  cases s <;> simp only [ins, if_pos h]

theorem toList_split_ins (c : T) (k v : Nat) (hs : Sorted (toList c)) (hne : ∀ e ∈ toList c, e.1 ≠ k) :
    toList (mk (split c k).1) ++ (k, v) :: toList (mk (split c k).2) = insL k v (toList c) := by
  obtain ⟨h1, h2⟩ := split_bounds c k hs hne
  rw [toList_mk, toList_mk, ← insL_mid _ _ h1 h2, toList_split]

theorem childOK_ins {d k v : Nat} {c c' : T} (hc : ChildOK layer (d + 1) c) (hk : layer k < d + 1)
    (hw : WF layer d c') (hl : toList c' = insL k v (toList c)) : ChildOK layer (d + 1) c' := by
  refine childOK_of layer hw (hl ▸ insL_ne_nil k v _) (fun e he => ?_)
  rcases mem_insL (hl ▸ he) with rfl | he
  · exact hk
  · exact child_low layer hc e he

/-- Stated for a link (`t = nil` allowed: `ins` then builds the fresh chain), so that the descent
    through an absent child is not a case of its own. -/
theorem ins_spec (k v : Nat) {tgt : Nat} (hk : tgt ≤ layer k) : ∀ (t : T) (s : Nat),
    t = nil ∨ WF layer (tgt + s) t → Sorted (toList t) → layer k ≤ tgt ∨ s = 0 →
    ∃ t', ins k v s t = some t' ∧ toList t' = insL k v (toList t) ∧ WF layer (tgt + s) t' := by
  refine descent_induction layer hk ?absent ?last_here ?last_down ?cons_lt ?cons_eq ?cons_gt_here ?cons_gt_down
  case absent =>
    intro s hs
    exact ⟨_, ins_nil k v s, toList_freshPath s k v, freshPath_WF layer k v s tgt hk hs⟩
  case last_here =>
    intro p c hc hsc hne
    exact ⟨_, rfl, toList_split_ins c k v hsc hne, hk, (childOK_split layer k hc).2, (childOK_split layer k hc).1⟩
  case last_down =>
    rintro s p c hkl hc - ⟨c', e, hl, hw⟩
    exact ⟨last false c', by rw [ins, e]; rfl, hl, childOK_ins layer hc hkl hw hl⟩
  case cons_lt =>
    rintro s p c k' v' r h hlt ⟨r', e, hl, hw⟩
    refine ⟨cons p c k' v' r', by rw [ins_cons_lt hlt, e]; rfl, ?_, h.key, hw, h.child⟩
    rw [toList, toList, hl, insL_append_lt _ _ (h.child_lt layer hlt), insL_cons_lt _ hlt]
  case cons_eq =>
    intro p c v' r h
    exact ⟨cons p c k v r, by simp only [ins, Nat.lt_irrefl, if_false, if_true], (insL_present h.lt).symm,
      h.key, h.rest, h.child⟩
  case cons_gt_here =>
    intro p c k' v' r h hgt hne
    refine ⟨cons false (mk (split c k).1) k v (cons false (mk (split c k).2) k' v' r),
      by simp only [ins, if_neg (Nat.lt_asymm hgt), if_neg (Nat.ne_of_gt hgt)], ?_,
      hk, ⟨h.key, h.rest, (childOK_split layer k h.child).2⟩, (childOK_split layer k h.child).1⟩
    rw [toList, toList, toList, insL_append_gt _ _ (h.tail_gt layer hgt v'), ← toList_split_ins c k v h.sc hne,
      List.append_assoc, List.cons_append]
  case cons_gt_down =>
    rintro s p c k' v' r h hgt hkl ⟨c', e, hl, hw⟩
    refine ⟨cons false c' k' v' r, ?_, ?_, h.key, h.rest, childOK_ins layer h.child hkl hw hl⟩
    · simp only [ins, if_neg (Nat.lt_asymm hgt), if_neg (Nat.ne_of_gt hgt), e, Option.map_some]
    · rw [toList, toList, hl, insL_append_gt _ _ (h.tail_gt layer hgt v')]

theorem toList_ins (k v : Nat) (t : T) (s tgt : Nat) (t' : T)
    (h : WF layer (tgt + s) t) (hsrt : Sorted (toList t)) (hk : tgt ≤ layer k)
    (hs : layer k ≤ tgt ∨ s = 0) (hi : ins k v s t = some t') : toList t' = insL k v (toList t) := by
  obtain ⟨t'', e, hl, _⟩ := ins_spec layer k v hk t s (Or.inr h) hsrt hs
  cases e.symm.trans hi; exact hl

theorem ins_WF (k v : Nat) (t : T) (s tgt : Nat) (t' : T)
    (h : WF layer (tgt + s) t) (hsrt : Sorted (toList t)) (hk : tgt ≤ layer k)
    (hs : layer k ≤ tgt ∨ s = 0) (hi : ins k v s t = some t') : WF layer (tgt + s) t' := by
  obtain ⟨t'', e, _, hw⟩ := ins_spec layer k v hk t s (Or.inr h) hsrt hs
  cases e.symm.trans hi; exact hw

end T
end Mast
