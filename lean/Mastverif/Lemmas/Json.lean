import Mastverif.Model.Json
/-!
# Round trip of the v1marshaler node format

`decJson (encJson n)` gives back the node's keys, values and child names, provided every key and
value body is a *plain* element: non-empty, and scanning it from a clean state ends in a clean
state having only appended its bytes (balanced brackets, closed strings, no comma at depth 0) —
true of every JSON value; names must not contain `"` or `\\` (base64url names never do).
-/
namespace Mast
namespace Json
open Codec

/-- scanning a run of bytes that stays inside one element -/
def runBytes : Sc → Bytes → Option Sc
  | s, [] => some s
  | s, b :: rest =>
      match step s b with
      | .more s' => runBytes s' rest
      | _ => none

def Clean (s : Sc) : Prop := s.depth = 0 ∧ s.inStr = false ∧ s.esc = false

/-- an element the scanner passes over unchanged -/
def Plain (e : Bytes) : Prop :=
  e ≠ [] ∧ ∀ s : Sc, Clean s → runBytes s e = some { s with cur := e.reverse ++ s.cur }

theorem runBytes_append : ∀ (a b : Bytes) (s : Sc),
    runBytes s (a ++ b) = (runBytes s a).bind fun s' => runBytes s' b := by
  intro a
  induction a with
  | nil => intro b s; rfl
  | cons x a ih =>
    intro b s
    simp only [List.cons_append, runBytes]
    cases step s x with
    | more s1 => exact ih b s1
    | done _ => rfl
    | bad => rfl

/-- bytes each of which only joins the element being collected -/
theorem runBytes_cur : ∀ (e : Bytes) (s : Sc),
    (∀ b ∈ e, ∀ cur, step { s with cur := cur } b = .more { s with cur := b :: cur }) →
    runBytes s e = some { s with cur := e.reverse ++ s.cur } := by
  intro e
  induction e with
  | nil => intro s _; rfl
  | cons b e ih =>
    intro s h
    rw [runBytes, show step s b = _ from h b List.mem_cons_self s.cur]
    dsimp only
    rw [ih { s with cur := b :: s.cur } fun c hc cur => h c (List.mem_cons_of_mem _ hc) cur, List.reverse_cons,
      List.append_assoc]
    rfl

theorem runBytes_inString (nm : Bytes) (s : Sc) (h1 : s.inStr = true) (h2 : s.esc = false)
    (h : ∀ b ∈ nm, b ≠ 34 ∧ b ≠ 92) : runBytes s nm = some { s with cur := nm.reverse ++ s.cur } :=
  runBytes_cur nm s fun b hb cur => by
    simp only [step, h1, h2, if_true, Bool.false_eq_true, if_false, (h b hb).1, (h b hb).2]

/-- bytes with no structural character (numbers, `true`, `null`, …) -/
def Simple (e : Bytes) : Prop := ∀ b ∈ e, b ≠ 34 ∧ b ≠ 44 ∧ b ≠ 91 ∧ b ≠ 93 ∧ b ≠ 123 ∧ b ≠ 125

theorem plain_simple (e : Bytes) (hne : e ≠ []) (h : Simple e) : Plain e :=
  ⟨hne, fun s hs => runBytes_cur e s fun b hb cur => by
    obtain ⟨a1, a2, a3, a4, a5, a6⟩ := h b hb
    simp only [step, hs.2.1, Bool.false_eq_true, if_false, a1, a2, a3, a4, a5, a6, or_self, false_and]⟩

theorem plain_null : Plain litNull := plain_simple litNull (by decide) (by unfold Simple; decide)

theorem plain_quote (nm : Bytes) (h : ∀ b ∈ nm, b ≠ 34 ∧ b ≠ 92) : Plain (quote nm) := by
  refine ⟨List.cons_ne_nil _ _, fun s hs => ?_⟩
  obtain ⟨depth, inStr, esc, cur, acc⟩ := s
  obtain ⟨rfl, rfl, rfl⟩ := hs
  -- the opening quote enters the string, the closing one leaves it
  show runBytes { depth := 0, inStr := true, esc := false, cur := 34 :: cur, acc := acc } (nm ++ [34]) = _
  rw [runBytes_append, runBytes_inString nm _ rfl rfl h]
  show some ({ depth := 0, inStr := false, esc := false, cur := 34 :: (nm.reverse ++ 34 :: cur), acc := acc } : Sc) = _
  simp [quote]

theorem scan_runBytes : ∀ (e : Bytes) (s s' : Sc) (rest : Bytes), runBytes s e = some s' →
    scan s (e ++ rest) = scan s' rest := by
  intro e
  induction e with
  | nil => intro s s' rest h; cases h; rfl
  | cons b e ih =>
    intro s s' rest h
    simp only [runBytes] at h
    simp only [List.cons_append, scan]
    cases hs : step s b with
    | more s1 => rw [hs] at h; exact ih s1 s' rest h
    | done _ => rw [hs] at h; cases h
    | bad => rw [hs] at h; cases h

theorem scan_plain {e : Bytes} (he : Plain e) (s : Sc) (hs : Clean s) (rest : Bytes) :
    scan s (e ++ rest) = scan { s with cur := e.reverse ++ s.cur } rest :=
  scan_runBytes e s _ rest (he.2 s hs)

theorem scan_comma (s : Sc) (hs : Clean s) (rest : Bytes) :
    scan s (44 :: rest) = scan { s with cur := [], acc := s.cur.reverse :: s.acc } rest := by
  simp [scan, step, hs.1, hs.2.1]

theorem scan_close (s : Sc) (hs : Clean s) (rest : Bytes) : scan s (93 :: rest) = some (finish s, rest) := by
  simp [scan, step, hs.1, hs.2.1]

theorem clean_mk (cur : Bytes) (acc : List Bytes) :
    Clean { depth := 0, inStr := false, esc := false, cur := cur, acc := acc } := ⟨rfl, rfl, rfl⟩

theorem scan_join : ∀ (xs : List Bytes) (x : Bytes) (acc : List Bytes) (rest : Bytes),
    (∀ y ∈ x :: xs, Plain y) →
    scan { depth := 0, inStr := false, esc := false, cur := [], acc := acc } (joinComma (x :: xs) ++ 93 :: rest) =
      some (acc.reverse ++ x :: xs, rest) := by
  intro xs
  induction xs with
  | nil =>
    intro x acc rest h
    have hx := h x List.mem_cons_self
    simp only [joinComma]
    rw [scan_plain hx _ (clean_mk _ _), scan_close _ (clean_mk _ _)]
    have hne : x.reverse ≠ [] := by simpa using hx.1
    simp [finish, hne]
  | cons y ys ih =>
    intro x acc rest h
    simp only [joinComma, List.append_assoc, List.cons_append]
    rw [scan_plain (h x List.mem_cons_self) _ (clean_mk _ _), scan_comma _ (clean_mk _ _)]
    simp only [List.append_nil, List.reverse_reverse]
    rw [ih y (x :: acc) rest fun z hz => h z (List.mem_cons_of_mem _ hz)]
    simp

theorem scanArray_jsonArray (l : List Bytes) (rest : Bytes) (h : ∀ y ∈ l, Plain y) :
    scanArray (joinComma l ++ 93 :: rest) = some (l, rest) := by
  unfold scanArray
  cases l with
  | nil => simp [joinComma, scan, step, finish]
  | cons x xs => simpa using scan_join xs x [] rest h

theorem expect_append (lit rest : Bytes) : expect lit (lit ++ rest) = some rest := by
  rw [expect, if_pos (List.isPrefixOf_iff_prefix.mpr (List.prefix_append lit rest)), List.drop_left]

theorem expect_array (lit : Bytes) (l : List Bytes) (rest : Bytes) :
    expect (lit ++ [91]) (lit ++ (jsonArray l ++ rest)) = some (joinComma l ++ 93 :: rest) := by
  have e : lit ++ (jsonArray l ++ rest) = (lit ++ [91]) ++ (joinComma l ++ 93 :: rest) := by
    rw [List.append_assoc, jsonArray, List.append_assoc]
    rfl
  rw [e, expect_append]

theorem linkElem_linkText (l : Option Bytes) : linkElem (linkText l) = some l := by
  cases l with
  | none => exact if_pos rfl
  | some nm =>
    show linkElem (34 :: (nm ++ [34])) = _
    rw [linkElem, if_neg fun h : 34 :: (nm ++ [34]) = litNull => absurd (List.cons.inj h).1 (by decide),
      List.reverse_append]
    show some (some nm.reverse.reverse) = _
    rw [List.reverse_reverse]

/-- a node whose parts the v1marshaler decoder reads back -/
structure JNodeOK (n : NodeB) : Prop where
  keys : ∀ b ∈ n.keys, Plain b
  vals : ∀ b ∈ n.vals, Plain b
  names : ∀ nm, some nm ∈ n.links → ∀ b ∈ nm, b ≠ 34 ∧ b ≠ 92

theorem mapM_linkElem (ls : List (Option Bytes)) : (ls.map linkText).mapM linkElem = some ls := by
  induction ls with
  | nil => rfl
  | cons l ls ih => rw [List.map_cons, List.mapM_cons, linkElem_linkText, ih]; rfl

theorem decJson_encJson (n : NodeB) (h : JNodeOK n) :
    decJson (encJson n) = some (RawNode.mk (n.keys.map some) (n.vals.map some)
      (if n.links.all Option.isNone then [] else n.links)) := by
  have hl : ∀ y ∈ n.links.map linkText, Plain y := by
    intro y hy
    obtain ⟨l, hlm, rfl⟩ := List.mem_map.mp hy
    cases l with
    | none => exact plain_null
    | some nm => exact plain_quote nm (h.names nm hlm)
  unfold decJson encJson
  rw [List.append_assoc, List.append_assoc, List.append_assoc, List.append_assoc, expect_array]
  dsimp only
  rw [scanArray_jsonArray n.keys _ h.keys]
  dsimp only
  rw [expect_array]
  dsimp only
  rw [scanArray_jsonArray n.vals _ h.vals]
  dsimp only
  cases n.links.all Option.isNone with
  | true => rfl
  | false =>
    rw [if_neg Bool.false_ne_true, if_neg Bool.false_ne_true, List.append_assoc,
      if_neg fun h : litLink ++ _ = [125] => absurd (List.cons.inj h).1 (by decide), expect_array]
    dsimp only
    rw [scanArray_jsonArray _ _ hl]
    simp only [if_true, mapM_linkElem]

end Json
end Mast
