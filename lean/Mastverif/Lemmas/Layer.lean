import Mastverif.Model.Store
/-! `uintLayer` is the multiplicity of the branch factor. -/
namespace Mast

theorem uintLayer_pos_step (bf v : Nat) (h : 2 ≤ bf ∧ v ≠ 0 ∧ v % bf = 0) :
    uintLayer bf v = uintLayer bf (v / bf) + 1 := by
  rw [uintLayer, dif_pos h]

theorem uintLayer_zero_step (bf v : Nat) (h : ¬ (2 ≤ bf ∧ v ≠ 0 ∧ v % bf = 0)) :
    uintLayer bf v = 0 := by
  rw [uintLayer, dif_neg h]

theorem uintLayer_spec (bf : Nat) (hbf : 2 ≤ bf) : ∀ v : Nat, v ≠ 0 →
    bf ^ (uintLayer bf v) ∣ v ∧ ¬ bf ^ (uintLayer bf v + 1) ∣ v := by
  intro v
  induction v using Nat.strongRecOn with
  | _ v ih =>
    intro hv
    by_cases hm : v % bf = 0
    · -- `v = v / bf * bf`: one factor more than in `v / bf`
      have hq : v / bf * bf = v := Nat.div_mul_cancel (Nat.dvd_of_mod_eq_zero hm)
      have hne : v / bf ≠ 0 := fun h0 => hv (by rw [← hq, h0, Nat.zero_mul])
      obtain ⟨h1, h2⟩ := ih (v / bf) (Nat.div_lt_self (Nat.pos_of_ne_zero hv) hbf) hne
      rw [uintLayer_pos_step bf v ⟨hbf, hv, hm⟩, Nat.pow_succ, Nat.pow_succ]
      generalize v / bf = q at hq h1 h2 ⊢
      subst hq
      exact ⟨Nat.mul_dvd_mul_right h1 bf,
        fun hd => h2 (Nat.dvd_of_mul_dvd_mul_right (Nat.lt_of_lt_of_le (by decide) hbf) hd)⟩
    · rw [uintLayer_zero_step bf v fun h => hm h.2.2, Nat.pow_zero, Nat.zero_add, Nat.pow_one]
      exact ⟨Nat.one_dvd v, fun hd => hm (Nat.mod_eq_zero_of_dvd hd)⟩
end Mast
