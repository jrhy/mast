import Mastverif.Model.Loader
/-!
# The loader's top-node check

`checkTop_cases`: whatever the decoder, the chain of checks in `checkTop` ends in an error or accepts a
node that is `GoodTop`.  `decOf` makes the format a variable of the statements about `loadMast`.
-/
namespace Mast.Loader

/-- what acceptance of a top node guarantees, `dec` being the decoder of its format -/
structure GoodTop (dec : Bytes → Option Codec.RawNode) (kk : KeyKind) (layer : Nat → Nat) (height : Nat) (desc : Bool) (bytes : Bytes) : Prop where
  decodes : ∃ raw keys, dec bytes = some raw ∧
    raw.keys.mapM (fun b => b.bind (parseKey kk)) = some keys ∧
    keys.length = raw.vals.length ∧
    (if raw.links.length = 0 then keys.length + 1 else raw.links.length) = keys.length + 1 ∧
    ascending desc keys = true ∧ ∀ k ∈ keys, height ≤ layer k

/-- one check of the chain: it rejects with an error, or the rest decides -/
theorem err_or_of_ite {c : Prop} [Decidable c] {x : String} {o : Outcome} {P : Prop}
    (h : ¬ c → (∃ why, o = .err why) ∨ (o = .ok ∧ P)) :
    (∃ why, (if c then Outcome.err x else o) = .err why) ∨ ((if c then Outcome.err x else o) = .ok ∧ P) := by
  by_cases hc : c
  · rw [if_pos hc]; exact .inl ⟨x, rfl⟩
  · rw [if_neg hc]; exact h hc

theorem checkTop_cases (dec kk layer height desc bytes) :
    (∃ why, checkTop dec kk layer height desc bytes = .err why) ∨
    (checkTop dec kk layer height desc bytes = .ok ∧ GoodTop dec kk layer height desc bytes) := by
  unfold checkTop
  cases hraw : dec bytes with
  | none => exact .inl ⟨_, rfl⟩
  | some raw =>
    dsimp only
    cases hkeys : raw.keys.mapM (fun b => b.bind (parseKey kk)) with
    | none => exact .inl ⟨_, rfl⟩
    | some keys =>
      dsimp only
      -- the four checks in their order: value bodies, counts, key order, layers
      refine err_or_of_ite fun _ => err_or_of_ite fun hcounts => err_or_of_ite fun horder =>
        err_or_of_ite fun hlayer => ?_
      have hvals : keys.length = raw.vals.length := Decidable.of_not_not (not_or.mp hcounts).1
      have hlinks : (if raw.links.length = 0 then keys.length + 1 else raw.links.length) = keys.length + 1 :=
        Decidable.of_not_not (not_or.mp hcounts).2
      have hasc : ascending desc keys = true := Decidable.of_not_not horder
      have hlay : ∀ k ∈ keys, height ≤ layer k := fun k hk => Nat.le_of_not_lt fun hlt =>
        hlayer (List.any_eq_true.mpr ⟨k, hk, decide_eq_true hlt⟩)
      exact .inr ⟨rfl, raw, keys, hraw, hkeys, hvals, hlinks, hasc, hlay⟩

theorem checkTop_no_panic (dec kk layer height desc bytes) :
    ∀ why, checkTop dec kk layer height desc bytes ≠ .panic why := by
  intro why h
  rcases checkTop_cases dec kk layer height desc bytes with ⟨w, hw⟩ | hg
  · rw [hw] at h; cases h
  · rw [hg.1] at h; cases h

theorem loadMast_no_panic (fmt kk layer h desc link top) :
    ∀ why, loadMast fmt kk layer h desc link top ≠ .panic why := by
  intro why
  unfold loadMast
  cases knownFormat fmt with
  | none => simp
  | some f =>
    dsimp only
    by_cases hl : ¬ link = true
    · rw [if_pos hl]; simp
    · rw [if_neg hl]
      cases top with
      | none => simp
      | some bytes =>
        cases f with
        | bin => exact checkTop_no_panic _ kk layer h desc bytes why
        | json => exact checkTop_no_panic _ kk layer h desc bytes why

theorem knownFormat_bin : knownFormat "v1.1.5binary" = some Fmt.bin := if_pos rfl

/-- the decoder `LoadMast` takes for a format -/
def decOf : Fmt → Bytes → Option Codec.RawNode
  | .bin => Codec.decBinRaw
  | .json => Json.decJson

theorem loadMast_top {fmt : String} {f : Fmt} (hf : knownFormat fmt = some f) (kk layer height desc bytes) :
    loadMast fmt kk layer height desc true (some bytes) = checkTop (decOf f) kk layer height desc bytes := by
  simp only [loadMast, hf]
  cases f <;> rfl

theorem loadMast_rejects {fmt : String} {f : Fmt} (hf : knownFormat fmt = some f) (kk layer height desc bytes)
    (hbad : ¬ GoodTop (decOf f) kk layer height desc bytes) :
    ∃ why, loadMast fmt kk layer height desc true (some bytes) = .err why := by
  rw [loadMast_top hf]
  exact (checkTop_cases _ kk layer height desc bytes).resolve_right fun hg => hbad hg.2

theorem of_ite_none {c : Prop} [Decidable c] {α : Type} {o : Option α} {x : α}
    (h : (if c then none else o) = some x) : ¬ c ∧ o = some x := by
  by_cases hc : c
  · rw [if_pos hc] at h; cases h
  · rw [if_neg hc] at h; exact ⟨hc, h⟩

/-- a cache entry made under THIS configuration answers as the bytes do -/
theorem checkCached_of_cacheEntry (dec kk layerOf height desc bytes c)
    (hc : cacheEntry dec kk desc bytes = some c) :
    checkCached layerOf height desc c = checkTop dec kk (layerOf kk) height desc bytes := by
  unfold cacheEntry at hc
  unfold checkTop
  cases hraw : dec bytes with
  | none => rw [hraw] at hc; cases hc
  | some raw =>
    rw [hraw] at hc
    dsimp only at hc ⊢
    cases hkeys : raw.keys.mapM (fun b => b.bind (parseKey kk)) with
    | none => rw [hkeys] at hc; cases hc
    | some keys =>
      rw [hkeys] at hc
      dsimp only at hc ⊢
      obtain ⟨hv, hc⟩ := of_ite_none hc
      obtain ⟨hcnt, hc⟩ := of_ite_none hc
      obtain ⟨hasc, hc⟩ := of_ite_none hc
      cases hc
      rw [if_neg hv, if_neg hcnt, if_neg hasc]
      unfold checkCached
      rw [if_neg hcnt, if_neg hasc]

theorem loadMastC_of_cacheEntry {fmt : String} {f : Fmt} (hf : knownFormat fmt = some f)
    (kk layerOf height desc bytes c) (hc : cacheEntry (decOf f) kk desc bytes = some c) :
    loadMastC fmt kk layerOf height desc true (some c) (some bytes) =
      loadMast fmt kk (layerOf kk) height desc true (some bytes) := by
  rw [loadMast_top hf, ← checkCached_of_cacheEntry _ kk layerOf height desc bytes c hc]
  simp only [loadMastC, hf]
  rfl

/-- the stored bytes of a node with the two string keys "aaaaf", "aaaaj" (binary format) -/
def strTop : Bytes := [2, 7, 34, 97, 97, 97, 97, 102, 34, 7, 34, 97, 97, 97, 97, 106, 34, 2, 1, 49, 1, 50, 0]

end Mast.Loader
