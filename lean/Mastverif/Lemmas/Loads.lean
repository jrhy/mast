import Mastverif.Model.Loads
import Mastverif.Lemmas.WF
/-!
# Load bounds

Every load trace of `Model/Loads.lean` follows one descent: it reads the link it enters (`ldn`) and
continues in the child, or moves right in the same node.  `ldn_add_lvl` is the one arithmetic fact:
the link read on the way into `c` is paid for by the level that `last p c` has above `c`.
-/
namespace Mast
namespace T

theorem ldn_le (p : Bool) (c : T) : (ldn p c).length ≤ 1 := by
  unfold ldn
  split
  · exact Nat.le_refl 1
  · exact Nat.zero_le 1

theorem ldn_nil (p : Bool) : ldn p nil = [] := by
  cases p <;> rfl

theorem ldn_lvl (p : Bool) (c : T) : (ldn p c).length ≤ (if c.isNil then 0 else 1) := by
  cases c with
  | nil => rw [ldn_nil]; exact Nat.le_refl 0
  | last q d => exact ldn_le p _
  | cons q d k v r => exact ldn_le p _

theorem ldn_add_lvl (p : Bool) (c : T) : (ldn p c).length + lvl c ≤ lvl (last p c) := by
  cases hc : c.isNil with
  | true => rw [isNil_iff.mp hc, ldn_nil]; exact Nat.le_refl 0
  | false => rw [lvl_last p c hc, Nat.add_comm]; exact Nat.add_le_add_left (ldn_le p c) _

theorem down_le (p : Bool) (c : T) {l : List T} (h : l.length ≤ lvl c) :
    (ldn p c ++ l).length ≤ lvl (last p c) := by
  rw [List.length_append]
  exact Nat.le_trans (Nat.add_le_add_left h _) (ldn_add_lvl p c)

/-- two nodes per level: the merge spine of a delete -/
theorem down_le_twice (p : Bool) (c : T) {l : List T} (h : l.length ≤ 2 * lvl c) :
    (ldn p c ++ l).length ≤ 2 * lvl (last p c) := by
  rw [List.length_append]
  refine Nat.le_trans (Nat.add_le_add (Nat.le_mul_of_pos_left _ (Nat.succ_pos 1)) h) ?_
  rw [← Nat.mul_add]
  exact Nat.mul_le_mul_left 2 (ldn_add_lvl p c)

theorem length_ite_le {α} {c1 c2 : Prop} [Decidable c1] [Decidable c2] {a b d : List α} {n : Nat}
    (ha : a.length ≤ n) (hb : b.length ≤ n) (hd : d.length ≤ n) :
    (if c1 then a else if c2 then b else d).length ≤ n := by
  split
  · exact ha
  · split
    · exact hb
    · exact hd

theorem splitLoads_le (x : Nat) : ∀ t : T, (splitLoads t x).length ≤ lvl t := by
  intro t
  induction t with
  | nil => exact Nat.le_refl 0
  | last p c ih => exact down_le p c ih
  | cons p c k v r ihc ihr =>
    unfold splitLoads
    split
    · exact Nat.le_trans ihr (lvl_le_cons p c k v r)
    · exact Nat.le_trans (down_le p c ihc) (lvl_last_le_cons p c k v r)

theorem getLoads_le (k : Nat) : ∀ (t : T) (s : Nat), (getLoads k s t).length ≤ lvl t := by
  intro t
  induction t with
  | nil => intro s; cases s <;> exact Nat.le_refl 0
  | last p c ih =>
    intro s
    cases s with
    | zero => exact Nat.zero_le _
    | succ s => exact down_le p c (ih s)
  | cons p c k' v' r ihc ihr =>
    intro s
    cases s with
    | zero => exact Nat.zero_le _
    | succ s =>
      exact length_ite_le (Nat.le_trans (ihr (s + 1)) (lvl_le_cons p c k' v' r)) (Nat.zero_le _)
        (Nat.le_trans (down_le p c (ihc s)) (lvl_last_le_cons p c k' v' r))

theorem getLoads_le_levels (k : Nat) : ∀ (t : T) (s : Nat), (getLoads k s t).length ≤ s := by
  have down : ∀ (p : Bool) (c : T) (s : Nat) (l : List T), l.length ≤ s → (ldn p c ++ l).length ≤ s + 1 :=
    fun p c s l h => by rw [List.length_append, Nat.add_comm]; exact Nat.add_le_add h (ldn_le p c)
  intro t
  induction t with
  | nil => intro s; cases s <;> exact Nat.zero_le _
  | last p c ih =>
    intro s
    cases s with
    | zero => exact Nat.zero_le _
    | succ s => exact down p c s _ (ih s)
  | cons p c k' v' r ihc ihr =>
    intro s
    cases s with
    | zero => exact Nat.zero_le _
    | succ s => exact length_ite_le (ihr (s + 1)) (Nat.zero_le _) (down p c s _ (ihc s))

theorem insLoads_le (k : Nat) : ∀ (t : T) (s : Nat), (insLoads k s t).length ≤ lvl t := by
  intro t
  induction t with
  | nil => intro s; cases s <;> exact Nat.le_refl 0
  | last p c ih =>
    intro s
    cases s with
    | zero => exact down_le p c (splitLoads_le k c)
    | succ s => exact down_le p c (ih s)
  | cons p c k' v' r ihc ihr =>
    intro s
    have down : ∀ l : List T, l.length ≤ lvl c → (ldn p c ++ l).length ≤ lvl (cons p c k' v' r) :=
      fun l h => Nat.le_trans (down_le p c h) (lvl_last_le_cons p c k' v' r)
    cases s with
    | zero =>
      exact length_ite_le (Nat.le_trans (ihr 0) (lvl_le_cons p c k' v' r)) (Nat.zero_le _) (down _ (splitLoads_le k c))
    | succ s =>
      exact length_ite_le (Nat.le_trans (ihr (s + 1)) (lvl_le_cons p c k' v' r)) (Nat.zero_le _) (down _ (ihc s))

theorem joinLoads_eq (p : Bool) (c r : T) : joinLoads p c r = mergeRowLoads (last p c) r := by
  cases r <;> rfl

theorem mergeRowLoads_le : ∀ (l r : T), (mergeRowLoads l r).length ≤ 2 * lvl l := by
  intro l
  induction l with
  | nil => intro r; exact Nat.zero_le _
  | cons p c k v rest _ ihr =>
    intro r
    exact Nat.le_trans (ihr r) (Nat.mul_le_mul_left 2 (lvl_le_cons p c k v rest))
  | last p c ih =>
    intro r
    have tail : ∀ (p2 : Bool) (c2 : T),
        (if (c.isNil || c2.isNil) = true then ([] : List T) else ldn p c ++ ldn p2 c2 ++ mergeRowLoads c c2).length
          ≤ 2 * lvl (last p c) := by
      intro p2 c2
      split
      · exact Nat.zero_le _
      · next h =>
        have hc : c.isNil = false := by
          cases hc : c.isNil with
          | false => rfl
          | true => rw [hc] at h; exact absurd rfl h
        rw [lvl_last p c hc, List.length_append, List.length_append]
        exact Nat.le_trans (Nat.add_le_add (Nat.add_le_add (ldn_le p c) (ldn_le p2 c2)) (ih c2))
          (Nat.le_of_eq (Nat.add_comm _ _))
    cases r with
    | nil => exact Nat.zero_le _
    | last p2 c2 => exact tail p2 c2
    | cons p2 c2 k2 v2 r2 => exact tail p2 c2

theorem delLoads_le (k : Nat) : ∀ (t : T) (s : Nat), (delLoads k s t).length ≤ 2 * lvl t := by
  intro t
  induction t with
  | nil => intro s; cases s <;> exact Nat.zero_le _
  | last p c ih =>
    intro s
    cases s with
    | zero => exact Nat.zero_le _
    | succ s => exact down_le_twice p c (ih s)
  | cons p c k' v' r ihc ihr =>
    intro s
    have hl := Nat.mul_le_mul_left 2 (lvl_last_le_cons p c k' v' r)
    have hr := Nat.mul_le_mul_left 2 (lvl_le_cons p c k' v' r)
    cases s with
    | zero =>
      exact length_ite_le (Nat.le_trans (ihr 0) hr)
        (joinLoads_eq p c r ▸ Nat.le_trans (mergeRowLoads_le _ r) hl) (Nat.zero_le _)
    | succ s =>
      exact length_ite_le (Nat.le_trans (ihr (s + 1)) hr) (Nat.zero_le _)
        (Nat.le_trans (down_le_twice p c (ihc s)) hl)

end T
end Mast
