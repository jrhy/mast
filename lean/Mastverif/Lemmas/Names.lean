import Mastverif.Lemmas.Store
import Mastverif.Lemmas.Codec
/-!
# Equal names ⇒ equal contents (under collision-freeness), and injectivity of the encoder
-/
namespace Mast

theorem NodeB.eq_of_fields {a b : NodeB} (hk : a.keys = b.keys) (hv : a.vals = b.vals)
    (hl : a.links = b.links) : a = b := by
  cases a
  cases b
  cases hk
  cases hv
  cases hl
  rfl

namespace T

/-- no two different nodes in play share a name: collision-freeness of the hash together with
    injectivity of the node encoder, stated on rows -/
def NoCollision (e : Enc) : Prop := ∀ a b : T, nodeName e a = nodeName e b → rowB e a = rowB e b

theorem rowB_cons_inj (e : Enc) {p c k v r p2 c2 k2 v2 r2}
    (h : rowB e (cons p c k v r) = rowB e (cons p2 c2 k2 v2 r2)) :
    e.keyB k = e.keyB k2 ∧ e.valB v = e.valB v2 ∧
    (if c.isNil then none else some (e.hash (e.node (rowB e c)))) =
      (if c2.isNil then none else some (e.hash (e.node (rowB e c2)))) ∧
    rowB e r = rowB e r2 := by
  have hk : e.keyB k :: (rowB e r).keys = e.keyB k2 :: (rowB e r2).keys := congrArg NodeB.keys h
  have hv : e.valB v :: (rowB e r).vals = e.valB v2 :: (rowB e r2).vals := congrArg NodeB.vals h
  have hl : _ :: (rowB e r).links = _ :: (rowB e r2).links := congrArg NodeB.links h
  injection hk with hk1 hk2
  injection hv with hv1 hv2
  injection hl with hl1 hl2
  exact ⟨hk1, hv1, hl1, NodeB.eq_of_fields hk2 hv2 hl2⟩

/-- two child links that are written the same: both nil, or two children of one name, related by `P` -/
inductive SameLink (e : Enc) (P : T → T → Prop) : T → T → Prop
  | nil : SameLink e P nil nil
  | node {c c2 : T} : c.isNil = false → c2.isNil = false → nodeName e c = nodeName e c2 → P c c2 →
      SameLink e P c c2

theorem sameLink_of_eq (e : Enc) (hnc : NoCollision e) {P : T → T → Prop} {c c2 : T}
    (ih : ∀ t2, rowB e c = rowB e t2 → P c t2)
    (h : (if c.isNil then none else some (e.hash (e.node (rowB e c)))) =
      (if c2.isNil then none else some (e.hash (e.node (rowB e c2))))) : SameLink e P c c2 := by
  cases hc : c.isNil with
  | true =>
    cases hc2 : c2.isNil with
    | true => rw [isNil_iff.mp hc, isNil_iff.mp hc2]; exact .nil
    | false => rw [hc, hc2] at h; cases h
  | false =>
    cases hc2 : c2.isNil with
    | true => rw [hc, hc2] at h; cases h
    | false =>
      rw [hc, hc2] at h
      exact .node hc hc2 (Option.some.inj h) (ih c2 (hnc c c2 (Option.some.inj h)))

/-- rows with equal descriptions, walked together: their child links are `SameLink`, because children
    of one name have equal descriptions again (`NoCollision`) -/
theorem rowB_eq_induction (e : Enc) (hnc : NoCollision e) {P : T → T → Prop} (hnil : P nil nil)
    (hlast : ∀ p c p2 c2, SameLink e P c c2 → P (last p c) (last p2 c2))
    (hcons : ∀ p c k v r p2 c2 k2 v2 r2, e.keyB k = e.keyB k2 → e.valB v = e.valB v2 →
      SameLink e P c c2 → P r r2 → P (cons p c k v r) (cons p2 c2 k2 v2 r2)) :
    ∀ t1 t2 : T, rowB e t1 = rowB e t2 → P t1 t2 := by
  intro t1
  induction t1 with
  | nil =>
    intro t2 h
    cases t2 with
    | nil => exact hnil
    | last p c => cases h
    | cons p c k v r => cases h
  | last p c ih =>
    intro t2 h
    cases t2 with
    | nil => cases h
    | last p2 c2 =>
      exact hlast p c p2 c2 (sameLink_of_eq e hnc ih (List.head_eq_of_cons_eq (congrArg NodeB.links h)))
    | cons p2 c2 k v r => cases h
  | cons p c k v r ihc ihr =>
    intro t2 h
    cases t2 with
    | nil => cases h
    | last p2 c2 => cases h
    | cons p2 c2 k2 v2 r2 =>
      obtain ⟨h1, h2, h3, h4⟩ := rowB_cons_inj e h
      exact hcons p c k v r p2 c2 k2 v2 r2 h1 h2 (sameLink_of_eq e hnc ihc h3) (ihr r2 h4)

theorem SameLink.toList_eq {e : Enc} {c c2 : T} (h : SameLink e (fun a b => toList a = toList b) c c2) :
    toList c = toList c2 := by
  cases h with
  | nil => rfl
  | node _ _ _ hp => exact hp

theorem rowB_eq_toList (e : Enc) (hnc : NoCollision e)
    (hk : Function.Injective e.keyB) (hv : Function.Injective e.valB) :
    ∀ t1 t2 : T, rowB e t1 = rowB e t2 → toList t1 = toList t2 :=
  rowB_eq_induction e hnc (P := fun a b => toList a = toList b) rfl (fun _ _ _ _ hl => hl.toList_eq)
    fun p c k v r p2 c2 k2 v2 r2 h1 h2 hl hr => by
      show toList c ++ (k, v) :: toList r = toList c2 ++ (k2, v2) :: toList r2
      rw [hl.toList_eq, hr, hk h1, hv h2]

theorem name_eq_toList (e : Enc) (hnc : NoCollision e)
    (hk : Function.Injective e.keyB) (hv : Function.Injective e.valB) (t1 t2 : T)
    (h : nodeName e t1 = nodeName e t2) : toList t1 = toList t2 :=
  rowB_eq_toList e hnc hk hv t1 t2 (hnc t1 t2 h)

end T

namespace Codec

/-- a link list is determined by its trimmed form and its length -/
theorem links_of_trimmed (l : List (Option Bytes)) :
    l = if (if l.all Option.isNone then [] else l) = [] then List.replicate l.length none
        else if l.all Option.isNone then [] else l := by
  by_cases a : l.all Option.isNone = true
  · rw [if_pos a, if_pos rfl]
    exact List.eq_replicate_iff.mpr ⟨rfl, fun o ho => Option.isNone_iff_eq_none.mp (List.all_eq_true.mp a o ho)⟩
  · rw [if_neg a, if_neg fun h : l = [] => a (by rw [h]; rfl)]

theorem encBin_inj_trimmed (n1 n2 : NodeB) (h1 : NodeOK n1) (h2 : NodeOK n2) (h : encBin n1 = encBin n2) :
    n1.keys = n2.keys ∧ n1.vals = n2.vals ∧
    (if n1.links.all Option.isNone then [] else n1.links) = (if n2.links.all Option.isNone then [] else n2.links) := by
  have r := (decBinRaw_encBin n1 h1).symm.trans ((congrArg decBinRaw h).trans (decBinRaw_encBin n2 h2))
  injection r with r
  injection r with hk hv hl
  exact ⟨(List.map_inj_right fun _ _ => Option.some.inj).mp hk,
    (List.map_inj_right fun _ _ => Option.some.inj).mp hv, hl⟩

theorem encBin_injective (n1 n2 : NodeB) (h1 : NodeOK n1) (h2 : NodeOK n2)
    (l1 : n1.links.length = n1.keys.length + 1) (l2 : n2.links.length = n2.keys.length + 1)
    (h : encBin n1 = encBin n2) : n1 = n2 := by
  obtain ⟨hk, hv, hl⟩ := encBin_inj_trimmed n1 n2 h1 h2 h
  refine NodeB.eq_of_fields hk hv ?_
  rw [links_of_trimmed n1.links, hl, l1, hk, ← l2]
  exact (links_of_trimmed n2.links).symm

end Codec
section Rows
open Codec

/-- an encoder whose outputs the binary format can carry: non-empty key / value bodies and names,
    lengths below 128^9 -/
structure EncOK (e : Enc) : Prop where
  key : ∀ k, e.keyB k ≠ [] ∧ fits (e.keyB k).length
  val : ∀ v, e.valB v ≠ [] ∧ fits (e.valB v).length
  name : ∀ b, e.hash b ≠ [] ∧ fits (e.hash b).length

namespace T
/-- a node row: entries, then the last link -/
def Row : T → Prop
  | nil => False
  | last _ _ => True
  | cons _ _ _ _ r => Row r

theorem rowB_lengths (e : Enc) : ∀ t : T, Row t → (rowB e t).keys.length = rowLen t ∧
    (rowB e t).vals.length = rowLen t ∧ (rowB e t).links.length = rowLen t + 1 := by
  intro t
  induction t with
  | nil => intro h; cases h
  | last p c _ => intro _; exact ⟨rfl, rfl, rfl⟩
  | cons p c k v r _ ihr =>
    intro h
    obtain ⟨h1, h2, h3⟩ := ihr h
    exact ⟨congrArg (· + 1) h1, congrArg (· + 1) h2, congrArg (· + 1) h3⟩

theorem linkOK (e : Enc) (he : EncOK e) (c : T) :
    ElemOK (if c.isNil then none else some (e.hash (e.node (rowB e c)))) := by
  cases c.isNil with
  | true => exact ⟨nofun, fits_zero⟩
  | false => exact elemOK_some (he.name _)

theorem rowB_ok (e : Enc) (he : EncOK e) : ∀ t : T, Row t →
    (∀ b ∈ (rowB e t).keys, b ≠ [] ∧ fits b.length) ∧ (∀ b ∈ (rowB e t).vals, b ≠ [] ∧ fits b.length) ∧
    (∀ o ∈ (rowB e t).links, ElemOK o) := by
  intro t
  induction t with
  | nil => intro h; cases h
  | last p c _ => intro _; exact ⟨nofun, nofun, List.forall_mem_singleton.mpr (linkOK e he c)⟩
  | cons p c k v r _ ihr =>
    intro h
    obtain ⟨h1, h2, h3⟩ := ihr h
    exact ⟨List.forall_mem_cons.mpr ⟨he.key k, h1⟩, List.forall_mem_cons.mpr ⟨he.val v, h2⟩,
      List.forall_mem_cons.mpr ⟨linkOK e he c, h3⟩⟩
end T
end Rows

end Mast
