import Mastverif.Lemmas.PtrGrow
import Mastverif.Lemmas.PtrStage
/-! What an error leaves behind: the fallible part of `Insert` / `Delete` only allocates, the
    part that writes cannot fail. -/
namespace Mast.Ptr
open Mast.Heap

/-- the operation never returns an error -/
def NoErr {α : Type} (x : M α) : Prop := ∀ s s', x s ≠ .err s'

theorem NoErr.bind {α β : Type} {x : M α} {f : α → M β} (hx : NoErr x) (hf : ∀ a, NoErr (f a)) : NoErr (x >>= f) := by
  intro s s' h
  change M.bind x f s = _ at h
  unfold M.bind at h
  cases hxs : x s with
  | ok a s1 => rw [hxs] at h; exact hf a s1 s' h
  | err s1 => exact hx s s1 hxs
  | panic => rw [hxs] at h; cases h
  | stuck => rw [hxs] at h; cases h
  | oof => rw [hxs] at h; cases h

theorem NoErr.pure {α : Type} (a : α) : NoErr (Pure.pure a : M α) := by intro s s' h; cases h
theorem NoErr.panic {α : Type} : NoErr (panicE : M α) := by intro s s' h; cases h
theorem NoErr.oof {α : Type} : NoErr (oofE : M α) := by intro s s' h; cases h

theorem NoErr.ite {α : Type} {c : Prop} [Decidable c] {x y : M α} (hx : NoErr x) (hy : NoErr y) :
    NoErr (if c then x else y) := by
  by_cases h : c
  · rw [if_pos h]; exact hx
  · rw [if_neg h]; exact hy

theorem read_noErr (a : Nat) : NoErr (read a) := by
  intro s s' h; unfold read at h; split at h <;> cases h
theorem alloc_noErr (nd : MNode) : NoErr (alloc nd) := by
  intro s s' h; unfold alloc at h; split at h <;> cases h
theorem write_noErr (m a : Nat) (nd : MNode) : NoErr (write m a nd) := by
  intro s s' h; unfold write at h; split at h <;> cases h

theorem toMut_noErr (m a : Nat) : NoErr (toMut m a) := by
  unfold toMut
  apply NoErr.bind (read_noErr a)
  intro nd
  exact .ite .panic (.ite (.pure _) (alloc_noErr _))

theorem mutPath_noErr (m : Nat) : ∀ path, NoErr (mutPath m path) := by
  intro path
  induction path with
  | nil => unfold mutPath; exact NoErr.pure _
  | cons x rest ih =>
    obtain ⟨a, i⟩ := x
    unfold mutPath
    apply NoErr.bind (read_noErr a)
    intro nd
    apply NoErr.bind
    · refine .ite (.pure _) ?_
      · apply NoErr.bind (toMut_noErr m a); intro a'
        apply NoErr.bind (read_noErr a'); intro nd'
        apply NoErr.bind (write_noErr _ _ _); intro _
        exact NoErr.pure _
    · intro a'
      apply NoErr.bind ih
      intro rest'
      exact NoErr.pure _

theorem relink_noErr (m : Nat) : ∀ path, NoErr (relink m path) := by
  intro path
  induction path with
  | nil => unfold relink; exact NoErr.pure _
  | cons x rest ih =>
    obtain ⟨a, i⟩ := x
    cases rest with
    | nil => unfold relink; exact NoErr.pure _
    | cons y rest =>
      obtain ⟨b, j⟩ := y
      unfold relink
      apply NoErr.bind ih; intro _
      apply NoErr.bind (read_noErr b); intro cnd
      apply NoErr.bind (read_noErr a); intro nd
      exact .ite .panic (write_noErr _ _ _)

theorem savePath_noErr (m : Nat) (path : List (Nat × Nat)) : NoErr (savePath m path) := by
  unfold savePath
  apply NoErr.bind (mutPath_noErr m path); intro p
  apply NoErr.bind (relink_noErr m p); intro _
  split
  · exact NoErr.panic
  · exact NoErr.pure _

theorem insertCommit_noErr (t : PTree) (p : InsPlan) (key val : Nat) : NoErr (insertCommit t p key val) := by
  unfold insertCommit
  apply NoErr.bind (toMut_noErr _ _); intro a'
  apply NoErr.bind (read_noErr a'); intro nd
  exact .ite (.bind (write_noErr _ _ _) fun _ => savePath_noErr _ _)
    (.bind (write_noErr _ _ _) fun _ => savePath_noErr _ _)

theorem deleteCommit_noErr (t : PTree) (p : DelPlan) : NoErr (deleteCommit t p) := by
  unfold deleteCommit
  apply NoErr.bind (toMut_noErr _ _); intro a'
  apply NoErr.bind (read_noErr a'); intro nd
  dsimp only
  apply NoErr.bind (write_noErr _ _ _); intro _
  exact savePath_noErr _ _

/-- what an error leaves behind: the old record and every old object — or `C` -/
def ErrOK (s : PS) (t : PTree) (C : Prop) (r : PS × PTree × Outcome) : Prop :=
  r.2.2 = .err → (AllocOnly s.heap r.1.heap ∧ r.2.1 = t) ∨ C

theorem ErrOK.plan {α : Type} {m : Nat} {s : PS} {t : PTree} {C : Prop} {x : M α} {Q : α → PS → Prop}
    {k : α → PS → PS × PTree × Outcome} (hx : Sat m 2 s x Q) (hk : ∀ a s1, x s = .ok a s1 → ErrOK s t C (k a s1)) :
    ErrOK s t C (stage x s t k) :=
  stage_cases (ErrOK s t C) hk (fun _ hp _ => Or.inl ⟨(hx.of_err hp).1.pre (Nat.le_refl _), rfl⟩)
    (fun _ _ _ h2 he => absurd he h2)

theorem ErrOK.commit {β : Type} {s s1 : PS} {t : PTree} {C : Prop} {y : M β} {k : β → PS → PS × PTree × Outcome}
    (hy : NoErr y) (hC : ∀ b s2, y s1 = .ok b s2 → C) : ErrOK s t C (stage y s1 t k) :=
  stage_cases (ErrOK s t C) (fun b s2 hc _ => Or.inr (hC b s2 hc)) (fun s2 hc _ => absurd hc (hy s1 s2))
    (fun _ _ _ h2 he => absurd he h2)

theorem insert_err (E : Env) (fuel : Nat) (s : PS) (t : PTree) (key val : Nat)
    (hinv : Inv t.id s) (hroot : Vis s.heap t.id t.root) :
    ErrOK s t (∃ p s1 root s2, insertPlan E t fuel key val s = .ok p s1 ∧ insertCommit t p key val s1 = .ok root s2)
      (insert E fuel s t key val) := by
  rw [insert_eq]
  refine ErrOK.plan (insertPlan_sat E t fuel key val hinv hroot) fun p s1 hp => ?_
  by_cases hsame : (p.present && p.same) = true
  · rw [if_pos hsame]; intro he; cases he
  · rw [if_neg hsame]
    exact ErrOK.commit (insertCommit_noErr t p key val) (fun root s2 hc => ⟨p, s1, root, s2, hp, hc⟩)

theorem delete_err (E : Env) (fuel : Nat) (s : PS) (t : PTree) (key val : Nat)
    (hinv : Inv t.id s) (hroot : Vis s.heap t.id t.root) :
    ErrOK s t (∃ p s1 root s2, deletePlan E t fuel key val s = .ok p s1 ∧ deleteCommit t p s1 = .ok root s2)
      (delete E fuel s t key val) := by
  rw [delete_eq]
  exact ErrOK.plan (deletePlan_sat E t fuel key val hinv hroot) fun p s1 hp =>
    ErrOK.commit (deleteCommit_noErr t p) (fun root s2 hc => ⟨p, s1, root, s2, hp, hc⟩)

end Mast.Ptr
