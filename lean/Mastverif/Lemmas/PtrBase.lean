import Mastverif.Model.Ptr
import Mastverif.Lemmas.Heap
/-!
# Hoare-style reasoning for the object-level model

`Sat m lvl s x Q`: run from the state `s` (which satisfies the ownership invariant `Inv m`), the
operation `x` (performed by / for tree `m`)

* is never `stuck` (every guard of the heap protocol holds),
* ends — successfully or with an error — in a state that again satisfies `Inv m` and is an
  *extension* `Ext m lvl` of `s`,
* and on success its result satisfies `Q`.

What an operation needs of `s` (its root is visible to `m`, ...) is a hypothesis of its theorem; `Sat.bind`
hands the continuation `Ext m lvl s s1`, along which such facts are carried (`Ext.vis`, `Ext.own`, ...).

`Ext m lvl s s'` says what may have happened to the heap in between:
level 0 — guarded actions by `m` only: every other owner `v` with a closed view still sees
          exactly what it saw, and whatever `m` could see it still can;
level 1 — moreover nothing was published: objects owned by `m` are still owned by `m`;
level 2 — moreover nothing was written at all: the old heap is a prefix of the new one.

That the transcribed programs are never stuck rests on `Sat` and `SysInv` (`Lemmas/PtrSys.lean`) alone:
the refinement triples (`Spec`, `Lemmas/RefGood.lean`) say nothing about `.stuck`.
-/
namespace Mast.Ptr
open Mast.Heap

def Own (h : Heap) (m a : Nat) : Prop := ∃ nd, h[a]? = some nd ∧ nd.shared = false ∧ nd.owner = m

def SharedA (h : Heap) (a : Nat) : Prop := ∃ nd, h[a]? = some nd ∧ nd.shared = true

def DirtyUnshared (h : Heap) : Prop := ∀ (a : Nat) (nd : MNode), h[a]? = some nd → nd.dirty = true → nd.shared = false

/-- `StoreFlat` says this of the links of every stored node -/
def Flat (ls : List HLink) : Prop := ∀ l ∈ ls, isPtr l = false

def StoreFlat (st : List SNode) : Prop := ∀ sn ∈ st, ∀ l ∈ sn.links, isPtr l = false

def CacheOK (s : PS) : Prop := ∀ n a, (n, a) ∈ s.cache → SharedA s.heap a

def LinksVis (h : Heap) (m : Nat) (ls : List HLink) : Prop := ∀ l ∈ ls, Vis h m l

def AllocOnly (h h' : Heap) : Prop := ∀ (a : Nat) (nd : MNode), h[a]? = some nd → h'[a]? = some nd

theorem AllocOnly.refl (h : Heap) : AllocOnly h h := fun _ _ x => x
theorem AllocOnly.trans {h1 h2 h3 : Heap} (a : AllocOnly h1 h2) (b : AllocOnly h2 h3) : AllocOnly h1 h3 :=
  fun x nd hx => b x nd (a x nd hx)

structure Inv (m : Nat) (s : PS) : Prop where
  closed : Closed s.heap m
  du : DirtyUnshared s.heap
  flat : StoreFlat s.store
  cache : CacheOK s
  mpos : m ≠ 0

structure Ext (m lvl : Nat) (s s' : PS) : Prop where
  others : ∀ v, v ≠ m → v ≠ 0 → Closed s.heap v → Agree s.heap s'.heap v ∧ Closed s'.heap v
  vis : ∀ l, Vis s.heap m l → Vis s'.heap m l
  shr : ∀ a, SharedA s.heap a → SharedA s'.heap a
  own : 1 ≤ lvl → ∀ a, Own s.heap m a → Own s'.heap m a
  pre : 2 ≤ lvl → AllocOnly s.heap s'.heap
  /-- the table of stored contents only grows: a name keeps its contents for ever -/
  stp : ∃ ext, s'.store = s.store ++ ext

theorem Ext.refl (m lvl : Nat) (s : PS) : Ext m lvl s s :=
  ⟨fun v _ _ hc => ⟨agree_refl _ v, hc⟩, fun _ h => h, fun _ h => h, fun _ _ h => h, fun _ => AllocOnly.refl _, ⟨[], by simp⟩⟩

theorem Ext.trans {m lvl : Nat} {s1 s2 s3 : PS} (a : Ext m lvl s1 s2) (b : Ext m lvl s2 s3) : Ext m lvl s1 s3 := by
  refine ⟨?_, fun l h => b.vis l (a.vis l h), fun x h => b.shr x (a.shr x h),
    fun hl x h => b.own hl x (a.own hl x h), fun hl => (a.pre hl).trans (b.pre hl), ?_⟩
  · intro v h1 h2 hc
    obtain ⟨ag1, c1⟩ := a.others v h1 h2 hc
    obtain ⟨ag2, c2⟩ := b.others v h1 h2 c1
    exact ⟨agree_trans ag1 ag2, c2⟩
  · obtain ⟨x1, h1⟩ := a.stp
    obtain ⟨x2, h2⟩ := b.stp
    exact ⟨x1 ++ x2, by rw [h2, h1, List.append_assoc]⟩

theorem Ext.mono {m lvl lvl' : Nat} {s s' : PS} (hl : lvl' ≤ lvl) (a : Ext m lvl s s') : Ext m lvl' s s' :=
  ⟨a.others, a.vis, a.shr, fun h => a.own (Nat.le_trans h hl), fun h => a.pre (Nat.le_trans h hl), a.stp⟩

theorem vis_of_allocOnly {h h' : Heap} {v : Nat} (ha : AllocOnly h h') {l : HLink} (hv : Vis h v l) : Vis h' v l :=
  vis_mono (fun a nd hnd _ => ha a nd hnd) hv

theorem shared_of_allocOnly {h h' : Heap} (ha : AllocOnly h h') {a : Nat} (hv : SharedA h a) : SharedA h' a := by
  obtain ⟨nd, hnd, hs⟩ := hv; exact ⟨nd, ha a nd hnd, hs⟩

theorem own_of_allocOnly {h h' : Heap} {m : Nat} (ha : AllocOnly h h') {a : Nat} (hv : Own h m a) : Own h' m a := by
  obtain ⟨nd, hnd, hs⟩ := hv; exact ⟨nd, ha a nd hnd, hs⟩

theorem Ext.of_allocOnly {m lvl : Nat} {s s' : PS} (ha : AllocOnly s.heap s'.heap)
    (ho : ∀ v, v ≠ m → v ≠ 0 → Closed s.heap v → Agree s.heap s'.heap v ∧ Closed s'.heap v)
    (hst : ∃ ext, s'.store = s.store ++ ext) : Ext m lvl s s' :=
  ⟨ho, fun _ => vis_of_allocOnly ha, fun _ => shared_of_allocOnly ha, fun _ _ => own_of_allocOnly ha, fun _ => ha, hst⟩

theorem Ext.of_heap_eq {m lvl : Nat} {s s' : PS} (h : s'.heap = s.heap) (hst : ∃ ext, s'.store = s.store ++ ext) :
    Ext m lvl s s' :=
  Ext.of_allocOnly (h ▸ AllocOnly.refl _) (fun v _ _ hc => by rw [h]; exact ⟨agree_refl _ v, hc⟩) hst

theorem Ext.other {m lvl : Nat} {s s' : PS} (e : Ext m lvl s s') {v : Nat} (h1 : v ≠ m) (h0 : v ≠ 0)
    (hc : Closed s.heap v) : Closed s'.heap v ∧ ∀ l, Vis s.heap v l → Vis s'.heap v l :=
  ⟨(e.others v h1 h0 hc).2, fun _ hv => vis_mono (e.others v h1 h0 hc).1 hv⟩

theorem Flat.cons {l : HLink} {ls : List HLink} (hl : isPtr l = false) (hls : Flat ls) : Flat (l :: ls) := by
  intro x hx
  rcases List.mem_cons.mp hx with rfl | h
  · exact hl
  · exact hls x h

theorem LinksVis.of_flat {h : Heap} {m : Nat} {ls : List HLink} (hf : Flat ls) : LinksVis h m ls :=
  fun l hl => vis_of_not_isPtr (hf l hl)

theorem LinksVis.nil (h : Heap) (m : Nat) : LinksVis h m [] := fun _ hl => nomatch hl

theorem LinksVis.cons {h : Heap} {m : Nat} {ls : List HLink} {l : HLink} (hl : Vis h m l) (hls : LinksVis h m ls) :
    LinksVis h m (l :: ls) := by
  intro x hx
  rcases List.mem_cons.mp hx with rfl | h
  · exact hl
  · exact hls x h

theorem LinksVis.append {h : Heap} {m : Nat} {ls ls' : List HLink} (h1 : LinksVis h m ls) (h2 : LinksVis h m ls') :
    LinksVis h m (ls ++ ls') := fun x hx => (List.mem_append.mp hx).elim (h1 x) (h2 x)

theorem LinksVis.snoc {h : Heap} {m : Nat} {ls : List HLink} {l : HLink} (hls : LinksVis h m ls) (hl : Vis h m l) :
    LinksVis h m (ls ++ [l]) := hls.append (.cons hl (.nil h m))

theorem LinksVis.ext {m lvl : Nat} {s s' : PS} {ls : List HLink} (e : Ext m lvl s s')
    (h : LinksVis s.heap m ls) : LinksVis s'.heap m ls := fun l hl => e.vis l (h l hl)

/-- `P` held in some earlier state of which the present one is an extension -/
def Was (m lvl : Nat) (P : PS → Prop) : PS → Prop := fun s' => ∃ s, P s ∧ Ext m lvl s s'

theorem Was.now {m lvl : Nat} {P : PS → Prop} {s : PS} (h : P s) : Was m lvl P s := ⟨s, h, Ext.refl _ _ _⟩

theorem Was.shared {m lvl a : Nat} {s : PS} (h : Was m lvl (fun s => SharedA s.heap a) s) : SharedA s.heap a := by
  obtain ⟨s0, h0, e⟩ := h; exact e.shr a h0

def Sat {α : Type} (m lvl : Nat) (s : PS) (x : M α) (Q : α → PS → Prop) : Prop :=
  match x s with
  | .ok a s' => Ext m lvl s s' ∧ Inv m s' ∧ Q a s'
  | .err s' => Ext m lvl s s' ∧ Inv m s'
  | .stuck => False
  | .panic => True
  | .oof => True

theorem Sat.bind {α β : Type} {m lvl : Nat} {s : PS} {x : M α} {f : α → M β}
    {Q1 : α → PS → Prop} {R : β → PS → Prop} (hx : Sat m lvl s x Q1)
    (hf : ∀ a s1, Ext m lvl s s1 → Inv m s1 → Q1 a s1 → Sat m lvl s1 (f a) R) :
    Sat m lvl s (x >>= f) R := by
  show Sat m lvl s (M.bind x f) R
  unfold Sat M.bind at *
  cases hxs : x s with
  | ok a s1 =>
    rw [hxs] at hx
    obtain ⟨e1, i1, q1⟩ := hx
    have h2 := hf a s1 e1 i1 q1
    dsimp only
    cases hfs : f a s1 with
    | ok b s2 => rw [hfs] at h2; exact ⟨e1.trans h2.1, h2.2⟩
    | err s2 => rw [hfs] at h2; exact ⟨e1.trans h2.1, h2.2⟩
    | stuck => rw [hfs] at h2; exact h2
    | panic => trivial
    | oof => trivial
  | err s1 => rw [hxs] at hx; exact hx
  | stuck => rw [hxs] at hx; exact hx
  | panic => trivial
  | oof => trivial

theorem Sat.pure {α : Type} {m lvl : Nat} {s : PS} {a : α} {Q : α → PS → Prop} (hinv : Inv m s) (h : Q a s) :
    Sat m lvl s (Pure.pure a : M α) Q :=
  ⟨Ext.refl _ _ _, hinv, h⟩

theorem Sat.panic {α : Type} {m lvl : Nat} {s : PS} {Q : α → PS → Prop} : Sat m lvl s (panicE : M α) Q := trivial

theorem Sat.oof {α : Type} {m lvl : Nat} {s : PS} {Q : α → PS → Prop} : Sat m lvl s (oofE : M α) Q := trivial

theorem Sat.fail {α : Type} {m lvl : Nat} {s : PS} {Q : α → PS → Prop} (hinv : Inv m s) :
    Sat m lvl s (failE : M α) Q :=
  ⟨Ext.refl _ _ _, hinv⟩

theorem Sat.ite {α : Type} {m lvl : Nat} {s : PS} {c : Prop} [Decidable c] {x y : M α} {Q : α → PS → Prop}
    (ht : c → Sat m lvl s x Q) (hf : ¬c → Sat m lvl s y Q) : Sat m lvl s (if c then x else y) Q := by
  by_cases h : c
  · rw [if_pos h]; exact ht h
  · rw [if_neg h]; exact hf h

theorem Sat.post {α : Type} {m lvl : Nat} {s : PS} {x : M α} {Q Q' : α → PS → Prop} (hx : Sat m lvl s x Q)
    (hq : ∀ a s', Ext m lvl s s' → Inv m s' → Q a s' → Q' a s') : Sat m lvl s x Q' := by
  unfold Sat at *
  cases hxs : x s with
  | ok a s1 => rw [hxs] at hx; exact ⟨hx.1, hx.2.1, hq a s1 hx.1 hx.2.1 hx.2.2⟩
  | err s1 => rw [hxs] at hx; exact hx
  | stuck => rw [hxs] at hx; exact hx
  | panic => trivial
  | oof => trivial

theorem Sat.bind_read {β : Type} {m lvl : Nat} {s : PS} {a : Nat} {f : MNode → M β} {R : β → PS → Prop}
    (hf : ∀ nd, s.heap[a]? = some nd → Sat m lvl s (f nd) R) : Sat m lvl s (read a >>= f) R := by
  show Sat m lvl s (M.bind (read a) f) R
  unfold Sat M.bind read
  cases h : s.heap[a]? with
  | none => trivial
  | some nd => exact hf nd h

theorem Sat.of_ok {α : Type} {m lvl : Nat} {s s' : PS} {x : M α} {Q : α → PS → Prop} {a : α}
    (h : Sat m lvl s x Q) (hx : x s = .ok a s') : Ext m lvl s s' ∧ Inv m s' ∧ Q a s' := by
  unfold Sat at h; rw [hx] at h; exact h

theorem Sat.of_err {α : Type} {m lvl : Nat} {s s' : PS} {x : M α} {Q : α → PS → Prop}
    (h : Sat m lvl s x Q) (hx : x s = .err s') : Ext m lvl s s' ∧ Inv m s' := by
  unfold Sat at h; rw [hx] at h; exact h

theorem Sat.not_stuck {α : Type} {m lvl : Nat} {s : PS} {x : M α} {Q : α → PS → Prop}
    (h : Sat m lvl s x Q) : x s ≠ .stuck := by
  intro hx; unfold Sat at h; rw [hx] at h; exact h

theorem own_vis {h : Heap} {m a : Nat} (ho : Own h m a) : Vis h m (.ptr a) := by
  obtain ⟨nd, hnd, _, how⟩ := ho; exact ⟨nd, hnd, Or.inr how⟩

theorem shared_vis {h : Heap} {m a : Nat} (ho : SharedA h a) : Vis h m (.ptr a) := by
  obtain ⟨nd, hnd, hs⟩ := ho; exact ⟨nd, hnd, Or.inl hs⟩

theorem vis_nil (h : Heap) (m : Nat) : Vis h m .nil := trivial
theorem vis_ref (h : Heap) (m n : Nat) : Vis h m (.ref n) := trivial

theorem linkOK_of_vis {h : Heap} {m : Nat} {l : HLink} (hv : Vis h m l) : linkOK h m l = true := by
  cases l with
  | nil => rfl
  | ref n => rfl
  | ptr a =>
    obtain ⟨nd, hnd, hso⟩ := hv
    simp only [linkOK, hnd]
    rcases hso with h1 | h1 <;> simp [h1]

theorem vis_of_linkOK {h : Heap} {m : Nat} {l : HLink} (hv : linkOK h m l = true) : Vis h m l := by
  cases l with
  | nil => trivial
  | ref n => trivial
  | ptr a =>
    simp only [linkOK] at hv
    cases hnd : h[a]? with
    | none => simp [hnd] at hv
    | some nd =>
      simp only [hnd, Bool.or_eq_true, beq_iff_eq] at hv
      exact ⟨nd, hnd, hv⟩

theorem links_vis {m : Nat} {s : PS} (hinv : Inv m s) {a : Nat} {nd : MNode}
    (hnd : s.heap[a]? = some nd) (hv : Vis s.heap m (.ptr a)) : LinksVis s.heap m nd.links := by
  obtain ⟨nd', hnd', hso⟩ := hv
  rw [hnd] at hnd'; injection hnd' with hnd'; subst hnd'
  exact hinv.closed a nd hnd hso

theorem own_of_vis_unshared {h : Heap} {m a : Nat} {nd : MNode} (hnd : h[a]? = some nd)
    (hv : Vis h m (.ptr a)) (hs : nd.shared = false) : Own h m a := by
  obtain ⟨nd', hnd', hso⟩ := hv
  rw [hnd] at hnd'; injection hnd' with hnd'; subst hnd'
  rcases hso with h1 | h1
  · rw [hs] at h1; cases h1
  · exact ⟨nd, hnd, hs, h1⟩

theorem set_self_of_getElem? {α : Type} {l : List α} {i : Nat} {a : α} (h : l[i]? = some a) : l.set i a = l := by
  apply List.ext_getElem?
  intro j
  by_cases hji : j = i
  · subst hji
    rw [List.getElem?_set_self (List.getElem?_eq_some_iff.mp h).1, h]
  · rw [List.getElem?_set_ne (Ne.symm hji)]

theorem map_id_set {l : List PTree} {i : Nat} {t t' : PTree} (hi : l[i]? = some t) (hid : t'.id = t.id) :
    (l.set i t').map (·.id) = l.map (·.id) := by
  rw [List.map_set, hid]
  exact set_self_of_getElem? (by rw [List.getElem?_map, hi]; rfl)

theorem ne_id_of_nodup {l : List PTree} (hd : (l.map (·.id)).Nodup) {i j : Nat} {t x : PTree}
    (hi : l[i]? = some t) (hj : l[j]? = some x) (hne : j ≠ i) : x.id ≠ t.id := by
  intro heq
  have h1 : (l.map (·.id))[i]? = some t.id := by rw [List.getElem?_map, hi]; rfl
  have h2 : (l.map (·.id))[j]? = some t.id := by rw [List.getElem?_map, hj]; simp [heq]
  have hj' := (List.getElem?_eq_some_iff.mp h2).1
  exact hne ((List.getElem?_inj hj' hd).mp (by rw [h1, h2]))

end Mast.Ptr
