import Mastverif.Model.Ptr
/-! Decidable equality of states and systems, so that a concrete run can be compared with its result in the kernel. -/
namespace Mast.Ptr

deriving instance DecidableEq for PS, Sys

end Mast.Ptr
