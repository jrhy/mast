import Mastverif.Lemmas.PtrShrink
/-! `flush` (`node.store`, then the commits), `LoadMast`, `Get`, `Iter`: never stuck. -/
namespace Mast.Ptr
open Mast.Heap

/-- the objects to commit are visible to `m`, and what they are committed with has no pointers -/
def CommitsOK (h : Heap) (m : Nat) (cms : List (Nat × List HLink × Nat)) : Prop :=
  ∀ c ∈ cms, Vis h m (.ptr c.1) ∧ Flat c.2.1

theorem CommitsOK.ext {m lvl : Nat} {s s' : PS} {cms : List (Nat × List HLink × Nat)} (e : Ext m lvl s s')
    (h : CommitsOK s.heap m cms) : CommitsOK s'.heap m cms := fun c hc => ⟨e.vis _ (h c hc).1, (h c hc).2⟩

theorem CommitsOK.append {h : Heap} {m : Nat} {c1 c2 : List (Nat × List HLink × Nat)} (h1 : CommitsOK h m c1)
    (h2 : CommitsOK h m c2) : CommitsOK h m (c1 ++ c2) := fun c hc => (List.mem_append.mp hc).elim (h1 c) (h2 c)

theorem intern_sat {m lvl : Nat} {s : PS} (hinv : Inv m s) {sn : SNode} (hp : Flat sn.links) :
    Sat m lvl s (intern sn) (fun _ _ => True) := by
  unfold Sat intern
  cases internIdx sn s.store 0 with
  | some i => exact ⟨Ext.refl _ _ _, hinv, trivial⟩
  | none =>
    refine ⟨Ext.of_heap_eq rfl ⟨[sn], rfl⟩, ⟨hinv.closed, hinv.du, ?_, hinv.cache, hinv.mpos⟩, trivial⟩
    intro x hx
    rcases List.mem_append.mp hx with h | h
    · exact hinv.flat x h
    · cases List.mem_singleton.mp h; exact hp

theorem storeLinks_sat {m lvl : Nat} (g : Nat → M (Nat × List (Nat × List HLink × Nat)))
    (hg : ∀ c {s : PS}, Inv m s → Vis s.heap m (.ptr c) → Sat m lvl s (g c) (fun r s' => CommitsOK s'.heap m r.2))
    (ls : List HLink) :
    ∀ {s : PS}, Inv m s → LinksVis s.heap m ls →
      Sat m lvl s (storeLinks g ls) (fun r s' => Flat r.1 ∧ CommitsOK s'.heap m r.2) := by
  induction ls with
  | nil =>
    intro s hinv _
    unfold storeLinks; exact Sat.pure hinv ⟨fun _ hl => (nomatch hl), fun _ hc => (nomatch hc)⟩
  | cons l ls ih =>
    intro s hinv hl
    have htail : LinksVis s.heap m ls := fun x hx => hl x (List.mem_cons_of_mem _ hx)
    cases l with
    | ptr c =>
      unfold storeLinks
      apply Sat.bind (hg c hinv (hl _ List.mem_cons_self)); rintro ⟨n, cm⟩ s1 e1 hinv1 hcm
      apply Sat.bind (ih hinv1 (htail.ext e1)); rintro ⟨ls', cm'⟩ s2 e2 hinv2 ⟨hf, hcm'⟩
      exact Sat.pure hinv2 ⟨hf.cons rfl, (hcm.ext e2).append hcm'⟩
    | _ =>
      unfold storeLinks
      apply Sat.bind (ih hinv htail); rintro ⟨ls', cm'⟩ s1 _ hinv1 ⟨hf, hcm⟩
      exact Sat.pure hinv1 ⟨hf.cons rfl, hcm⟩

theorem storeNode_sat {m lvl : Nat} (f : Nat) : ∀ {s : PS}, Inv m s → ∀ {a : Nat}, Vis s.heap m (.ptr a) →
    Sat m lvl s (storeNode f a) (fun r s' => CommitsOK s'.heap m r.2) := by
  induction f with
  | zero => intros; exact Sat.oof
  | succ f ih =>
    intro s hinv a hv
    unfold storeNode
    apply Sat.bind_read; intro nd hnd
    split
    · exact Sat.pure hinv (fun _ hc => nomatch hc)
    · apply Sat.bind (storeLinks_sat _ (fun c _ hinv hv => ih hinv hv) nd.links hinv (links_vis hinv hnd hv))
      rintro ⟨links', cms⟩ s1 e1 hinv1 ⟨hf, hcm⟩
      apply Sat.bind (intern_sat hinv1 ?_)
      · intro n s2 e2 hinv2 _
        refine Sat.pure hinv2 ((hcm.ext e2).append fun c hc => ?_)
        cases List.mem_singleton.mp hc
        exact ⟨(e1.trans e2).vis _ hv, hf⟩
      · show Flat (if links'.all (· == .nil) then [] else links')
        split
        · exact fun _ hl => nomatch hl
        · exact hf

theorem cacheAdd_sat {m lvl : Nat} {s : PS} (hinv : Inv m s) (n : Nat) {a : Nat} (hs : SharedA s.heap a) :
    Sat m lvl s (cacheAdd n a) (fun _ _ => True) := by
  unfold Sat cacheAdd
  by_cases hu : s.useCache = true
  · rw [if_pos hu]
    refine ⟨Ext.of_heap_eq rfl ⟨[], (List.append_nil _).symm⟩,
      ⟨hinv.closed, hinv.du, hinv.flat, ?_, hinv.mpos⟩, trivial⟩
    intro k b hkb
    rcases List.mem_cons.mp hkb with h | h
    · cases h; exact hs
    · exact hinv.cache k b h
  · rw [if_neg hu]; exact ⟨Ext.refl _ _ _, hinv, trivial⟩

theorem commitAll_sat {m : Nat} (cms : List (Nat × List HLink × Nat)) : ∀ {s : PS}, Inv m s →
    CommitsOK s.heap m cms → Sat m 0 s (commitAll m cms) (fun _ _ => True) := by
  induction cms with
  | nil => intro s hinv _; unfold commitAll; exact Sat.pure hinv trivial
  | cons c rest ih =>
    intro s hinv h
    obtain ⟨a, links, n⟩ := c
    unfold commitAll
    obtain ⟨hva, hfl⟩ := h (a, links, n) List.mem_cons_self
    apply Sat.bind_read; intro nd hnd
    apply Sat.bind (Q1 := fun _ s' => SharedA s'.heap a)
    · apply Sat.ite
      · intro hsh; exact Sat.pure hinv ⟨nd, hnd, hsh⟩
      · intro hsh
        have ho := own_of_vis_unshared hnd hva (Bool.eq_false_iff.mpr hsh)
        apply Sat.bind (write_sat (Nat.zero_le _) hinv ho hnd (links_vis hinv hnd hva)); intro _ s1 _ hinv1 ho1
        exact publish_sat hinv1 ho1 hfl
    · intro _ s1 e1 hinv1 hsa
      apply Sat.bind (cacheAdd_sat hinv1 n hsa); intro _ s2 e2 hinv2 _
      exact ih hinv2 (CommitsOK.ext (e1.trans e2) fun c hc => h c (List.mem_cons_of_mem _ hc))

theorem flush_sat (E : Env) (t : PTree) (fuel : Nat) {s : PS} (hinv : Inv t.id s) (hroot : Vis s.heap t.id t.root) :
    Sat t.id 0 s (flush E t fuel) (fun r s' => Vis s'.heap t.id r.1.root ∧ r.1.id = t.id) := by
  unfold flush
  apply Sat.ite
  · intro _; exact Sat.pure hinv ⟨hroot, rfl⟩
  · intro _
    apply Sat.bind (load_sat hinv E hroot); intro a s1 e1 hinv1 ha
    apply Sat.bind_read; intro nd hnd
    apply Sat.ite
    · intro _
      apply Sat.bind (Q1 := fun _ _ => True)
      · apply Sat.ite
        · intro hd
          have ho := own_of_vis_unshared hnd ha (hinv1.du a nd hnd hd)
          exact (write_sat (Nat.zero_le _) hinv1 ho hnd (links_vis hinv1 hnd ha)).post (fun _ _ _ _ _ => trivial)
        · intro _; exact Sat.pure hinv1 trivial
      · intro _ s2 e2 hinv2 _; exact Sat.pure hinv2 ⟨(e1.trans e2).vis _ hroot, rfl⟩
    · intro _
      apply Sat.bind (storeNode_sat fuel hinv1 ha); rintro ⟨n, cms⟩ s2 _ hinv2 hcm
      apply Sat.bind (commitAll_sat cms hinv2 hcm); intro _ s3 _ hinv3 _
      exact Sat.pure hinv3 ⟨trivial, rfl⟩

theorem loadMast_sat {lvl : Nat} (E : Env) (id link size height bf : Nat) {s : PS} (hinv : Inv id s) :
    Sat id lvl s (loadMast E id link size height bf) (fun t s' => Vis s'.heap id t.root ∧ t.id = id) := by
  unfold loadMast
  apply Sat.bind (Q1 := fun r s' => Vis s'.heap id r)
  · apply Sat.ite
    · intro _
      apply Sat.bind (alloc_sat hinv rfl rfl (emptyNode_links_vis s.heap id)); intro a s1 _ hinv1 ho
      exact Sat.pure hinv1 (own_vis ho)
    · intro _
      apply Sat.bind (loadRef_sat hinv E link); intro _ s1 _ hinv1 _
      exact Sat.pure hinv1 trivial
  · intro r s1 _ hinv1 hr; exact Sat.pure hinv1 ⟨hr, rfl⟩

theorem get_sat {lvl : Nat} (E : Env) (t : PTree) (fuel key : Nat) {s : PS} (hinv : Inv t.id s)
    (hroot : Vis s.heap t.id t.root) : Sat t.id lvl s (get E t fuel key) (fun _ _ => True) := by
  unfold get
  apply Sat.ite
  · intro _; exact Sat.pure hinv trivial
  · intro _
    apply Sat.bind (load_sat hinv E hroot); intro a s1 _ hinv1 ha
    apply Sat.bind (layerM_sat hinv1 E key); intro lay s2 e2 hinv2 _
    apply Sat.bind (findNode_sat E key _ false fuel hinv2 t.height (e2.vis _ ha) (PathVis.nil _ _))
    intro fd s3 _ hinv3 _
    apply Sat.bind_read; intro nd _
    apply Sat.ite
    · intro _; exact Sat.pure hinv3 trivial
    · intro _
      apply Sat.ite
      · intro _; exact Sat.pure hinv3 trivial
      · intro _; exact Sat.pure hinv3 trivial

theorem iterLinks_sat {m lvl : Nat} (g : HLink → M Unit)
    (hg : ∀ l {s : PS}, Inv m s → Vis s.heap m l → Sat m lvl s (g l) (fun _ _ => True)) (ls : List HLink) :
    ∀ {s : PS}, Inv m s → LinksVis s.heap m ls → Sat m lvl s (iterLinks g ls) (fun _ _ => True) := by
  induction ls with
  | nil => intro s hinv _; unfold iterLinks; exact Sat.pure hinv trivial
  | cons l ls ih =>
    intro s hinv hl
    have htail : LinksVis s.heap m ls := fun x hx => hl x (List.mem_cons_of_mem _ hx)
    cases l with
    | nil => unfold iterLinks; exact ih hinv htail
    | _ =>
      unfold iterLinks
      apply Sat.bind (hg _ hinv (hl _ List.mem_cons_self)); intro _ s1 e1 hinv1 _
      exact ih hinv1 (htail.ext e1)

theorem iterAll_sat {m lvl : Nat} (E : Env) (f : Nat) : ∀ {s : PS}, Inv m s → ∀ {l : HLink}, Vis s.heap m l →
    Sat m lvl s (iterAll E f l) (fun _ _ => True) := by
  induction f with
  | zero => intros; exact Sat.oof
  | succ f ih =>
    intro s hinv l hv
    unfold iterAll
    apply Sat.bind (load_sat hinv E hv); intro a s1 _ hinv1 ha
    apply Sat.bind_read; intro nd hnd
    exact iterLinks_sat _ (fun l _ hinv hv => ih hinv hv) nd.links hinv1 (links_vis hinv1 hnd ha)

end Mast.Ptr
