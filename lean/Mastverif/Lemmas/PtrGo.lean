import Mastverif.Lemmas.PtrStage
/-!
# `deleteGo` / `insertGo` against `delete` / `insert`

The driver runs `deleteGo` / `insertGo` (the record Go leaves when the height loop fails part-way);
the theorems of `Lemmas/Ptr*.lean`, `Ref*.lean` are about `delete` / `insert`.  The two agree on the
outcome, on the state whenever the call returns (`.ok` or `.err`), and on the record whenever it
succeeds; after an error the Go versions differ only in the record (the completed `shrink()` /
`grow()` steps are in it).
-/
namespace Mast.Ptr
open Mast.Heap

theorem M.bind_assoc {α β γ : Type} (x : M α) (f : α → M β) (g : β → M γ) :
    (x >>= f) >>= g = x >>= fun a => f a >>= g := by
  funext s
  show M.bind (M.bind x f) g s = M.bind x (fun a => M.bind (f a) g) s
  unfold M.bind
  cases x s <;> rfl

/-- how a run of the monadic loop and of the Go-style loop correspond -/
def LoopAgree (r : Res PTree) (g : PS × PTree × Outcome) : Prop :=
  match r with
  | .ok t' s' => g = (s', t', .ok)
  | .err s' => g.1 = s' ∧ g.2.2 = .err
  | .panic => g.2.2 = .panic
  | .stuck => g.2.2 = .stuck
  | .oof => g.2.2 = .oof

/-- one round of a height loop in both forms: a check that may fail, then stop, or step and go round -/
theorem LoopAgree.round (t : PTree) (check : M Bool) (d : Bool → Prop) [∀ b, Decidable (d b)] (step : M PTree)
    {rest : PTree → M PTree} {restGo : PTree → PS → PS × PTree × Outcome}
    (ih : ∀ t' s', LoopAgree (rest t' s') (restGo t' s')) (s : PS) :
    LoopAgree ((check >>= fun b => if d b then step >>= rest else pure t) s)
      (match check s with
       | .ok b s1 =>
         if d b then
           match step s1 with
           | .ok t' s2 => restGo t' s2
           | .err s2 => (s2, t, .err)
           | .panic => (s1, t, .panic)
           | .stuck => (s1, t, .stuck)
           | .oof => (s1, t, .oof)
         else (s1, t, .ok)
       | .err s1 => (s1, t, .err)
       | .panic => (s, t, .panic)
       | .stuck => (s, t, .stuck)
       | .oof => (s, t, .oof)) := by
  show LoopAgree (M.bind check _ s) _
  unfold M.bind
  cases check s with
  | ok b s1 =>
    dsimp only
    by_cases hd : d b
    · rw [if_pos hd, if_pos hd]
      show LoopAgree (M.bind step rest s1) _
      unfold M.bind
      cases step s1 with
      | ok t' s2 => exact ih t' s2
      | err s2 => exact ⟨rfl, rfl⟩
      | panic => rfl
      | stuck => rfl
      | oof => rfl
    · rw [if_neg hd, if_neg hd]; rfl
  | err s1 => exact ⟨rfl, rfl⟩
  | panic => rfl
  | stuck => rfl
  | oof => rfl

theorem shrinkAllGo_agree (E : Env) (f : Nat) : ∀ (t : PTree) (s : PS),
    LoopAgree (shrinkAll E f t s) (shrinkAllGo E f t s) := by
  induction f with
  | zero => intro t s; rfl
  | succ f ih =>
    intro t s
    unfold shrinkAll shrinkAllGo
    exact LoopAgree.round t (topEntryless t) (fun el => t.height > 0 ∧ (t.size ≤ t.shrinkBelow ∨ el = true)) (shrink E t)
      ih s

theorem growAllGo_agree (E : Env) (f : Nat) : ∀ (t : PTree) (s : PS),
    LoopAgree (growAll E f t s) (growAllGo E f t s) := by
  induction f with
  | zero => intro t s; rfl
  | succ f ih =>
    intro t s
    unfold growAll growAllGo
    by_cases hs : t.size < t.growAfter
    · rw [if_pos hs, if_pos hs]; rfl
    · rw [if_neg hs, if_neg hs]
      -- `growAllGo` runs the three calls of the check as one block
      have h := LoopAgree.round t (do let a ← load E t.root; let nd ← read a; canGrowM E t.height nd.keys)
        (fun cg => cg = true) (grow E t) ih s
      simp only [M.bind_assoc] at h
      exact h

/-- same outcome; same state when the call returns; same record when it succeeds -/
def GoAgree (g r : PS × PTree × Outcome) : Prop :=
  g.2.2 = r.2.2 ∧ ((r.2.2 = .ok ∨ r.2.2 = .err) → g.1 = r.1) ∧ (r.2.2 = .ok → g.2.1 = r.2.1)

theorem GoAgree.refl (r : PS × PTree × Outcome) : GoAgree r r := ⟨rfl, fun _ => rfl, fun _ => rfl⟩

theorem GoAgree.of_stopped {g r : PS × PTree × Outcome} (h : g.2.2 = r.2.2) (h1 : r.2.2 ≠ .ok) (h2 : r.2.2 ≠ .err) :
    GoAgree g r :=
  ⟨h, fun e => (e.elim h1 h2).elim, fun e => (h1 e).elim⟩

theorem LoopAgree.afterCommit {x : M PTree} {s : PS} {g : PS × PTree × Outcome} (t : PTree)
    (h : LoopAgree (x s) g) : GoAgree g (afterCommit x s t) := by
  unfold Mast.Ptr.afterCommit
  cases hx : x s with
  | ok t' s' => rw [hx] at h; rw [h]; exact GoAgree.refl _
  | err s' => rw [hx] at h; exact ⟨h.2, fun _ => h.1, fun e => by cases e⟩
  | panic => rw [hx] at h; exact .of_stopped h (fun e => by cases e) (fun e => by cases e)
  | stuck => rw [hx] at h; exact .of_stopped h (fun e => by cases e) (fun e => by cases e)
  | oof => rw [hx] at h; exact .of_stopped h (fun e => by cases e) (fun e => by cases e)

theorem GoAgree.stage {α : Type} {x : M α} {s : PS} {t : PTree} {k1 k2 : α → PS → PS × PTree × Outcome}
    (h : ∀ a s1, GoAgree (k1 a s1) (k2 a s1)) : GoAgree (stage x s t k1) (stage x s t k2) := by
  unfold Mast.Ptr.stage
  cases x s with
  | ok a s1 => exact h a s1
  | _ => exact GoAgree.refl _

theorem GoAgree.ite {c : Prop} [Decidable c] {a b a' b' : PS × PTree × Outcome} (ht : GoAgree a b)
    (hf : GoAgree a' b') : GoAgree (if c then a else a') (if c then b else b') := by
  by_cases h : c
  · rw [if_pos h, if_pos h]; exact ht
  · rw [if_neg h, if_neg h]; exact hf

theorem deleteGo_agree (E : Env) (fuel : Nat) (s : PS) (t : PTree) (k v : Nat) :
    GoAgree (deleteGo E fuel s t k v) (delete E fuel s t k v) := by
  rw [deleteGo_eq, delete_eq]
  exact GoAgree.stage fun p s1 => GoAgree.stage fun root s2 => (shrinkAllGo_agree E fuel _ s2).afterCommit _

theorem deleteGo_delete (E : Env) (fuel : Nat) (s : PS) (t : PTree) (k v : Nat) :
    (deleteGo E fuel s t k v).2.2 = (delete E fuel s t k v).2.2 ∧
    (((delete E fuel s t k v).2.2 = .ok ∨ (delete E fuel s t k v).2.2 = .err) →
      (deleteGo E fuel s t k v).1 = (delete E fuel s t k v).1) ∧
    ((delete E fuel s t k v).2.2 = .ok → (deleteGo E fuel s t k v).2.1 = (delete E fuel s t k v).2.1) :=
  deleteGo_agree E fuel s t k v

/-- `Insert` counts the new entry only when the growth loop came through -/
theorem GoAgree.count {g r : PS × PTree × Outcome} :
    GoAgree g r →
    GoAgree (match g with
        | (s3, t2, .ok) => (s3, { t2 with size := t2.size + 1 }, .ok)
        | r => r)
      (match r with
        | (s3, t2, .ok) => (s3, { t2 with size := t2.size + 1 }, .ok)
        | r => r) := by
  obtain ⟨gs, gt, go⟩ := g
  obtain ⟨rs, rt, ro⟩ := r
  rintro ⟨h1, h2, h3⟩
  dsimp only at h1 h2 h3
  subst h1
  cases go with
  | ok => obtain rfl := h2 (Or.inl rfl); obtain rfl := h3 rfl; exact GoAgree.refl _
  | _ => exact ⟨rfl, h2, h3⟩

theorem insertGo_agree (E : Env) (fuel : Nat) (s : PS) (t : PTree) (k v : Nat) :
    GoAgree (insertGo E fuel s t k v) (insert E fuel s t k v) := by
  rw [insertGo_eq, insert_eq]
  exact GoAgree.stage fun p s1 => GoAgree.ite (.refl _) <| GoAgree.stage fun root s2 =>
    GoAgree.ite (.refl _) ((growAllGo_agree E fuel _ s2).afterCommit _).count

theorem insertGo_insert (E : Env) (fuel : Nat) (s : PS) (t : PTree) (k v : Nat) :
    (insertGo E fuel s t k v).2.2 = (insert E fuel s t k v).2.2 ∧
    (((insert E fuel s t k v).2.2 = .ok ∨ (insert E fuel s t k v).2.2 = .err) →
      (insertGo E fuel s t k v).1 = (insert E fuel s t k v).1) ∧
    ((insert E fuel s t k v).2.2 = .ok → (insertGo E fuel s t k v).2.1 = (insert E fuel s t k v).2.1) :=
  insertGo_agree E fuel s t k v

end Mast.Ptr
