import Mastverif.Lemmas.PtrOps
/-! `grow` and the growth loop, `mergeNodes`, the plan and the commit of `Delete`: never stuck. -/
namespace Mast.Ptr
open Mast.Heap

theorem extractLink_sat {m lvl : Nat} {s : PS} (hinv : Inv m s) {nd : MNode} (frm to : Nat)
    (hl : LinksVis s.heap m nd.links) : Sat m lvl s (extractLink m nd frm to) (fun l s' => Vis s'.heap m l) := by
  unfold extractLink
  exact linkNew_sat hinv rfl rfl (fun l hl' => hl l (List.mem_of_mem_take (List.mem_of_mem_drop hl')))

theorem growLoop_sat {m lvl : Nat} (E : Env) (height : Nat) (nd : MNode) (es : List (Nat × Nat)) :
    ∀ {s : PS}, Inv m s → ∀ (i start : Nat) (ks vs : List Nat) {ls : List HLink},
      LinksVis s.heap m nd.links → LinksVis s.heap m ls →
      Sat m lvl s (growLoop E m height nd es i start ks vs ls) (fun r s' => LinksVis s'.heap m r.2.2.2) := by
  induction es with
  | nil => intro s hinv _ _ _ _ _ _ hl; unfold growLoop; exact Sat.pure hinv hl
  | cons e rest ih =>
    intro s hinv i start ks vs ls hn hl
    obtain ⟨k, v⟩ := e
    unfold growLoop
    apply Sat.bind (layerM_sat hinv E k); intro lay s1 e1 hinv1 _
    apply Sat.ite
    · intro _; exact ih hinv1 _ _ _ _ (hn.ext e1) (hl.ext e1)
    · intro _
      apply Sat.bind (extractLink_sat hinv1 start i (hn.ext e1)); intro l s2 e2 hinv2 hv
      exact ih hinv2 _ _ _ _ (hn.ext (e1.trans e2)) ((hl.ext (e1.trans e2)).snoc hv)

theorem grow_sat {lvl : Nat} (E : Env) (t : PTree) {s : PS} (hinv : Inv t.id s) (hroot : Vis s.heap t.id t.root) :
    Sat t.id lvl s (grow E t) (fun t' s' => Vis s'.heap t.id t'.root ∧ t'.id = t.id) := by
  unfold grow
  apply Sat.bind (load_sat hinv E hroot); intro a s1 _ hinv1 ha
  apply Sat.bind_read; intro nd hnd
  have hlv : LinksVis s1.heap t.id nd.links := links_vis hinv1 hnd ha
  apply Sat.bind (growLoop_sat E t.height nd _ hinv1 0 0 [] [] hlv (LinksVis.nil _ _))
  rintro ⟨start, ks, vs, ls⟩ s2 e2 hinv2 hls
  apply Sat.bind (extractLink_sat hinv2 start nd.keys.length (hlv.ext e2)); intro rl s3 e3 hinv3 hrl
  apply Sat.ite
  · intro _; exact Sat.fail hinv3
  · intro _
    apply Sat.bind (alloc_sat hinv3 rfl rfl ?_)
    · intro na s4 _ hinv4 ho; exact Sat.pure hinv4 ⟨own_vis ho, rfl⟩
    · exact (hls.ext e3).snoc hrl

theorem canGrowM_sat {m lvl : Nat} (E : Env) (h : Nat) (ks : List Nat) : ∀ {s : PS}, Inv m s →
    Sat m lvl s (canGrowM E h ks) (fun _ _ => True) := by
  induction ks with
  | nil => intro s hinv; unfold canGrowM; exact Sat.pure hinv trivial
  | cons k ks ih =>
    intro s hinv
    unfold canGrowM
    apply Sat.bind (layerM_sat hinv E k); intro lay s1 _ hinv1 _
    apply Sat.ite
    · intro _; exact Sat.pure hinv1 trivial
    · intro _; exact ih hinv1

theorem growAll_sat {m lvl : Nat} (E : Env) (f : Nat) : ∀ (t : PTree), t.id = m → ∀ {s : PS}, Inv m s →
    Vis s.heap m t.root → Sat m lvl s (growAll E f t) (fun t' s' => Vis s'.heap m t'.root ∧ t'.id = m) := by
  induction f with
  | zero => intros; exact Sat.oof
  | succ f ih =>
    intro t ht s hinv hroot
    subst ht
    unfold growAll
    apply Sat.ite
    · intro _; exact Sat.pure hinv ⟨hroot, rfl⟩
    · intro _
      apply Sat.bind (load_sat hinv E hroot); intro a s1 e1 hinv1 _
      apply Sat.bind_read; intro nd _
      apply Sat.bind (canGrowM_sat E t.height nd.keys hinv1); intro cg s2 e2 hinv2 _
      apply Sat.ite
      · intro _
        apply Sat.bind (grow_sat E t hinv2 ((e1.trans e2).vis _ hroot)); intro t' s3 _ hinv3 h3
        exact ih t' h3.2 hinv3 h3.1
      · intro _; exact Sat.pure hinv2 ⟨(e1.trans e2).vis _ hroot, rfl⟩

theorem mergeNodes_sat {m lvl : Nat} (E : Env) (f : Nat) : ∀ {s : PS}, Inv m s → ∀ {l r : HLink},
    Vis s.heap m l → Vis s.heap m r → Sat m lvl s (mergeNodes E m f l r) (fun x s' => Vis s'.heap m x) := by
  induction f with
  | zero => intros; exact Sat.oof
  | succ f ih =>
    intro s hinv l r hl hr
    unfold mergeNodes
    apply Sat.ite
    · intro _; exact Sat.pure hinv hr
    · intro _
      apply Sat.ite
      · intro _; exact Sat.pure hinv hl
      · intro _
        apply Sat.bind (load_sat hinv E hl); intro la s1 e1 hinv1 hla
        apply Sat.bind (load_sat hinv1 E (e1.vis _ hr)); intro ra s2 e2 hinv2 hra
        apply Sat.bind_read; intro ln hln
        apply Sat.bind_read; intro rn hrn
        have hlv : LinksVis s2.heap m ln.links := links_vis hinv2 hln (e2.vis _ hla)
        have hrv : LinksVis s2.heap m rn.links := links_vis hinv2 hrn hra
        cases hll : ln.links.getLast? with
        | none => exact Sat.panic
        | some ll =>
          cases hrl : rn.links with
          | nil => exact Sat.panic
          | cons rl rrest =>
            rw [hrl] at hrv
            apply Sat.bind (ih hinv2 (hlv ll (List.mem_of_getLast? hll)) (hrv rl List.mem_cons_self))
            intro merged s3 e3 hinv3 hm
            apply Sat.ite
            · intro _; exact Sat.fail hinv3
            · intro _
              apply Sat.bind (alloc_sat hinv3 rfl rfl ?_)
              · intro a s4 _ hinv4 ho; exact Sat.pure hinv4 (own_vis ho)
              · intro x hx
                rcases List.mem_append.mp hx with h | h
                · exact e3.vis _ (hlv x (List.dropLast_subset _ h))
                · rcases List.mem_cons.mp h with rfl | h
                  · exact hm
                  · exact e3.vis _ (hrv x (List.mem_cons_of_mem _ h))

def DelPlanOK (h : Heap) (m : Nat) (p : DelPlan) : Prop := FoundOK h m p.found ∧ Vis h m p.merged

theorem deletePlan_sat {lvl : Nat} (E : Env) (t : PTree) (fuel key val : Nat) {s : PS} (hinv : Inv t.id s)
    (hroot : Vis s.heap t.id t.root) :
    Sat t.id lvl s (deletePlan E t fuel key val) (fun p s' => DelPlanOK s'.heap t.id p) := by
  unfold deletePlan
  apply Sat.ite
  · intro _; exact Sat.fail hinv
  · intro _
    apply Sat.bind (layerM_sat hinv E key); intro lay s1 e1 hinv1 _
    apply Sat.bind (load_sat hinv1 E (e1.vis _ hroot)); intro a0 s2 _ hinv2 ha0
    apply Sat.bind (findNode_sat E key _ false fuel hinv2 t.height ha0 (PathVis.nil _ _))
    intro fd s3 _ hinv3 hfd
    apply Sat.bind_read; intro nd hnd
    have hlv : LinksVis s3.heap t.id nd.links := links_vis hinv3 hnd hfd.node
    apply Sat.ite
    · intro _; exact Sat.fail hinv3
    · intro _
      apply Sat.ite
      · intro _; exact Sat.fail hinv3
      · intro _
        apply Sat.ite
        · intro _; exact Sat.fail hinv3
        · intro _
          cases hl : nd.links[fd.idx]? with
          | none => exact Sat.panic
          | some l =>
            cases hr : nd.links[fd.idx + 1]? with
            | none => exact Sat.panic
            | some r =>
              apply Sat.bind (mergeNodes_sat E fuel hinv3 (hlv l (List.mem_of_getElem? hl))
                (hlv r (List.mem_of_getElem? hr)))
              intro mg s4 e4 hinv4 hmg
              exact Sat.pure hinv4 ⟨hfd.ext e4, hmg⟩

theorem deleteCommit_sat (t : PTree) {p : DelPlan} {s : PS} (hinv : Inv t.id s) (hpl : DelPlanOK s.heap t.id p) :
    Sat t.id 1 s (deleteCommit t p) (fun l s' => Vis s'.heap t.id l) := by
  unfold deleteCommit
  apply Sat.bind (toMut_sat hinv hpl.1.node); intro a' s1 e1 hinv1 ho
  apply Sat.bind_read; intro nd hnd
  have hlv : LinksVis s1.heap t.id nd.links := links_vis hinv1 hnd (own_vis ho)
  apply Sat.bind (write_sat (Nat.le_refl _) hinv1 ho hnd ?_)
  · intro _ s2 e2 hinv2 ho2
    exact savePath_sat hinv2 (pathVis_setLastNode (hpl.1.1.ext (e1.trans e2)) ho2)
  · intro l hl
    rcases List.mem_or_eq_of_mem_set hl with h | rfl
    · exact hlv l (List.mem_of_mem_eraseIdx h)
    · exact e1.vis _ hpl.2

end Mast.Ptr
