import Mastverif.Lemmas.PtrPrim
/-! The operations of `Model/Ptr.lean`: none is ever stuck, all keep the ownership invariant. -/
namespace Mast.Ptr
open Mast.Heap

theorem toMut_sat {m lvl : Nat} {s : PS} (hinv : Inv m s) {a : Nat} (hv : Vis s.heap m (.ptr a)) :
    Sat m lvl s (toMut m a) (fun a' s' => Own s'.heap m a') := by
  unfold toMut
  apply Sat.bind_read; intro nd hnd
  apply Sat.ite
  · intro _; exact Sat.panic
  · intro _
    apply Sat.ite
    · intro hs; exact Sat.pure hinv (own_of_vis_unshared hnd hv (by rw [Bool.not_eq_true'] at hs; exact hs))
    · intro _; exact alloc_sat hinv rfl rfl (links_vis (nd := nd) hinv hnd hv)

theorem emptyNode_links_vis (h : Heap) (m : Nat) : LinksVis h m (emptyNode m).links := by
  intro l hl; cases List.mem_singleton.mp hl; trivial

theorem follow_sat {m lvl : Nat} {s : PS} (hinv : Inv m s) (E : Env) {a : Nat} (i : Nat) (create : Bool)
    (hv : Vis s.heap m (.ptr a)) :
    Sat m lvl s (follow E m a i create) (fun c s' => Vis s'.heap m (.ptr c)) := by
  unfold follow
  apply Sat.bind_read; intro nd hnd
  cases hl : nd.links[i]? with
  | none => exact Sat.panic
  | some l =>
    have hvl : Vis s.heap m l := links_vis hinv hnd hv l (List.mem_of_getElem? hl)
    cases l with
    | nil =>
      apply Sat.ite
      · intro _; exact (alloc_sat hinv rfl rfl (emptyNode_links_vis s.heap m)).post (fun _ _ _ _ h => own_vis h)
      · intro _; exact Sat.pure hinv hv
    | _ => exact load_sat hinv E hvl

def PathVis (h : Heap) (m : Nat) (path : List (Nat × Nat)) : Prop := ∀ p ∈ path, Vis h m (.ptr p.1)

theorem PathVis.ext {m lvl : Nat} {s s' : PS} {path : List (Nat × Nat)} (e : Ext m lvl s s')
    (h : PathVis s.heap m path) : PathVis s'.heap m path := fun p hp => e.vis _ (h p hp)

theorem PathVis.nil (h : Heap) (m : Nat) : PathVis h m [] := fun _ hp => nomatch hp

theorem PathVis.snoc {h : Heap} {m a : Nat} {path : List (Nat × Nat)} (hp : PathVis h m path)
    (hv : Vis h m (.ptr a)) (i : Nat) : PathVis h m (path ++ [(a, i)]) := by
  intro p hm
  rcases List.mem_append.mp hm with h | h
  · exact hp p h
  · cases List.mem_singleton.mp h; exact hv

/-- what `findNode` returns: a path of nodes `m` can see, ending in the node found -/
def FoundOK (h : Heap) (m : Nat) (fd : Found) : Prop :=
  PathVis h m fd.path ∧ fd.path.getLast? = some (fd.node, fd.idx)

theorem FoundOK.ext {m lvl : Nat} {s s' : PS} {fd : Found} (e : Ext m lvl s s') (h : FoundOK s.heap m fd) :
    FoundOK s'.heap m fd := ⟨h.1.ext e, h.2⟩

theorem FoundOK.node {h : Heap} {m : Nat} {fd : Found} (hf : FoundOK h m fd) : Vis h m (.ptr fd.node) :=
  hf.1 _ (List.mem_of_getLast? hf.2)

theorem findNode_sat {m lvl : Nat} (E : Env) (key target : Nat) (create : Bool) (f : Nat) :
    ∀ {s : PS}, Inv m s → ∀ {a : Nat} (cur : Nat) {path : List (Nat × Nat)},
      Vis s.heap m (.ptr a) → PathVis s.heap m path →
      Sat m lvl s (findNode E m key target create f a cur path) (fun fd s' => FoundOK s'.heap m fd) := by
  induction f with
  | zero => intros; exact Sat.oof
  | succ f ih =>
    intro s hinv a cur path hv hp
    unfold findNode
    apply Sat.bind_read; intro nd _
    apply Sat.ite
    · intro _; exact Sat.panic
    · intro _
      apply Sat.ite
      · intro _; exact Sat.pure hinv ⟨hp.snoc hv _, List.getLast?_concat⟩
      · intro _
        apply Sat.bind (follow_sat hinv E _ create hv); intro c s1 e1 hinv1 hc
        exact ih hinv1 _ hc ((hp.snoc hv _).ext e1)

theorem linkNew_sat {m lvl : Nat} {s : PS} (hinv : Inv m s) {nd : MNode} (hown : nd.owner = m) (hsh : nd.shared = false)
    (hl : LinksVis s.heap m nd.links) : Sat m lvl s (linkNew nd) (fun l s' => Vis s'.heap m l) := by
  unfold linkNew
  apply Sat.ite
  · intro _; exact Sat.pure hinv trivial
  · intro _
    apply Sat.bind (alloc_sat hinv hown hsh hl); intro a s1 _ hinv1 ho
    exact Sat.pure hinv1 (own_vis ho)

theorem mem_setLast {ls : List HLink} {x l : HLink} (h : l ∈ setLast ls x) : l ∈ ls ∨ l = x := by
  rcases List.mem_append.mp h with h | h
  · exact Or.inl (List.dropLast_subset _ h)
  · exact Or.inr (List.mem_singleton.mp h)

theorem split_sat {m lvl : Nat} (E : Env) (key : Nat) (f : Nat) :
    ∀ {s : PS}, Inv m s → ∀ {a : Nat}, Vis s.heap m (.ptr a) →
      Sat m lvl s (split E m key f a) (fun r s' => Vis s'.heap m r.1 ∧ Vis s'.heap m r.2) := by
  induction f with
  | zero => intros; exact Sat.oof
  | succ f ih =>
    intro s hinv a hv
    have half : ∀ {s : PS}, Inv m s → ∀ {l : HLink}, Vis s.heap m l →
        Sat m lvl s (if l = .nil then pure (HLink.nil, HLink.nil) else do
            let c ← load E l
            split E m key f c) (fun r s' => Vis s'.heap m r.1 ∧ Vis s'.heap m r.2) := by
      intro s hinv l hl
      apply Sat.ite
      · intro _; exact Sat.pure hinv ⟨trivial, trivial⟩
      · intro _
        apply Sat.bind (load_sat hinv E hl); intro c s1 _ hinv1 hc
        exact ih hinv1 hc
    unfold split
    apply Sat.bind_read; intro nd hnd
    have hlv : LinksVis s.heap m nd.links := links_vis hinv hnd hv
    apply Sat.ite
    · intro _; exact Sat.panic
    · intro _
      dsimp only
      cases hlm : (List.take (keyIdx nd.keys key + 1) nd.links).getLast? with
      | none => exact Sat.panic
      | some leftMax =>
        apply Sat.bind (half hinv (hlv _ (List.mem_of_mem_take (List.mem_of_getLast? hlm))))
        rintro ⟨lm, tooBig⟩ s1 e1 hinv1 ⟨hlm', htb⟩
        apply Sat.bind (linkNew_sat hinv1 rfl rfl ?_)
        · intro leftLink s2 e2 hinv2 hll
          cases hdrop : List.drop (keyIdx nd.keys key) nd.links with
          | nil => exact Sat.panic
          | cons x rightRest =>
            apply Sat.bind (half hinv2 (e2.vis _ htb))
            rintro ⟨tooSmall, rm⟩ s3 e3 hinv3 ⟨_, hrm⟩
            apply Sat.ite
            · intro _; exact Sat.panic
            · intro _
              apply Sat.bind (linkNew_sat hinv3 rfl rfl ?_)
              · intro rightLink s4 e4 hinv4 hrl
                exact Sat.pure hinv4 ⟨e4.vis _ (e3.vis _ hll), hrl⟩
              · intro l hl
                rcases List.mem_cons.mp hl with rfl | h
                · exact hrm
                · exact (e1.trans (e2.trans e3)).vis _
                    (hlv l (List.mem_of_mem_drop (hdrop ▸ List.mem_cons_of_mem _ h)))
        · intro l hl
          rcases mem_setLast hl with h | rfl
          · exact e1.vis _ (hlv l (List.mem_of_mem_take h))
          · exact hlm'

def PathOwn (h : Heap) (m : Nat) (path : List (Nat × Nat)) : Prop := ∀ p ∈ path, Own h m p.1

theorem mutPath_sat {m : Nat} (path : List (Nat × Nat)) : ∀ {s : PS}, Inv m s → PathVis s.heap m path →
    Sat m 1 s (mutPath m path) (fun p' s' => PathOwn s'.heap m p') := by
  induction path with
  | nil => intro s hinv _; unfold mutPath; exact Sat.pure hinv (fun _ hp => nomatch hp)
  | cons x rest ih =>
    intro s hinv hp
    obtain ⟨a, i⟩ := x
    unfold mutPath
    have hva : Vis s.heap m (.ptr a) := hp (a, i) List.mem_cons_self
    apply Sat.bind_read; intro nd hnd
    apply Sat.bind (Q1 := fun a' s' => Own s'.heap m a')
    · apply Sat.ite
      · intro hd; exact Sat.pure hinv (own_of_vis_unshared hnd hva (hinv.du a nd hnd hd))
      · intro _
        apply Sat.bind (toMut_sat hinv hva); intro a' s1 _ hinv1 ho
        apply Sat.bind_read; intro nd' hnd'
        apply Sat.bind (write_sat (Nat.le_refl _) hinv1 ho hnd' (links_vis hinv1 hnd' (own_vis ho)))
        intro _ s2 _ hinv2 ho2
        exact Sat.pure hinv2 ho2
    · intro a' s1 e1 hinv1 ho
      apply Sat.bind (ih hinv1 (fun p hp' => e1.vis _ (hp p (List.mem_cons_of_mem _ hp'))))
      intro rest' s2 e2 hinv2 hpo
      refine Sat.pure hinv2 (fun p hp' => ?_)
      rcases List.mem_cons.mp hp' with rfl | h
      · exact e2.own (Nat.le_refl _) _ ho
      · exact hpo p h

/-- `relink` only writes: the path stays owned by `Ext.own` -/
theorem relink_sat {m : Nat} (path : List (Nat × Nat)) : ∀ {s : PS}, Inv m s → PathOwn s.heap m path →
    Sat m 1 s (relink m path) (fun _ _ => True) := by
  induction path with
  | nil => intro s hinv _; unfold relink; exact Sat.pure hinv trivial
  | cons x rest ih =>
    intro s hinv hp
    obtain ⟨a, i⟩ := x
    cases rest with
    | nil => unfold relink; exact Sat.pure hinv trivial
    | cons y rest =>
      obtain ⟨b, j⟩ := y
      unfold relink
      apply Sat.bind (ih hinv (fun p h => hp p (List.mem_cons_of_mem _ h)))
      intro _ s1 e1 hinv1 _
      have hoa := e1.own (Nat.le_refl _) _ (hp (a, i) List.mem_cons_self)
      have hob := e1.own (Nat.le_refl _) _ (hp (b, j) (List.mem_cons_of_mem _ List.mem_cons_self))
      apply Sat.bind_read; intro cnd _
      apply Sat.bind_read; intro nd hnd
      apply Sat.ite
      · intro _; exact Sat.panic
      · intro _
        refine (write_sat (Nat.le_refl _) hinv1 hoa hnd ?_).post (fun _ _ _ _ _ => trivial)
        intro l hl
        rcases List.mem_or_eq_of_mem_set hl with h | rfl
        · exact links_vis hinv1 hnd (own_vis hoa) l h
        · split
          · trivial
          · exact own_vis hob

theorem savePath_sat {m : Nat} {s : PS} (hinv : Inv m s) {path : List (Nat × Nat)} (hp : PathVis s.heap m path) :
    Sat m 1 s (savePath m path) (fun l s' => Vis s'.heap m l) := by
  unfold savePath
  apply Sat.bind (mutPath_sat path hinv hp); intro p s1 _ hinv1 hpo
  apply Sat.bind (relink_sat p hinv1 hpo); intro _ s2 e2 hinv2 _
  cases p with
  | nil => exact Sat.panic
  | cons x _ => exact Sat.pure hinv2 (own_vis (e2.own (Nat.le_refl _) _ (hpo x List.mem_cons_self)))

def InsPlanOK (h : Heap) (m : Nat) (p : InsPlan) : Prop :=
  FoundOK h m p.found ∧ Vis h m p.left ∧ Vis h m p.right

theorem insertPlan_sat {lvl : Nat} (E : Env) (t : PTree) (fuel key val : Nat) {s : PS} (hinv : Inv t.id s)
    (hroot : Vis s.heap t.id t.root) :
    Sat t.id lvl s (insertPlan E t fuel key val) (fun p s' => InsPlanOK s'.heap t.id p) := by
  unfold insertPlan
  apply Sat.bind (layerM_sat hinv E key); intro lay s1 e1 hinv1 _
  apply Sat.bind (Q1 := fun a0 s' => Vis s'.heap t.id (.ptr a0))
  · apply Sat.ite
    · intro _
      exact (alloc_sat hinv1 rfl rfl (emptyNode_links_vis s1.heap t.id)).post (fun _ _ _ _ h => own_vis h)
    · intro _; exact load_sat hinv1 E (e1.vis _ hroot)
  · intro a0 s2 _ hinv2 ha0
    apply Sat.bind (findNode_sat E key _ true fuel hinv2 t.height ha0 (PathVis.nil _ _))
    intro fd s3 _ hinv3 hfd
    apply Sat.ite
    · intro _; exact Sat.panic
    · intro _
      apply Sat.bind_read; intro nd hnd
      apply Sat.ite
      · intro _; exact Sat.pure hinv3 ⟨hfd, trivial, trivial⟩
      · intro _
        cases hl : nd.links[fd.idx]? with
        | none => exact Sat.panic
        | some l =>
          have hvl : Vis s3.heap t.id l := links_vis hinv3 hnd hfd.node l (List.mem_of_getElem? hl)
          have hsplit : Sat t.id lvl s3 (do
                let c ← load E l
                let (lf, rt) ← split E t.id key fuel c
                pure { found := fd, present := false, same := false, left := lf, right := rt })
              (fun p s' => InsPlanOK s'.heap t.id p) := by
            apply Sat.bind (load_sat hinv3 E hvl); intro c s4 e4 hinv4 hc
            apply Sat.bind (split_sat E key fuel hinv4 hc)
            rintro ⟨lf, rt⟩ s5 e5 hinv5 hq
            exact Sat.pure hinv5 ⟨hfd.ext (e4.trans e5), hq.1, hq.2⟩
          cases l with
          | nil => exact Sat.pure hinv3 ⟨hfd, trivial, trivial⟩
          | _ => exact hsplit

theorem mem_setLastNode {path : List (Nat × Nat)} {a : Nat} {q : Nat × Nat} (h : q ∈ setLastNode path a) :
    q ∈ path ∨ q.1 = a := by
  unfold setLastNode at h
  split at h
  · cases h
  · rcases List.mem_append.mp h with h | h
    · exact Or.inl (List.dropLast_subset _ h)
    · cases List.mem_singleton.mp h; exact Or.inr rfl

theorem pathVis_setLastNode {h : Heap} {m a : Nat} {path : List (Nat × Nat)} (hp : PathVis h m path)
    (ho : Own h m a) : PathVis h m (setLastNode path a) := by
  intro q hq
  rcases mem_setLastNode hq with h | h
  · exact hp q h
  · rw [h]; exact own_vis ho

theorem insertCommit_sat (t : PTree) {p : InsPlan} (key val : Nat) {s : PS} (hinv : Inv t.id s)
    (hpl : InsPlanOK s.heap t.id p) :
    Sat t.id 1 s (insertCommit t p key val) (fun l s' => Vis s'.heap t.id l) := by
  unfold insertCommit
  apply Sat.bind (toMut_sat hinv hpl.1.node); intro a' s1 e1 hinv1 ho
  apply Sat.bind_read; intro nd hnd
  have hlv : LinksVis s1.heap t.id nd.links := links_vis hinv1 hnd (own_vis ho)
  have hsave : ∀ (u : Unit) (s2 : PS), Ext t.id 1 s1 s2 → Inv t.id s2 → Own s2.heap t.id a' →
      Sat t.id 1 s2 (savePath t.id (setLastNode p.found.path a')) (fun l s' => Vis s'.heap t.id l) :=
    fun _ s2 e2 hinv2 ho2 => savePath_sat hinv2 (pathVis_setLastNode (hpl.1.1.ext (e1.trans e2)) ho2)
  apply Sat.ite
  · intro _; exact Sat.bind (write_sat (Nat.le_refl _) hinv1 ho hnd hlv) hsave
  · intro _
    refine Sat.bind (write_sat (Nat.le_refl _) hinv1 ho hnd ?_) hsave
    intro l hl
    rcases List.mem_append.mp hl with h | h
    · exact hlv l (List.mem_of_mem_take h)
    · rcases List.mem_cons.mp h with rfl | h
      · exact e1.vis _ hpl.2.1
      · rcases List.mem_cons.mp h with rfl | h
        · exact e1.vis _ hpl.2.2
        · exact hlv l (List.mem_of_mem_drop h)

end Mast.Ptr
