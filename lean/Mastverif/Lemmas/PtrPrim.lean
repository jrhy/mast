import Mastverif.Lemmas.PtrBase
/-! The three guarded primitives and the loads.  Every change of the heap is an allocation
    (`step_append`) or the overwrite of an object the actor owns (`step_set`). -/
namespace Mast.Ptr
open Mast.Heap

theorem allocOnly_append (h : Heap) (nd : MNode) : AllocOnly h (h ++ [nd]) :=
  fun _ _ hx => getElem?_append_left' hx

theorem getElem?_append_self (h : Heap) (nd : MNode) : (h ++ [nd])[h.length]? = some nd := by
  rw [List.getElem?_append_right (Nat.le_refl _), Nat.sub_self]; rfl

theorem du_append {h : Heap} {nd : MNode} (hd : DirtyUnshared h) (hn : nd.dirty = true → nd.shared = false) :
    DirtyUnshared (h ++ [nd]) := by
  intro a x hx
  rcases getElem?_append_single hx with hx | ⟨_, rfl⟩
  · exact hd a x hx
  · exact hn

theorem du_set {h : Heap} {a : Nat} {nd : MNode} (hd : DirtyUnshared h) (hn : nd.dirty = true → nd.shared = false) :
    DirtyUnshared (h.set a nd) := by
  intro b x hx
  rcases getElem?_set_cases hx with ⟨_, rfl⟩ | ⟨_, hx⟩
  · exact hn
  · exact hd b x hx

theorem shared_set {h : Heap} {a b : Nat} {old nd : MNode} (ho : h[a]? = some old)
    (hk : old.shared = true → nd.shared = true) (hs : SharedA h b) : SharedA (h.set a nd) b := by
  obtain ⟨x, hx, hsx⟩ := hs
  by_cases hba : b = a
  · subst hba
    rw [ho] at hx; cases hx
    exact ⟨nd, List.getElem?_set_self (List.getElem?_eq_some_iff.mp ho).1, hk hsx⟩
  · exact ⟨x, by rw [List.getElem?_set_ne (Ne.symm hba)]; exact hx, hsx⟩

theorem own_set {h : Heap} {m a b : Nat} {old nd : MNode} (ho : h[a]? = some old)
    (hn : nd.shared = false ∧ nd.owner = m) (hs : Own h m b) : Own (h.set a nd) m b := by
  obtain ⟨x, hx, hsx⟩ := hs
  by_cases hba : b = a
  · subst hba
    exact ⟨nd, List.getElem?_set_self (List.getElem?_eq_some_iff.mp ho).1, hn⟩
  · exact ⟨x, by rw [List.getElem?_set_ne (Ne.symm hba)]; exact hx, hsx⟩

/-- `c`: the cache may have learnt the new address, if the object is shared -/
theorem step_append {m lvl : Nat} {s : PS} {nd : MNode} (c : List (Nat × Nat)) (t : Nat) (hinv : Inv m s)
    (hg : applyAct s.heap (.alloc nd) = some (s.heap ++ [nd])) (ho : nd.owner = m ∨ nd.owner = 0)
    (hl : LinksVis s.heap m nd.links) (hd : nd.dirty = true → nd.shared = false)
    (hc : ∀ n a, (n, a) ∈ c → (n, a) ∈ s.cache ∨ (a = s.heap.length ∧ nd.shared = true)) :
    Ext m lvl s { s with heap := s.heap ++ [nd], cache := c, tick := t } ∧
      Inv m { s with heap := s.heap ++ [nd], cache := c, tick := t } := by
  have he : Ext m lvl s { s with heap := s.heap ++ [nd], cache := c, tick := t } :=
    Ext.of_allocOnly (allocOnly_append _ _)
      (fun v hvm hv0 hcv => foreign_step hcv (show Foreign v (.alloc nd) by rintro rfl; exact ho.elim hvm hv0) hg)
      ⟨[], (List.append_nil _).symm⟩
  refine ⟨he, closed_append hinv.closed (fun _ => hl), du_append hinv.du hd, hinv.flat, ?_, hinv.mpos⟩
  intro n a hna
  rcases hc n a hna with h | ⟨rfl, hs⟩
  · exact he.shr a (hinv.cache n a h)
  · exact ⟨nd, getElem?_append_self _ _, hs⟩

theorem step_set {m lvl : Nat} {s : PS} {act : Act} {a : Nat} {old nd : MNode} (hinv : Inv m s)
    (hg : applyAct s.heap act = some (s.heap.set a nd)) (hact : ∀ v, v ≠ m → Foreign v act)
    (ho : s.heap[a]? = some old) (hos : old.shared = false) (hk : nd.shared = true ∨ nd.owner = m)
    (hl : LinksVis s.heap m nd.links) (hd : nd.dirty = true → nd.shared = false)
    (hl1 : lvl ≤ 1) (hown : 1 ≤ lvl → nd.shared = false ∧ nd.owner = m) :
    Ext m lvl s { s with heap := s.heap.set a nd } ∧ Inv m { s with heap := s.heap.set a nd } := by
  have hsh : ∀ b, SharedA s.heap b → SharedA (s.heap.set a nd) b :=
    fun b hb => shared_set ho (fun h => by rw [hos] at h; cases h) hb
  refine ⟨⟨fun v hvm _ hc => foreign_step hc (hact v hvm) hg, fun l hv => vis_set_mono ho (fun _ => hk) hv, hsh,
      fun h1 b hb => own_set ho (hown h1) hb, fun h2 => absurd (Nat.le_trans h2 hl1) (by decide), ⟨[], (List.append_nil _).symm⟩⟩,
    closed_set hinv.closed ho (fun _ => hk) (fun _ => hl), du_set hinv.du hd, hinv.flat, ?_, hinv.mpos⟩
  intro n b hnb; exact hsh b (hinv.cache n b hnb)

theorem alloc_sat {m lvl : Nat} {s : PS} (hinv : Inv m s) {nd : MNode} (hown : nd.owner = m) (hsh : nd.shared = false)
    (hl : LinksVis s.heap m nd.links) : Sat m lvl s (alloc nd) (fun a s' => Own s'.heap m a) := by
  have hg : applyAct s.heap (.alloc nd) = some (s.heap ++ [nd]) :=
    applyAct_alloc.mpr ⟨⟨fun l hl' => by rw [hown]; exact linkOK_of_vis (hl l hl'),
      fun h1 => by rw [hsh] at h1; cases h1⟩, rfl⟩
  obtain ⟨he, hi⟩ := step_append (lvl := lvl) s.cache s.tick hinv hg (Or.inl hown) hl (fun _ => hsh)
    (fun _ _ h => Or.inl h)
  unfold Sat alloc
  rw [hg]
  exact ⟨he, hi, nd, getElem?_append_self _ _, hsh, hown⟩

/-- stated for `{ nd with … }`: every write of the model keeps `shared` and `owner` -/
theorem write_sat {m lvl : Nat} (hl1 : lvl ≤ 1) {s : PS} (hinv : Inv m s) {a : Nat} {nd : MNode} (ho : Own s.heap m a)
    (hnd : s.heap[a]? = some nd) {ks vs : List Nat} {ls : List HLink} {d : Bool} {src : Option Nat}
    (hl : LinksVis s.heap m ls) :
    Sat m lvl s (write m a { keys := ks, vals := vs, links := ls, dirty := d, shared := nd.shared, owner := nd.owner,
                             source := src })
      (fun _ s' => Own s'.heap m a) := by
  obtain ⟨old, ho, hos, hoo⟩ := ho
  cases ho.symm.trans hnd
  have hg : applyAct s.heap (.write m a { keys := ks, vals := vs, links := ls, dirty := d, shared := nd.shared,
                                          owner := nd.owner, source := src }) = some _ :=
    applyAct_write.mpr ⟨nd, hnd, ⟨hoo, hos, hoo, hos, fun l hl' => linkOK_of_vis (hl l hl'), hinv.mpos⟩, rfl⟩
  obtain ⟨he, hi⟩ := step_set (lvl := lvl) hinv hg (fun v hvm => Ne.symm hvm) hnd hos (Or.inr hoo) hl
    (fun _ => hos) hl1 (fun _ => ⟨hos, hoo⟩)
  unfold Sat write
  rw [hg]
  exact ⟨he, hi, _, List.getElem?_set_self (List.getElem?_eq_some_iff.mp hnd).1, hos, hoo⟩

theorem publish_sat {m : Nat} {s : PS} (hinv : Inv m s) {a : Nat} {links : List HLink} (ho : Own s.heap m a)
    (hflat : Flat links) : Sat m 0 s (publish m a links) (fun _ s' => SharedA s'.heap a) := by
  obtain ⟨old, ho, hos, hoo⟩ := ho
  have hg := applyAct_publish.mpr ⟨old, ho, ⟨hoo, hos, hflat, hinv.mpos⟩, rfl⟩
  obtain ⟨he, hi⟩ := step_set (lvl := 0) hinv hg (fun v hvm => Ne.symm hvm) ho hos (Or.inl rfl)
    (.of_flat hflat) (fun h => by cases h) (Nat.zero_le _)
    (fun h => absurd h (by decide))
  unfold Sat publish
  rw [hg]
  exact ⟨he, hi, _, List.getElem?_set_self (List.getElem?_eq_some_iff.mp ho).1, rfl⟩

theorem lookupCache_mem {n a : Nat} : ∀ {c : List (Nat × Nat)}, lookupCache n c = some a → (n, a) ∈ c := by
  intro c
  induction c with
  | nil => intro h; cases h
  | cons x xs ih =>
    intro h
    obtain ⟨k, b⟩ := x
    simp only [lookupCache] at h
    split at h
    · next hk => cases h; subst hk; exact List.mem_cons_self
    · exact List.mem_cons_of_mem _ (ih h)

theorem ext_inv_of_counters {m lvl : Nat} {s s' : PS} (hinv : Inv m s) (hh : s'.heap = s.heap) (hs : s'.store = s.store)
    (hc : s'.cache = s.cache) : Ext m lvl s s' ∧ Inv m s' :=
  ⟨Ext.of_heap_eq hh ⟨[], by rw [hs, List.append_nil]⟩,
    by rw [hh]; exact hinv.closed, by rw [hh]; exact hinv.du, by rw [hs]; exact hinv.flat,
    fun n a h => by rw [hh]; exact hinv.cache n a (hc ▸ h), hinv.mpos⟩

theorem loadRef_sat {m lvl : Nat} {s : PS} (hinv : Inv m s) (E : Env) (n : Nat) :
    Sat m lvl s (loadRef E n) (fun a s' => SharedA s'.heap a) := by
  have h1 : Ext m lvl s { s with tick := s.tick + 1 } ∧ Inv m { s with tick := s.tick + 1 } :=
    ext_inv_of_counters hinv rfl rfl rfl
  unfold Sat loadRef
  cases hc : (if s.useCache = true then lookupCache n s.cache else none) with
  | some a =>
    refine ⟨Ext.refl _ _ _, hinv, ?_⟩
    split at hc
    · exact hinv.cache n a (lookupCache_mem hc)
    · cases hc
  | none =>
    dsimp only
    by_cases hf : E.failAt s.tick = true
    · rw [if_pos hf]; exact h1
    · rw [if_neg hf]
      cases hsn : (if n = 0 then none else s.store[n - 1]?) with
      | none => exact h1
      | some sn =>
        dsimp only
        -- the decoded node is shared and has no pointer links, because the store has none
        have hfl : Flat (if sn.links.isEmpty then List.replicate (sn.keys.length + 1) HLink.nil else sn.links) := by
          intro l hl
          split at hl
          · rw [(List.mem_replicate.mp hl).2]; rfl
          · split at hsn
            · cases hsn
            · exact hinv.flat sn (List.mem_of_getElem? hsn) l hl
        generalize hg : applyAct _ (Act.alloc _) = r
        have hr := hg.symm.trans (applyAct_alloc.mpr
          ⟨⟨fun l hl => linkOK_of_vis (vis_of_not_isPtr (hfl l hl)), fun _ => hfl⟩, rfl⟩)
        subst hr
        obtain ⟨he, hi⟩ := step_append (lvl := lvl)
          (if s.useCache then (n, s.heap.length) :: s.cache else s.cache) (s.tick + 1) hinv hg (Or.inr rfl)
          (.of_flat hfl) (fun h => by cases h)
          (fun k b hkb => by
            split at hkb
            · rcases List.mem_cons.mp hkb with h | h
              · cases h; exact Or.inr ⟨rfl, rfl⟩
              · exact Or.inl h
            · exact Or.inl hkb)
        exact ⟨he, hi, _, getElem?_append_self _ _, rfl⟩

theorem layerM_sat {m lvl : Nat} {s : PS} (hinv : Inv m s) (E : Env) (k : Nat) :
    Sat m lvl s (layerM E k) (fun _ _ => True) := by
  have h1 : Ext m lvl s { s with ltick := s.ltick + 1 } ∧ Inv m { s with ltick := s.ltick + 1 } :=
    ext_inv_of_counters hinv rfl rfl rfl
  unfold Sat layerM
  by_cases hf : E.layerFailAt s.ltick = true
  · rw [if_pos hf]; exact h1
  · rw [if_neg hf]; exact ⟨h1.1, h1.2, trivial⟩

/-- the reader `v` is the actor, or the tree a clone is taken from -/
theorem load_sat {m lvl : Nat} {s : PS} (hinv : Inv m s) (E : Env) {v : Nat} {l : HLink} (hv : Vis s.heap v l) :
    Sat m lvl s (load E l) (fun a s' => Vis s'.heap v (.ptr a)) := by
  cases l with
  | nil => exact Sat.fail hinv
  | ptr a => exact Sat.pure hinv hv
  | ref n => exact (loadRef_sat hinv E n).post (fun a s' _ _ h => shared_vis h)

end Mast.Ptr
