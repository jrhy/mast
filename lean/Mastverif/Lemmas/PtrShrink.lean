import Mastverif.Lemmas.PtrGrow
/-! `shrink`, `Clone`/`ToShared`: never stuck. -/
namespace Mast.Ptr
open Mast.Heap

theorem shrinkLoop_sat {m lvl : Nat} (E : Env) (ls : List HLink) : ∀ {s : PS}, Inv m s →
    ∀ (es : List (Nat × Nat)) {acc : MNode}, LinksVis s.heap m ls → LinksVis s.heap m acc.links →
    Sat m lvl s (shrinkLoop E ls es acc)
      (fun r s' => r.owner = acc.owner ∧ r.shared = acc.shared ∧ LinksVis s'.heap m r.links) := by
  induction ls with
  | nil => intro s hinv _ _ _ ha; unfold shrinkLoop; exact Sat.pure hinv ⟨rfl, rfl, ha⟩
  | cons l ls ih =>
    intro s hinv es acc hls ha
    unfold shrinkLoop
    apply Sat.bind
      (Q1 := fun acc1 s' => acc1.owner = acc.owner ∧ acc1.shared = acc.shared ∧ LinksVis s'.heap m acc1.links)
    · apply Sat.ite
      · intro _; exact Sat.pure hinv ⟨rfl, rfl, ha.snoc trivial⟩
      · intro _
        apply Sat.bind (load_sat hinv E (hls l List.mem_cons_self)); intro c s1 e1 hinv1 hc
        apply Sat.bind_read; intro cn hcn
        apply Sat.ite
        · intro _; exact Sat.panic
        · intro _; exact Sat.pure hinv1 ⟨rfl, rfl, (ha.ext e1).append (links_vis hinv1 hcn hc)⟩
    · rintro acc1 s1 e1 hinv1 ⟨ho, hs, hl1⟩
      have hrest : LinksVis s1.heap m ls := fun x hx => e1.vis _ (hls x (List.mem_cons_of_mem _ hx))
      cases es with
      | nil => exact (ih hinv1 [] hrest hl1).post (fun r _ _ _ h => ⟨h.1.trans ho, h.2.1.trans hs, h.2.2⟩)
      | cons e es' =>
        obtain ⟨k, v⟩ := e
        exact (ih hinv1 es' (acc := { acc1 with keys := acc1.keys ++ [k], vals := acc1.vals ++ [v] }) hrest hl1).post
          (fun r _ _ _ h => ⟨h.1.trans ho, h.2.1.trans hs, h.2.2⟩)

theorem shrink_sat {lvl : Nat} (E : Env) (t : PTree) {s : PS} (hinv : Inv t.id s) (hroot : Vis s.heap t.id t.root) :
    Sat t.id lvl s (shrink E t) (fun t' s' => Vis s'.heap t.id t'.root ∧ t'.id = t.id) := by
  unfold shrink
  apply Sat.ite
  · intro _; exact Sat.fail hinv
  · intro _
    apply Sat.ite
    · intro _; exact Sat.fail hinv
    · intro _
      apply Sat.bind (load_sat hinv E hroot); intro a s1 _ hinv1 ha
      apply Sat.bind_read; intro nd hnd
      apply Sat.bind (shrinkLoop_sat E nd.links hinv1 _ (links_vis hinv1 hnd ha) (LinksVis.nil _ _))
      rintro top s2 _ hinv2 ⟨ho, hs, hl⟩
      apply Sat.ite
      · intro _; exact Sat.panic
      · intro _
        apply Sat.bind (linkNew_sat hinv2 ho hs hl); intro r s3 _ hinv3 hr
        exact Sat.pure hinv3 ⟨hr, rfl⟩

theorem topEntryless_sat {m lvl : Nat} (t : PTree) {s : PS} (hinv : Inv m s) :
    Sat m lvl s (topEntryless t) (fun _ _ => True) := by
  unfold topEntryless
  cases t.root with
  | ptr a => apply Sat.bind_read; intro nd _; exact Sat.pure hinv trivial
  | _ => exact Sat.pure hinv trivial

theorem shrinkAll_sat {m lvl : Nat} (E : Env) (f : Nat) : ∀ (t : PTree), t.id = m → ∀ {s : PS}, Inv m s →
    Vis s.heap m t.root → Sat m lvl s (shrinkAll E f t) (fun t' s' => Vis s'.heap m t'.root ∧ t'.id = m) := by
  induction f with
  | zero => intros; exact Sat.oof
  | succ f ih =>
    intro t ht s hinv hroot
    subst ht
    unfold shrinkAll
    apply Sat.bind (topEntryless_sat t hinv); intro el s1 e1 hinv1 _
    apply Sat.ite
    · intro _
      apply Sat.bind (shrink_sat E t hinv1 (e1.vis _ hroot)); intro t' s2 _ hinv2 h2
      exact ih t' h2.2 hinv2 h2.1
    · intro _; exact Sat.pure hinv1 ⟨e1.vis _ hroot, rfl⟩

/-! ## Clone: what the source `old` can see stays visible to `old` while the clone `m` works (`Ext.other`) -/

theorem mapLinks_sat {m lvl old : Nat} (h1 : old ≠ m) (h0 : old ≠ 0) (g : Nat → M Nat)
    (hg : ∀ c {s : PS}, Inv m s → Closed s.heap old → Vis s.heap old (.ptr c) →
      Sat m lvl s (g c) (fun c' s' => Vis s'.heap m (.ptr c'))) (ls : List HLink) :
    ∀ {s : PS}, Inv m s → Closed s.heap old → (∀ l ∈ ls, Vis s.heap old l) →
      Sat m lvl s (mapLinks g ls) (fun ls' s' => LinksVis s'.heap m ls') := by
  induction ls with
  | nil => intro s hinv _ _; unfold mapLinks; exact Sat.pure hinv (LinksVis.nil _ _)
  | cons l ls ih =>
    intro s hinv hc hv
    have htail : ∀ x ∈ ls, Vis s.heap old x := fun x hx => hv x (List.mem_cons_of_mem _ hx)
    cases l with
    | ptr c =>
      unfold mapLinks
      apply Sat.bind_read; intro cn hcn
      apply Sat.bind (Q1 := fun l' s' => Vis s'.heap m l')
      · apply Sat.ite
        · intro hsh; exact Sat.pure hinv ⟨cn, hcn, Or.inl hsh⟩
        · intro _
          apply Sat.bind (hg c hinv hc (hv _ List.mem_cons_self)); intro c' s1 _ hinv1 h
          exact Sat.pure hinv1 h
      · intro l' s1 e1 hinv1 hl'
        obtain ⟨hc1, hv1⟩ := e1.other h1 h0 hc
        apply Sat.bind (ih hinv1 hc1 (fun x hx => hv1 _ (htail x hx))); intro ls' s2 e2 hinv2 hq
        exact Sat.pure hinv2 (.cons (e2.vis _ hl') hq)
    | _ =>
      unfold mapLinks
      apply Sat.bind (ih hinv hc htail); intro ls' s1 _ hinv1 hq
      exact Sat.pure hinv1 (.cons trivial hq)

theorem toShared_sat {m lvl old : Nat} (h1 : old ≠ m) (h0 : old ≠ 0) (f : Nat) : ∀ {s : PS}, Inv m s →
    ∀ {a : Nat}, Closed s.heap old → Vis s.heap old (.ptr a) →
      Sat m lvl s (toShared m f a) (fun a' s' => Vis s'.heap m (.ptr a')) := by
  induction f with
  | zero => intros; exact Sat.oof
  | succ f ih =>
    intro s hinv a hc hv
    unfold toShared
    apply Sat.bind_read; intro nd hnd
    apply Sat.ite
    · intro hsh; exact Sat.pure hinv ⟨nd, hnd, Or.inl hsh⟩
    · intro hsh
      obtain ⟨nd', hnd', hso⟩ := hv
      cases hnd.symm.trans hnd'
      -- `old` can see the object, so (its view being closed) it can see what the object links to
      apply Sat.bind (mapLinks_sat h1 h0 _ (fun c _ hinv hc hv => ih hinv hc hv) nd.links hinv hc (hc a nd hnd hso))
      intro links' s1 _ hinv1 hq
      refine (alloc_sat hinv1 rfl ?_ ?_).post (fun _ _ _ _ h => own_vis h)
      · exact Bool.eq_false_iff.mpr hsh
      · exact hq

theorem clone_sat {lvl : Nat} (E : Env) (t : PTree) (newId fuel : Nat) (h1 : t.id ≠ newId) (h0 : t.id ≠ 0)
    {s : PS} (hinv : Inv newId s) (hc : Closed s.heap t.id) (hroot : Vis s.heap t.id t.root) :
    Sat newId lvl s (clone E t newId fuel) (fun t' s' => Vis s'.heap newId t'.root ∧ t'.id = newId) := by
  unfold clone
  apply Sat.ite
  · intro hr; exact Sat.pure hinv ⟨by show Vis s.heap newId t.root; rw [hr]; trivial, rfl⟩
  · intro _
    apply Sat.bind (load_sat hinv E hroot); intro a s1 e1 hinv1 ha
    apply Sat.bind (toShared_sat h1 h0 fuel hinv1 (e1.other h1 h0 hc).1 ha); intro a' s2 _ hinv2 h
    exact Sat.pure hinv2 ⟨h, rfl⟩

end Mast.Ptr
