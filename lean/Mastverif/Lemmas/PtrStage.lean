import Mastverif.Model.Ptr
/-!
`Insert` and `Delete` run a plan, a commit and a height loop; a stage that does not come through ends the
call with the record as it was.  `insertWith` / `deleteWith` take the loop as a parameter: `insert` / `delete`
put in the monadic loop, `insertGo` / `deleteGo` the loop as Go runs it.
-/
namespace Mast.Ptr
open Mast.Heap

def stage {α : Type} (x : M α) (s : PS) (t : PTree) (k : α → PS → PS × PTree × Outcome) : PS × PTree × Outcome :=
  match x s with
  | .ok a s1 => k a s1
  | .err s1 => (s1, t, .err)
  | .panic => (s, t, .panic)
  | .stuck => (s, t, .stuck)
  | .oof => (s, t, .oof)

theorem stage_cases {α : Type} {x : M α} {s : PS} {t : PTree} {k : α → PS → PS × PTree × Outcome}
    (P : PS × PTree × Outcome → Prop) (hok : ∀ a s1, x s = .ok a s1 → P (k a s1))
    (herr : ∀ s1, x s = .err s1 → P (s1, t, .err))
    (hstop : ∀ o, (o = .stuck → x s = .stuck) → o ≠ .ok → o ≠ .err → P (s, t, o)) : P (stage x s t k) := by
  unfold stage
  cases hx : x s with
  | ok a s1 => exact hok a s1 hx
  | err s1 => exact herr s1 hx
  | panic => exact hstop _ (fun h => by cases h) (fun h => by cases h) (fun h => by cases h)
  | stuck => exact hstop _ (fun _ => hx) (fun h => by cases h) (fun h => by cases h)
  | oof => exact hstop _ (fun h => by cases h) (fun h => by cases h) (fun h => by cases h)

theorem afterCommit_eq (x : M PTree) (s : PS) (t : PTree) :
    afterCommit x s t = stage x s t (fun t' s' => (s', t', .ok)) := by
  unfold afterCommit stage; cases x s <;> rfl

def insertWith (loop : PTree → PS → PS × PTree × Outcome) (E : Env) (fuel : Nat) (s : PS) (t : PTree) (key val : Nat) :
    PS × PTree × Outcome :=
  stage (insertPlan E t fuel key val) s t fun p s1 =>
    if p.present && p.same then (s1, t, .ok)
    else stage (insertCommit t p key val) s1 t fun root s2 =>
      if p.present then (s2, { t with root := root }, .ok)
      else
        match loop { t with root := root } s2 with
        | (s3, t2, .ok) => (s3, { t2 with size := t2.size + 1 }, .ok)
        | r => r

def deleteWith (loop : PTree → PS → PS × PTree × Outcome) (E : Env) (fuel : Nat) (s : PS) (t : PTree) (key val : Nat) :
    PS × PTree × Outcome :=
  stage (deletePlan E t fuel key val) s t fun p s1 =>
    stage (deleteCommit t p) s1 t fun root s2 => loop { t with root := root, size := t.size - 1 } s2

theorem insert_eq (E : Env) (fuel : Nat) (s : PS) (t : PTree) (key val : Nat) :
    insert E fuel s t key val = insertWith (fun t1 s2 => afterCommit (growAll E fuel t1) s2 t1) E fuel s t key val := by
  unfold insert insertWith stage
  cases insertPlan E t fuel key val s with
  | ok p s1 => dsimp only; cases insertCommit t p key val s1 <;> rfl
  | _ => rfl

theorem insertGo_eq (E : Env) (fuel : Nat) (s : PS) (t : PTree) (key val : Nat) :
    insertGo E fuel s t key val = insertWith (growAllGo E fuel) E fuel s t key val := by
  unfold insertGo insertWith stage
  cases insertPlan E t fuel key val s with
  | ok p s1 => dsimp only; cases insertCommit t p key val s1 <;> rfl
  | _ => rfl

theorem delete_eq (E : Env) (fuel : Nat) (s : PS) (t : PTree) (key val : Nat) :
    delete E fuel s t key val = deleteWith (fun t1 s2 => afterCommit (shrinkAll E fuel t1) s2 t1) E fuel s t key val := by
  unfold delete deleteWith stage
  cases deletePlan E t fuel key val s with
  | ok p s1 => dsimp only; cases deleteCommit t p s1 <;> rfl
  | _ => rfl

theorem deleteGo_eq (E : Env) (fuel : Nat) (s : PS) (t : PTree) (key val : Nat) :
    deleteGo E fuel s t key val = deleteWith (shrinkAllGo E fuel) E fuel s t key val := by
  unfold deleteGo deleteWith stage
  cases deletePlan E t fuel key val s with
  | ok p s1 => dsimp only; cases deleteCommit t p s1 <;> rfl
  | _ => rfl

end Mast.Ptr
