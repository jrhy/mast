import Mastverif.Lemmas.PtrTop
/-! A system of trees over one heap, store and node cache: every history keeps the invariant,
    never fails a guard, and leaves every tree it does not operate on exactly as it was. -/
namespace Mast.Ptr
open Mast.Heap

structure SysInv (σ : Sys) : Prop where
  closed : ∀ v, v ≠ 0 → Closed σ.ps.heap v
  du : DirtyUnshared σ.ps.heap
  flat : StoreFlat σ.ps.store
  cache : CacheOK σ.ps
  trees : ∀ t ∈ σ.trees, t.id ≠ 0 ∧ t.id < σ.nextId ∧ Vis σ.ps.heap t.id t.root
  distinct : (σ.trees.map (·.id)).Nodup
  idpos : σ.nextId ≠ 0

theorem SysInv.inv {σ : Sys} (h : SysInv σ) {m : Nat} (hm : m ≠ 0) : Inv m σ.ps :=
  ⟨h.closed m hm, h.du, h.flat, h.cache, hm⟩

theorem SysInv.init : SysInv {} := by
  refine ⟨?_, ?_, ?_, ?_, ?_, ?_, by simp⟩
  · intro v _ a nd hnd; simp at hnd
  · intro a nd hnd; simp at hnd
  · intro sn hsn; simp at hsn
  · intro n a hna; simp at hna
  · intro t ht; simp at ht
  · simp

theorem frame_tree {σ : Sys} (h : SysInv σ) {m lvl : Nat} {s' : PS} (e : Ext m lvl σ.ps s')
    {t : PTree} (ht : t ∈ σ.trees) (hne : t.id ≠ m) :
    Vis s'.heap t.id t.root ∧ ∀ f, contents s'.heap f t.root = contents σ.ps.heap f t.root := by
  obtain ⟨h0, _, hv⟩ := h.trees t ht
  obtain ⟨ag, _⟩ := e.others t.id hne h0 (h.closed t.id h0)
  exact ⟨vis_mono ag hv, fun f => frame _ _ t.id (h.closed t.id h0) ag f t.root hv⟩

/-- `ht`: only the records that are new or were changed have to be looked at -/
theorem SysInv.after {σ : Sys} (h : SysInv σ) {m lvl : Nat} {s' : PS} (hi : Inv m s') (e : Ext m lvl σ.ps s')
    (trees' : List PTree) (nid : Nat) (hn : σ.nextId ≤ nid)
    (ht : ∀ t ∈ trees', t ∈ σ.trees ∨ (t.id ≠ 0 ∧ t.id < nid ∧ Vis s'.heap t.id t.root))
    (hd : (trees'.map (·.id)).Nodup) : SysInv { ps := s', trees := trees', nextId := nid } := by
  refine ⟨?_, hi.du, hi.flat, hi.cache, ?_, hd, fun e => h.idpos (Nat.le_zero.mp (e ▸ hn))⟩
  · intro v hv
    by_cases hvm : v = m
    · subst hvm; exact hi.closed
    · exact (e.others v hvm hv (h.closed v hv)).2
  · intro t htm
    rcases ht t htm with hold | hnew
    · obtain ⟨a0, a1, a2⟩ := h.trees t hold
      refine ⟨a0, Nat.lt_of_lt_of_le a1 hn, ?_⟩
      -- the actor's own trees by `Ext.vis`, the others by the frame
      by_cases htm : t.id = m
      · rw [htm] at a2 ⊢; exact e.vis _ a2
      · exact (frame_tree h e hold htm).1
    · exact hnew

theorem sys_update {σ : Sys} (h : SysInv σ) {i lvl : Nat} {t : PTree} (hi : σ.trees[i]? = some t)
    {r : PS × PTree × Outcome} (hok : OpOK t.id lvl σ.ps r) :
    SysInv { σ with ps := r.1, trees := σ.trees.set i r.2.1 } := by
  obtain ⟨h0, h1, _⟩ := h.trees t (List.mem_of_getElem? hi)
  refine h.after hok.inv hok.ext _ _ (Nat.le_refl _) (fun x hx => ?_) (by rw [map_id_set hi hok.id]; exact h.distinct)
  rcases List.mem_or_eq_of_mem_set hx with hx | rfl
  · exact Or.inl hx
  · rw [hok.id]; exact Or.inr ⟨h0, h1, hok.root⟩

/-- `Sat`, read off the result of `runM` -/
structure RunOK {α : Type} (m lvl : Nat) (s : PS) (Q : α → PS → Prop) (r : Option α × PS × Outcome) : Prop where
  notStuck : r.2.2 ≠ .stuck
  inv : Inv m r.2.1
  ext : Ext m lvl s r.2.1
  res : ∀ a, r.1 = some a → Q a r.2.1

theorem runM_ok {α : Type} {m lvl : Nat} {x : M α} {Q : α → PS → Prop} {s : PS}
    (hx : Sat m lvl s x Q) (hinv : Inv m s) : RunOK m lvl s Q (runM x s) := by
  unfold runM
  cases hxs : x s with
  | ok a s' =>
    obtain ⟨e, i, q⟩ := hx.of_ok hxs
    exact ⟨(fun h => by cases h), i, e, fun b hb => by cases hb; exact q⟩
  | err s' =>
    obtain ⟨e, i⟩ := hx.of_err hxs
    exact ⟨(fun h => by cases h), i, e, fun b hb => by cases hb⟩
  | panic => exact ⟨(fun h => by cases h), hinv, Ext.refl _ _ _, fun b hb => by cases hb⟩
  | stuck => exact absurd hxs hx.not_stuck
  | oof => exact ⟨(fun h => by cases h), hinv, Ext.refl _ _ _, fun b hb => by cases hb⟩

/-- the tree an operation may change -/
def Op.target : Op → Option Nat
  | .ins i _ _ => some i
  | .del i _ _ => some i
  | .flush i => some i
  | _ => none

/-- tree `j` of `σ` is still there in `σ'`, with the same record and the same contents -/
def Untouched (σ σ' : Sys) (j : Nat) : Prop :=
  ∀ x, σ.trees[j]? = some x →
    σ'.trees[j]? = some x ∧ ∀ f c, contents σ.ps.heap f x.root = some c → contents σ'.ps.heap f x.root = some c

theorem untouched_refl (σ : Sys) (j : Nat) : Untouched σ σ j := fun _ hx => ⟨hx, fun _ _ h => h⟩

/-- two reasons: the tree is not `m`'s (frame), or the operation only allocated -/
theorem untouched_of_ext {σ σ' : Sys} (h : SysInv σ) {m lvl : Nat} (e : Ext m lvl σ.ps σ'.ps) {j : Nat}
    (hj : ∀ x, σ.trees[j]? = some x → σ'.trees[j]? = some x ∧ (x.id ≠ m ∨ 2 ≤ lvl)) : Untouched σ σ' j := by
  intro x hx
  obtain ⟨h1, h2⟩ := hj x hx
  refine ⟨h1, fun f c hc => ?_⟩
  rcases h2 with hne | h2
  · rw [(frame_tree h e (List.mem_of_getElem? hx) hne).2 f]; exact hc
  · exact contents_mono (e.pre h2) f _ c hc

theorem SysInv.same {σ : Sys} (h : SysInv σ) {m lvl : Nat} {s' : PS} (hi : Inv m s') (e : Ext m lvl σ.ps s') :
    SysInv { σ with ps := s' } :=
  h.after hi e σ.trees σ.nextId (Nat.le_refl _) (fun _ ht => Or.inl ht) h.distinct

theorem sys_add {σ : Sys} (h : SysInv σ) {lvl : Nat} {s' : PS} (hi : Inv σ.nextId s') (e : Ext σ.nextId lvl σ.ps s')
    (t' : Option PTree) (ht : ∀ x, t' = some x → Vis s'.heap σ.nextId x.root ∧ x.id = σ.nextId) :
    SysInv { ps := s', nextId := σ.nextId + 1, trees := addTree σ.trees t' } ∧
    ∀ j, Untouched σ { ps := s', nextId := σ.nextId + 1, trees := addTree σ.trees t' } j := by
  have hfresh : ∀ x ∈ σ.trees, x.id ≠ σ.nextId := fun x hx => Nat.ne_of_lt (h.trees x hx).2.1
  refine ⟨?_, fun j => untouched_of_ext h e fun x hx => ⟨?_, Or.inl (hfresh x (List.mem_of_getElem? hx))⟩⟩
  · cases t' with
    | none => exact h.after hi e _ _ (Nat.le_succ _) (fun _ hx => Or.inl hx) h.distinct
    | some y =>
      obtain ⟨hv, hid⟩ := ht y rfl
      refine h.after hi e _ _ (Nat.le_succ _) (fun x hx => ?_) ?_
      · rcases List.mem_append.mp hx with hx | hx
        · exact Or.inl hx
        · cases List.mem_singleton.mp hx
          rw [hid]
          exact Or.inr ⟨hi.mpos, Nat.lt_succ_self _, hv⟩
      · -- the new id is above every id in use
        show (List.map (fun x => x.id) (σ.trees ++ [y])).Nodup
        rw [List.map_append, List.nodup_append]
        refine ⟨h.distinct, List.nodup_cons.mpr ⟨List.not_mem_nil, List.nodup_nil⟩, fun a ha b hb => ?_⟩
        cases List.mem_singleton.mp hb
        obtain ⟨x, hx, rfl⟩ := List.mem_map.mp ha
        exact fun e => hfresh x hx (e.trans hid)
  · cases t' with
    | none => exact hx
    | some y => exact (List.getElem?_append_left (List.getElem?_eq_some_iff.mp hx).1).trans hx

theorem Untouched.trans {σ1 σ2 σ3 : Sys} {j : Nat} (a : Untouched σ1 σ2 j) (b : Untouched σ2 σ3 j) : Untouched σ1 σ3 j := by
  intro x hx
  obtain ⟨h1, c1⟩ := a x hx
  obtain ⟨h2, c2⟩ := b x h1
  exact ⟨h2, fun f c hc => c2 f c (c1 f c hc)⟩

/-- what a call, or a history, guarantees; `J` holds of the trees it does not operate on -/
structure StepOK (σ : Sys) (J : Nat → Prop) (r : Sys × Outcome) : Prop where
  notStuck : r.2 ≠ .stuck
  inv : SysInv r.1
  untouched : ∀ j, J j → Untouched σ r.1 j
  store : ∃ ext, r.1.ps.store = σ.ps.store ++ ext

theorem StepOK.refl {σ : Sys} {J : Nat → Prop} {o : Outcome} (h : SysInv σ) (ho : o ≠ .stuck) : StepOK σ J (σ, o) :=
  ⟨ho, h, fun j _ => untouched_refl σ j, ⟨[], (List.append_nil _).symm⟩⟩

theorem StepOK.trans {σ σ' : Sys} {J J1 J2 : Nat → Prop} {o : Outcome} {r : Sys × Outcome}
    (a : StepOK σ J1 (σ', o)) (b : StepOK σ' J2 r) (hJ : ∀ j, J j → J1 j ∧ J2 j) : StepOK σ J r := by
  obtain ⟨x1, hx1⟩ := a.store
  obtain ⟨x2, hx2⟩ := b.store
  exact ⟨b.notStuck, b.inv, fun j hj => (a.untouched j (hJ j hj).1).trans (b.untouched j (hJ j hj).2),
    ⟨x1 ++ x2, by rw [hx2, hx1, List.append_assoc]⟩⟩

theorem StepOK.update {σ : Sys} (h : SysInv σ) {i lvl : Nat} {t : PTree} {r : PS × PTree × Outcome}
    (hi : σ.trees[i]? = some t) (hok : OpOK t.id lvl σ.ps r) :
    StepOK σ (fun j => some j ≠ some i) ({ σ with ps := r.1, trees := σ.trees.set i r.2.1 }, r.2.2) := by
  refine ⟨hok.notStuck, sys_update h hi hok,
    fun j hj => untouched_of_ext h hok.ext fun x hx => ⟨?_, Or.inl ?_⟩, hok.ext.stp⟩
  · exact (List.getElem?_set_ne fun e => hj (by rw [e])).trans hx
  · exact ne_id_of_nodup h.distinct hi hx fun e => hj (by rw [e])

theorem StepOK.read {σ : Sys} (h : SysInv σ) {m : Nat} {α : Type} {x : M α} {Q : α → PS → Prop} {J : Nat → Prop}
    (hx : Sat m 2 σ.ps x Q) (h0 : m ≠ 0) : StepOK σ J ({ σ with ps := (runM x σ.ps).2.1 }, (runM x σ.ps).2.2) := by
  obtain ⟨hns, hinv', hext, _⟩ := runM_ok hx (h.inv h0)
  exact ⟨hns, h.same hinv' hext, fun j _ => untouched_of_ext h hext (fun x hx => ⟨hx, Or.inr (Nat.le_refl _)⟩), hext.stp⟩

theorem StepOK.add {σ : Sys} (h : SysInv σ) {lvl : Nat} {x : M PTree} {J : Nat → Prop}
    (hx : Sat σ.nextId lvl σ.ps x (fun t s' => Vis s'.heap σ.nextId t.root ∧ t.id = σ.nextId)) :
    StepOK σ J ({ ps := (runM x σ.ps).2.1, nextId := σ.nextId + 1, trees := addTree σ.trees (runM x σ.ps).1 },
      (runM x σ.ps).2.2) := by
  obtain ⟨hns, hinv', hext, hq⟩ := runM_ok hx (h.inv h.idpos)
  obtain ⟨hs, hu⟩ := sys_add h hinv' hext (runM x σ.ps).1 hq
  exact ⟨hns, hs, fun j _ => hu j, hext.stp⟩

theorem StepOK.onTree {σ : Sys} (h : SysInv σ) {J : Nat → Prop} (i : Nat) {body : PTree → Sys × Outcome}
    (hb : ∀ t, σ.trees[i]? = some t → t.id ≠ 0 → t.id < σ.nextId → Vis σ.ps.heap t.id t.root → StepOK σ J (body t)) :
    StepOK σ J (match σ.trees[i]? with
      | none => (σ, .ok)
      | some t => body t) := by
  cases hi : σ.trees[i]? with
  | none => exact .refl h (fun e => by cases e)
  | some t =>
    obtain ⟨h0, h1, hv⟩ := h.trees t (List.mem_of_getElem? hi)
    exact hb t hi h0 h1 hv

theorem Sys.apply_ok (E : Env) (fuel : Nat) (σ : Sys) (op : Op) (h : SysInv σ) :
    StepOK σ (fun j => some j ≠ op.target) (σ.apply E fuel op) := by
  cases op with
  | ins i k v =>
    simp only [Sys.apply]
    exact .onTree h i fun t hi h0 _ hv => .update h hi (insert_ok E fuel σ.ps t k v (h.inv h0) hv)
  | del i k v =>
    simp only [Sys.apply]
    exact .onTree h i fun t hi h0 _ hv => .update h hi (delete_ok E fuel σ.ps t k v (h.inv h0) hv)
  | get i k =>
    simp only [Sys.apply]
    exact .onTree h i fun t _ h0 _ hv => .read h (get_sat E t fuel k (h.inv h0) hv) h0
  | iter i =>
    simp only [Sys.apply]
    exact .onTree h i fun t _ h0 _ hv => .read h (iterAll_sat E fuel (h.inv h0) hv) h0
  | flush i =>
    simp only [Sys.apply]
    refine .onTree h i fun t hi h0 _ hv => ?_
    obtain ⟨hns, hinv', hext, hq⟩ := runM_ok (flush_sat E t fuel (h.inv h0) hv) (h.inv h0)
    cases hr : (runM (flush E t fuel) σ.ps).1 with
    | none =>
      -- nothing was stored: the records stay, the other trees are framed
      refine ⟨hns, h.same hinv' hext, fun j hj => untouched_of_ext h hext (fun x hx => ⟨hx, Or.inl ?_⟩), hext.stp⟩
      exact ne_id_of_nodup h.distinct hi hx (fun e => hj (by rw [e]; rfl))
    | some y =>
      obtain ⟨hv', hid⟩ := hq y hr
      exact .update (r := (_, y.1, _)) h hi ⟨hns, hinv', hext, hv', hid⟩
  | clone i =>
    simp only [Sys.apply]
    exact .onTree h i fun t _ h0 h1 hv => .add (lvl := 1) h
      (clone_sat E t σ.nextId fuel (Nat.ne_of_lt h1) h0 (h.inv h.idpos) (h.closed t.id h0) hv)
  | load link size height bf =>
    simp only [Sys.apply]
    exact .add (lvl := 1) h (loadMast_sat E σ.nextId link size height bf (h.inv h.idpos))

theorem Sys.run_ok (E : Env) (fuel : Nat) (ops : List Op) : ∀ (σ : Sys), SysInv σ →
    StepOK σ (fun j => ∀ op ∈ ops, some j ≠ op.target) (Sys.run E fuel σ ops) := by
  induction ops with
  | nil => intro σ h; exact .refl h (fun e => by cases e)
  | cons op ops ih =>
    intro σ h
    have h1 := Sys.apply_ok E fuel σ op h
    unfold Sys.run
    cases hr : σ.apply E fuel op with
    | mk σ' o =>
      rw [hr] at h1
      have hJ : ∀ j, (∀ o ∈ op :: ops, some j ≠ o.target) → some j ≠ op.target ∧ ∀ o ∈ ops, some j ≠ o.target :=
        fun j hj => ⟨hj op List.mem_cons_self, fun o ho => hj o (List.mem_cons_of_mem _ ho)⟩
      have hend : ∀ {o'}, o' ≠ Outcome.stuck → StepOK σ (fun j => ∀ o ∈ op :: ops, some j ≠ o.target) (σ', o') :=
        fun ho => h1.trans (J2 := fun _ => True) (.refl h1.inv ho) (fun j hj => ⟨(hJ j hj).1, trivial⟩)
      cases o with
      | ok => exact h1.trans (ih σ' h1.inv) hJ
      | err => exact h1.trans (ih σ' h1.inv) hJ
      | panic => exact hend (fun e => by cases e)
      | stuck => exact absurd rfl h1.notStuck
      | oof => exact hend (fun e => by cases e)

end Mast.Ptr
