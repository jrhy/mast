import Mastverif.Lemmas.PtrFlush
import Mastverif.Lemmas.PtrStage
/-! The public operations of the object-level model: protocol obeyed, invariant kept, other
    versions untouched. -/
namespace Mast.Ptr
open Mast.Heap

/-- what every public operation guarantees: `r` = (state, tree record, outcome) after the call -/
structure OpOK (m lvl : Nat) (s : PS) (r : PS × PTree × Outcome) : Prop where
  notStuck : r.2.2 ≠ .stuck
  inv : Inv m r.1
  ext : Ext m lvl s r.1
  root : Vis r.1.heap m r.2.1.root
  id : r.2.1.id = m

theorem OpOK.trans {m lvl : Nat} {s s1 : PS} {r : PS × PTree × Outcome} (e : Ext m lvl s s1) (h : OpOK m lvl s1 r) :
    OpOK m lvl s r := ⟨h.notStuck, h.inv, e.trans h.ext, h.root, h.id⟩

theorem stage_ok {α : Type} {m lvl : Nat} {s : PS} {t : PTree} {x : M α} {Q : α → PS → Prop}
    {k : α → PS → PS × PTree × Outcome} (hx : Sat m lvl s x Q) (hinv : Inv m s) (hroot : Vis s.heap m t.root)
    (ht : t.id = m) (hk : ∀ a s1, Ext m lvl s s1 → Inv m s1 → Q a s1 → OpOK m lvl s1 (k a s1)) :
    OpOK m lvl s (stage x s t k) := by
  refine stage_cases (OpOK m lvl s) (fun a s1 hxs => ?_) (fun s1 hxs => ?_) (fun o ho _ _ => ?_)
  · obtain ⟨e, i, q⟩ := hx.of_ok hxs
    exact (hk a s1 e i q).trans e
  · obtain ⟨e, i⟩ := hx.of_err hxs
    exact ⟨(fun h => by cases h), i, e, e.vis _ hroot, ht⟩
  · exact ⟨fun h => hx.not_stuck (ho h), hinv, Ext.refl _ _ _, hroot, ht⟩

theorem OpOK.done {m lvl : Nat} {s : PS} {t : PTree} (hinv : Inv m s) (hroot : Vis s.heap m t.root) (ht : t.id = m) :
    OpOK m lvl s (s, t, .ok) := ⟨(fun h => by cases h), hinv, Ext.refl _ _ _, hroot, ht⟩

theorem OpOK.ite {m lvl : Nat} {s : PS} {c : Prop} [Decidable c] {a b : PS × PTree × Outcome}
    (ht : OpOK m lvl s a) (hf : OpOK m lvl s b) : OpOK m lvl s (if c then a else b) := by
  by_cases h : c
  · rw [if_pos h]; exact ht
  · rw [if_neg h]; exact hf

theorem OpOK.count {m lvl : Nat} {s : PS} {r : PS × PTree × Outcome} :
    OpOK m lvl s r →
    OpOK m lvl s (match r with
      | (s3, t2, .ok) => (s3, { t2 with size := t2.size + 1 }, .ok)
      | r => r) := by
  obtain ⟨rs, rt, ro⟩ := r
  intro h
  cases ro with
  | ok => exact ⟨h.notStuck, h.inv, h.ext, h.root, h.id⟩
  | _ => exact h

theorem afterCommit_ok {m lvl : Nat} {x : M PTree} {t : PTree} {s : PS}
    (hx : Sat m lvl s x (fun t' s' => Vis s'.heap m t'.root ∧ t'.id = m))
    (ht : t.id = m) (hinv : Inv m s) (hroot : Vis s.heap m t.root) : OpOK m lvl s (afterCommit x s t) := by
  rw [afterCommit_eq]
  exact stage_ok hx hinv hroot ht (fun _ _ _ i q => .done i q.1 q.2)

theorem insertWith_ok {loop : PTree → PS → PS × PTree × Outcome} (E : Env) (fuel : Nat) (s : PS) (t : PTree)
    (key val : Nat) (hinv : Inv t.id s) (hroot : Vis s.heap t.id t.root)
    (hloop : ∀ t1 s2, t1.id = t.id → Inv t.id s2 → Vis s2.heap t.id t1.root → OpOK t.id 1 s2 (loop t1 s2)) :
    OpOK t.id 1 s (insertWith loop E fuel s t key val) :=
  stage_ok (insertPlan_sat E t fuel key val hinv hroot) hinv hroot rfl fun _ _ e1 i1 q1 =>
    .ite (.done i1 (e1.vis _ hroot) rfl) <|
      stage_ok (insertCommit_sat t key val i1 q1) i1 (e1.vis _ hroot) rfl fun root s2 _ i2 q2 =>
        .ite (.done i2 q2 rfl) (hloop { t with root := root } s2 rfl i2 q2).count

theorem deleteWith_ok {loop : PTree → PS → PS × PTree × Outcome} (E : Env) (fuel : Nat) (s : PS) (t : PTree)
    (key val : Nat) (hinv : Inv t.id s) (hroot : Vis s.heap t.id t.root)
    (hloop : ∀ t1 s2, t1.id = t.id → Inv t.id s2 → Vis s2.heap t.id t1.root → OpOK t.id 1 s2 (loop t1 s2)) :
    OpOK t.id 1 s (deleteWith loop E fuel s t key val) :=
  stage_ok (deletePlan_sat E t fuel key val hinv hroot) hinv hroot rfl fun _ _ e1 i1 q1 =>
    stage_ok (deleteCommit_sat t i1 q1) i1 (e1.vis _ hroot) rfl fun _ s2 _ i2 q2 => hloop _ s2 rfl i2 q2

theorem insert_ok (E : Env) (fuel : Nat) (s : PS) (t : PTree) (key val : Nat)
    (hinv : Inv t.id s) (hroot : Vis s.heap t.id t.root) : OpOK t.id 1 s (insert E fuel s t key val) := by
  rw [insert_eq]
  exact insertWith_ok E fuel s t key val hinv hroot
    (fun t1 _ ht i hr => afterCommit_ok (growAll_sat E fuel t1 ht i hr) ht i hr)

theorem delete_ok (E : Env) (fuel : Nat) (s : PS) (t : PTree) (key val : Nat)
    (hinv : Inv t.id s) (hroot : Vis s.heap t.id t.root) : OpOK t.id 1 s (delete E fuel s t key val) := by
  rw [delete_eq]
  exact deleteWith_ok E fuel s t key val hinv hroot
    (fun t1 _ ht i hr => afterCommit_ok (shrinkAll_sat E fuel t1 ht i hr) ht i hr)

end Mast.Ptr
