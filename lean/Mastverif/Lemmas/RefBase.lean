import Mastverif.Lemmas.RefSeq
import Mastverif.Lemmas.RefRows
import Mastverif.Lemmas.PtrPrim
/-!
`repLink` and `repTree`.  A pointer and a name are read alike once the node behind the link is seen as a `NodeView`;
`repLink_induct` is the induction over the links read (fuel monotonicity, footprint facts, the frame lemma, the tie to
`absLink` are instances); `treeRec` / `repTree_eq_some` say what `repTree` is.
-/
namespace Mast.Ptr
open Mast.Heap

/-- validity of a node as `repLink` demands it -/
def ValidN (nd : MNode) : Prop := nd.links.length = nd.keys.length + 1 ∧ nd.vals.length = nd.keys.length

def ValidS (sn : SNode) : Prop := (expandLinks sn).length = sn.keys.length + 1 ∧ sn.vals.length = sn.keys.length

instance (nd : MNode) : Decidable (ValidN nd) := by unfold ValidN; infer_instance
instance (sn : SNode) : Decidable (ValidS sn) := by unfold ValidS; infer_instance

def ownFp (nd : MNode) (a : Nat) : List Nat := if nd.shared then [] else [a]

def storeAt (st : List SNode) (n : Nat) : Option SNode := if n = 0 then none else st[n - 1]?

theorem mem_ownFp {nd : MNode} {a b : Nat} : b ∈ ownFp nd a ↔ nd.shared = false ∧ b = a := by
  unfold ownFp
  cases nd.shared <;> simp

theorem storeAt_append {st : List SNode} {n : Nat} {sn : SNode} (h : storeAt st n = some sn) (ext : List SNode) :
    storeAt (st ++ ext) n = some sn := by
  unfold storeAt at h ⊢
  split at h
  · cases h
  · next hn =>
    rw [if_neg hn, List.getElem?_append_left (List.getElem?_eq_some_iff.mp h).1]
    exact h

/-! ## the result of a node -/

def pr (c : Bool × T × List Nat) : Bool × T := (c.1, c.2.1)

theorem map_pr_append_single (L : List (Bool × T × List Nat)) (x : Bool × T × List Nat) :
    (L ++ [x]).map pr = L.map pr ++ [(x.1, x.2.1)] := by
  rw [List.map_append]; rfl

/-- concatenated footprints of a list of child results -/
def fps (cs : List (Bool × T × List Nat)) : List Nat := (cs.map fun c => c.2.2).flatten

@[simp] theorem fps_nil : fps [] = [] := rfl
@[simp] theorem fps_cons (c : Bool × T × List Nat) (cs : List (Bool × T × List Nat)) : fps (c :: cs) = c.2.2 ++ fps cs := rfl
@[simp] theorem fps_append (a b : List (Bool × T × List Nat)) : fps (a ++ b) = fps a ++ fps b := by
  unfold fps
  rw [List.map_append, List.flatten_append]

theorem mem_fps {cs : List (Bool × T × List Nat)} {a : Nat} : a ∈ fps cs ↔ ∃ c ∈ cs, a ∈ c.2.2 := by
  simp only [fps, List.mem_flatten, List.mem_map]
  constructor
  · rintro ⟨l, ⟨c, hc, rfl⟩, ha⟩; exact ⟨c, hc, ha⟩
  · rintro ⟨c, hc, ha⟩; exact ⟨_, ⟨c, hc, rfl⟩, ha⟩

theorem fps_snoc (cs : List (Bool × T × List Nat)) (x : Bool × T × List Nat) : fps (cs ++ [x]) = fps cs ++ x.2.2 := by
  rw [fps_append, fps_cons, fps_nil, List.append_nil]

theorem fps_split_at {cs : List (Bool × T × List Nat)} {i : Nat} {c : Bool × T × List Nat} (h : cs[i]? = some c) :
    fps cs = fps (cs.take i) ++ (c.2.2 ++ fps (cs.drop (i + 1))) := by
  conv => lhs; rw [take_append_getElem_drop h]
  rw [fps_append, fps_cons]

theorem nodeRep_flag (flag : Bool) (own ks vs : List Nat) (cs : List (Bool × T × List Nat)) :
    (nodeRep flag own ks vs cs).1 = flag := rfl

theorem nodeRep_row (flag : Bool) (own ks vs : List Nat) (cs : List (Bool × T × List Nat)) :
    (nodeRep flag own ks vs cs).2.1 = mkRow (cs.map pr) ks vs := rfl

theorem nodeRep_fp (flag : Bool) (own ks vs : List Nat) (cs : List (Bool × T × List Nat)) :
    (nodeRep flag own ks vs cs).2.2 = own ++ fps cs := rfl

theorem childAt_map_pr {cs : List (Bool × T × List Nat)} {i : Nat} {c : Bool × T × List Nat} (h : cs[i]? = some c) :
    childAt (cs.map pr) i = c.2.1 := by
  simp [childAt, h, pr]

/-! ## the node behind a link -/

/-- what `repLink` reads of the node behind a present link (`viewOf`): flag, own footprint part, entries, links -/
structure NodeView where
  flag : Bool
  own : List Nat
  ks : List Nat
  vs : List Nat
  links : List HLink

def viewOf (h : Heap) (st : List SNode) : HLink → Option NodeView
  | .nil => none
  | .ptr a => h[a]?.bind fun nd => if ValidN nd then some ⟨false, ownFp nd a, nd.keys, nd.vals, nd.links⟩ else none
  | .ref n => (storeAt st n).bind fun sn =>
      if ValidS sn then some ⟨true, [], sn.keys, sn.vals, expandLinks sn⟩ else none

theorem viewOf_ptr {h : Heap} {st : List SNode} {a : Nat} {v : NodeView} :
    viewOf h st (.ptr a) = some v ↔
      ∃ nd, h[a]? = some nd ∧ ValidN nd ∧ v = ⟨false, ownFp nd a, nd.keys, nd.vals, nd.links⟩ := by
  simp only [viewOf, Option.bind_eq_some_iff, Option.ite_none_right_eq_some, Option.some.injEq, eq_comm (b := v)]

theorem viewOf_ref {h : Heap} {st : List SNode} {n : Nat} {v : NodeView} :
    viewOf h st (.ref n) = some v ↔
      ∃ sn, storeAt st n = some sn ∧ ValidS sn ∧ v = ⟨true, [], sn.keys, sn.vals, expandLinks sn⟩ := by
  simp only [viewOf, Option.bind_eq_some_iff, Option.ite_none_right_eq_some, Option.some.injEq, eq_comm (b := v)]

theorem viewOf_valid {h : Heap} {st : List SNode} {l : HLink} {v : NodeView} (hv : viewOf h st l = some v) :
    v.links.length = v.ks.length + 1 ∧ v.vs.length = v.ks.length := by
  cases l with
  | nil => cases hv
  | ptr a => obtain ⟨nd, _, hval, rfl⟩ := viewOf_ptr.mp hv; exact hval
  | ref n => obtain ⟨sn, _, hval, rfl⟩ := viewOf_ref.mp hv; exact hval

theorem viewOf_own {h : Heap} {st : List SNode} {l : HLink} {v : NodeView} (hv : viewOf h st l = some v)
    {a : Nat} (ha : a ∈ v.own) : ∃ nd, h[a]? = some nd ∧ nd.shared = false := by
  cases l with
  | nil => cases hv
  | ptr b =>
    obtain ⟨nd, hnd, _, rfl⟩ := viewOf_ptr.mp hv
    obtain ⟨hs, rfl⟩ := mem_ownFp.mp ha
    exact ⟨nd, hnd, hs⟩
  | ref n => obtain ⟨sn, _, _, rfl⟩ := viewOf_ref.mp hv; cases ha


@[simp] theorem repLink_nil (h : Heap) (st : List SNode) (f : Nat) :
    repLink h st f .nil = some (false, T.nil, []) := by
  cases f <;> rfl

theorem repLink_zero (h : Heap) (st : List SNode) {l : HLink} (hl : l ≠ .nil) : repLink h st 0 l = none := by
  cases l with
  | nil => exact absurd rfl hl
  | ptr a => rfl
  | ref n => rfl

theorem repLink_zero_ptr (h : Heap) (st : List SNode) (a : Nat) : repLink h st 0 (.ptr a) = none := rfl
theorem repLink_zero_ref (h : Heap) (st : List SNode) (n : Nat) : repLink h st 0 (.ref n) = none := rfl

theorem repLink_succ (h : Heap) (st : List SNode) (f : Nat) {l : HLink} (hl : l ≠ .nil) :
    repLink h st (f + 1) l = (viewOf h st l).bind fun v =>
      (seqO (v.links.map (repLink h st f))).map (nodeRep v.flag v.own v.ks v.vs) := by
  cases l with
  | nil => exact absurd rfl hl
  | ptr a =>
    rw [repLink, viewOf]
    cases h[a]? with
    | none => rfl
    | some nd =>
      dsimp only
      by_cases hv : ValidN nd
      · exact (if_pos hv).trans (by rw [Option.bind_some, if_pos hv]; rfl)
      · exact (if_neg hv).trans (by rw [Option.bind_some, if_neg hv]; rfl)
  | ref n =>
    rw [repLink, viewOf, storeAt]
    cases (if n = 0 then none else st[n - 1]?) with
    | none => rfl
    | some sn =>
      dsimp only
      by_cases hv : ValidS sn
      · exact (if_pos hv).trans (by rw [Option.bind_some, if_pos hv]; rfl)
      · exact (if_neg hv).trans (by rw [Option.bind_some, if_neg hv]; rfl)

theorem repLink_node {h : Heap} {st : List SNode} {l : HLink} {v : NodeView} (hv : viewOf h st l = some v) (f : Nat) :
    repLink h st (f + 1) l = (seqO (v.links.map (repLink h st f))).map (nodeRep v.flag v.own v.ks v.vs) := by
  rw [repLink_succ h st f (fun hl => by rw [hl] at hv; cases hv), hv]; rfl

theorem repLink_some {h : Heap} {st : List SNode} {f : Nat} {l : HLink} {x : Bool × T × List Nat} (hl : l ≠ .nil) :
    repLink h st f l = some x ↔
      ∃ f' v cs, f = f' + 1 ∧ viewOf h st l = some v ∧
        seqO (v.links.map (repLink h st f')) = some cs ∧ x = nodeRep v.flag v.own v.ks v.vs cs := by
  constructor
  · intro hx
    cases f with
    | zero => rw [repLink_zero h st hl] at hx; cases hx
    | succ f =>
      rw [repLink_succ h st f hl] at hx
      obtain ⟨v, hv, hx⟩ := Option.bind_eq_some_iff.mp hx
      obtain ⟨cs, h1, h2⟩ := Option.map_eq_some_iff.mp hx
      exact ⟨f, v, cs, rfl, hv, h1, h2.symm⟩
  · rintro ⟨f', v, cs, rfl, hv, h1, rfl⟩
    rw [repLink_node hv, h1]; rfl

theorem repLink_ptr_some {h : Heap} {st : List SNode} {f a : Nat} {x : Bool × T × List Nat} :
    repLink h st f (.ptr a) = some x ↔
      ∃ f' nd cs, f = f' + 1 ∧ h[a]? = some nd ∧ ValidN nd ∧
        seqO (nd.links.map (repLink h st f')) = some cs ∧ x = nodeRep false (ownFp nd a) nd.keys nd.vals cs := by
  rw [repLink_some (fun hl => by cases hl)]
  constructor
  · rintro ⟨f', v, cs, hf, hv, h1, hx⟩
    obtain ⟨nd, hnd, hval, rfl⟩ := viewOf_ptr.mp hv
    exact ⟨f', nd, cs, hf, hnd, hval, h1, hx⟩
  · rintro ⟨f', nd, cs, hf, hnd, hval, h1, hx⟩
    exact ⟨f', _, cs, hf, viewOf_ptr.mpr ⟨nd, hnd, hval, rfl⟩, h1, hx⟩

theorem repLink_ref_some {h : Heap} {st : List SNode} {f n : Nat} {x : Bool × T × List Nat} :
    repLink h st f (.ref n) = some x ↔
      ∃ f' sn cs, f = f' + 1 ∧ storeAt st n = some sn ∧ ValidS sn ∧
        seqO ((expandLinks sn).map (repLink h st f')) = some cs ∧ x = nodeRep true [] sn.keys sn.vals cs := by
  rw [repLink_some (fun hl => by cases hl)]
  constructor
  · rintro ⟨f', v, cs, hf, hv, h1, hx⟩
    obtain ⟨sn, hsn, hval, rfl⟩ := viewOf_ref.mp hv
    exact ⟨f', sn, cs, hf, hsn, hval, h1, hx⟩
  · rintro ⟨f', sn, cs, hf, hsn, hval, h1, hx⟩
    exact ⟨f', _, cs, hf, viewOf_ref.mpr ⟨sn, hsn, hval, rfl⟩, h1, hx⟩

theorem repLink_ptr_inv {h : Heap} {st : List SNode} {g a : Nat} {nd : MNode} {x : Bool × T × List Nat}
    (hx : repLink h st g (.ptr a) = some x) (hnd : h[a]? = some nd) :
    ∃ g' cs, g = g' + 1 ∧ ValidN nd ∧ seqO (nd.links.map (repLink h st g')) = some cs ∧
      cs.length = nd.keys.length + 1 ∧ x = nodeRep false (ownFp nd a) nd.keys nd.vals cs := by
  obtain ⟨g', nd', cs, hg, hnd', hv, h1, h2⟩ := repLink_ptr_some.mp hx
  rw [hnd] at hnd'; cases hnd'
  exact ⟨g', cs, hg, hv, h1, by rw [seqO_map_length h1]; exact hv.1, h2⟩

theorem repLink_flag_ptr {h : Heap} {st : List SNode} {f a : Nat} {x : Bool × T × List Nat}
    (hx : repLink h st f (.ptr a) = some x) : x.1 = false := by
  obtain ⟨_, _, _, _, _, _, _, rfl⟩ := repLink_ptr_some.mp hx; rfl

theorem isEmptyN_iff (nd : MNode) : isEmptyN nd = true ↔ nd.links = [HLink.nil] := by
  unfold isEmptyN; exact beq_iff_eq

/-- Induction over the links that `repLink` reads: an absent link, or a node all of whose links have the property. -/
theorem repLink_induct {h : Heap} {st : List SNode} {P : Nat → HLink → Bool × T × List Nat → Prop}
    (nil : ∀ f, P f .nil (false, T.nil, []))
    (node : ∀ f l v cs, viewOf h st l = some v → seqO (v.links.map (repLink h st f)) = some cs →
      (∀ l' ∈ v.links, ∀ c ∈ cs, repLink h st f l' = some c → P f l' c) →
      P (f + 1) l (nodeRep v.flag v.own v.ks v.vs cs)) :
    ∀ (f : Nat) (l : HLink) (x : Bool × T × List Nat), repLink h st f l = some x → P f l x := by
  intro f
  induction f with
  | zero =>
    intro l x hx
    by_cases hl : l = .nil
    · subst hl; cases hx; exact nil 0
    · rw [repLink_zero h st hl] at hx; cases hx
  | succ f ih =>
    intro l x hx
    by_cases hl : l = .nil
    · subst hl
      rw [repLink_nil] at hx
      cases hx
      exact nil _
    · obtain ⟨f', v, cs, hf, hv, h1, rfl⟩ := (repLink_some hl).mp hx
      cases hf
      exact node f l v cs hv h1 fun l' _ c _ hc => ih l' c hc

/-! ## the row of a node -/

theorem repLink_row_ne_nil {h : Heap} {st : List SNode} {g : Nat} {l : HLink} {x : Bool × T × List Nat}
    (hx : repLink h st g l = some x) (hl : l ≠ .nil) : x.2.1 ≠ T.nil := by
  obtain ⟨g', v, cs, _, hv, h1, rfl⟩ := (repLink_some hl).mp hx
  rw [nodeRep_row]
  refine mkRow_ne_nil fun h0 => ?_
  have hlen := seqO_map_length h1
  rw [List.map_eq_nil_iff.mp h0, (viewOf_valid hv).1] at hlen
  exact Nat.succ_ne_zero _ hlen.symm

theorem mk_nodeRow {h : Heap} {st : List SNode} {g : Nat} {nd : MNode} {cs : List (Bool × T × List Nat)}
    (hv : ValidN nd) (h1 : seqO (nd.links.map (repLink h st g)) = some cs) (hne : isEmptyN nd ≠ true) :
    T.mk (mkRow (cs.map pr) nd.keys nd.vals) = mkRow (cs.map pr) nd.keys nd.vals := by
  by_cases hk : nd.keys = []
  · -- a single link, not nil
    obtain ⟨l, hl⟩ := List.length_eq_one_iff.mp (show nd.links.length = 1 by rw [hv.1, hk]; rfl)
    rw [hl] at h1
    obtain ⟨c, hc, rfl⟩ := seqO_map_single h1
    exact mk_last_of_ne _ (repLink_row_ne_nil hc fun h0 => hne ((isEmptyN_iff nd).mpr (h0 ▸ hl)))
  · exact mk_mkRow_entries (by rw [List.length_map, seqO_map_length h1]; exact hv.1) hv.2 hk

/-! ## fuel monotonicity -/

theorem repLink_mono {h : Heap} {st : List SNode} : ∀ (f : Nat) (l : HLink) (x : Bool × T × List Nat),
    repLink h st f l = some x → repLink h st (f + 1) l = some x := by
  refine repLink_induct (fun f => repLink_nil h st _) ?_
  intro f l v cs hv h1 ih
  rw [repLink_node hv, seqO_map_congr_mem h1 ih]; rfl

theorem repLink_mono_le {h : Heap} {st : List SNode} {f g : Nat} {l : HLink} {x : Bool × T × List Nat}
    (hx : repLink h st f l = some x) (hfg : f ≤ g) : repLink h st g l = some x := by
  induction hfg with
  | refl => exact hx
  | step _ ih => exact repLink_mono _ _ _ ih

/-! ## footprint -/

theorem repLink_fp_unshared {h : Heap} {st : List SNode} : ∀ (f : Nat) (l : HLink) (x : Bool × T × List Nat),
    repLink h st f l = some x → ∀ a ∈ x.2.2, ∃ nd, h[a]? = some nd ∧ nd.shared = false := by
  refine repLink_induct (fun f a ha => by cases ha) ?_
  intro f l v cs hv h1 ih a ha
  rw [nodeRep_fp, List.mem_append] at ha
  rcases ha with ho | hc
  · exact viewOf_own hv ho
  · obtain ⟨c, hc, hac⟩ := mem_fps.mp hc
    obtain ⟨l', hl', hcl⟩ := seqO_map_of_mem h1 hc
    exact ih l' hl' c hc hcl a hac

theorem repLink_fp_lt {h : Heap} {st : List SNode} {f : Nat} {l : HLink} {x : Bool × T × List Nat}
    (hx : repLink h st f l = some x) {a : Nat} (ha : a ∈ x.2.2) : a < h.length := by
  obtain ⟨nd, hnd, _⟩ := repLink_fp_unshared f l x hx a ha
  exact (List.getElem?_eq_some_iff.mp hnd).1

theorem repLink_fp_lt' {h : Heap} {st : List SNode} {f : Nat} {l : HLink} {x : Bool × T × List Nat}
    (hx : repLink h st f l = some x) : ∀ a ∈ x.2.2, a < h.length := fun _ ha => repLink_fp_lt hx ha

theorem kids_fp_lt {h : Heap} {st : List SNode} {g : Nat} {ls : List HLink} {cs : List (Bool × T × List Nat)}
    (hk : seqO (ls.map (repLink h st g)) = some cs) : ∀ y ∈ fps cs, y < h.length := by
  intro y hy
  obtain ⟨c, hc, hyc⟩ := mem_fps.mp hy
  obtain ⟨l, _, hcl⟩ := seqO_map_of_mem hk hc
  exact repLink_fp_lt hcl hyc

/-! ## frame -/

/-- `repLink` reads a state only through `viewOf`: if every node whose own footprint part avoids `W` has the same view
    in another heap and store, every link whose footprint avoids `W` denotes there what it denotes here. -/
theorem repLink_view_congr {h h' : Heap} {st st' : List SNode} {W : Nat → Prop}
    (H : ∀ l v, viewOf h st l = some v → (∀ a ∈ v.own, ¬ W a) → viewOf h' st' l = some v) :
    ∀ (f : Nat) (l : HLink) (x : Bool × T × List Nat), repLink h st f l = some x →
      (∀ a ∈ x.2.2, ¬ W a) → repLink h' st' f l = some x := by
  refine repLink_induct (fun f _ => repLink_nil h' _ f) ?_
  intro f l v cs hv h1 ih hd
  simp only [nodeRep_fp, List.mem_append, mem_fps] at hd
  rw [repLink_node (H l v hv fun a ha => hd a (Or.inl ha)),
    seqO_map_congr_mem h1 fun l' hl' c hc hcl => ih l' hl' c hc hcl fun a ha => hd a (Or.inr ⟨c, hc, ha⟩)]
  rfl

/-- `h'` agrees with `h` outside the set `W` of (unshared) objects, the store only grows: every link whose
    footprint avoids `W` denotes what it denoted. -/
theorem repLink_frame {h h' : Heap} {st : List SNode} (ext : List SNode) (W : Nat → Prop)
    (hfr : ∀ a nd, h[a]? = some nd → ¬ W a → h'[a]? = some nd)
    (hW : ∀ a nd, h[a]? = some nd → W a → nd.shared = false) :
    ∀ (f : Nat) (l : HLink) (x : Bool × T × List Nat), repLink h st f l = some x →
      (∀ a ∈ x.2.2, ¬ W a) → repLink h' (st ++ ext) f l = some x := by
  refine repLink_view_congr fun l v hv hd => ?_
  cases l with
  | nil => cases hv
  | ptr b =>
    obtain ⟨nd, hnd, hval, rfl⟩ := viewOf_ptr.mp hv
    exact viewOf_ptr.mpr ⟨nd, hfr b nd hnd fun hw => hd b (mem_ownFp.mpr ⟨hW b nd hnd hw, rfl⟩) hw, hval, rfl⟩
  | ref n =>
    obtain ⟨sn, hsn, hval, rfl⟩ := viewOf_ref.mp hv
    exact viewOf_ref.mpr ⟨sn, storeAt_append hsn ext, hval, rfl⟩

theorem repLinks_frame {h h' : Heap} {st : List SNode} (W : Nat → Prop)
    (hfr : ∀ a nd, h[a]? = some nd → ¬ W a → h'[a]? = some nd)
    (hW : ∀ a nd, h[a]? = some nd → W a → nd.shared = false)
    {f : Nat} {ls : List HLink} {cs : List (Bool × T × List Nat)}
    (h1 : seqO (ls.map (repLink h st f)) = some cs) (hd : ∀ a ∈ fps cs, ¬ W a) :
    seqO (ls.map (repLink h' st f)) = some cs := by
  refine seqO_map_congr_mem h1 fun l _ c hc hcl => ?_
  have := repLink_frame [] W hfr hW f l c hcl fun a ha => hd a (mem_fps.mpr ⟨c, hc, ha⟩)
  rwa [List.append_nil] at this

theorem repLink_allocOnly {h h' : Heap} {st : List SNode} (ha : AllocOnly h h') {f : Nat} {l : HLink}
    {x : Bool × T × List Nat} (hx : repLink h st f l = some x) : repLink h' st f l = some x := by
  have := repLink_frame (h := h) (h' := h') (st := st) [] (fun _ => False)
    (fun a nd hnd _ => ha a nd hnd) (fun _ _ _ hw => hw.elim) f l x hx (fun _ _ hw => hw)
  rwa [List.append_nil] at this

/-! ## tie to `absLink` (the abstraction the driver runs) -/

theorem absLink_node {h : Heap} {st : List SNode} {l : HLink} {v : NodeView} (hv : viewOf h st l = some v) (f : Nat) :
    absLink h st (f + 1) l = (seqO (v.links.map (absLink h st f))).map fun cs => (v.flag, mkRow cs v.ks v.vs) := by
  cases l with
  | nil => cases hv
  | ptr a =>
    obtain ⟨nd, hnd, _, rfl⟩ := viewOf_ptr.mp hv
    simp only [absLink, hnd]
  | ref n =>
    obtain ⟨sn, hsn, _, rfl⟩ := viewOf_ref.mp hv
    unfold storeAt at hsn
    simp only [absLink, hsn, expandLinks]

theorem repLink_absLink {h : Heap} {st : List SNode} : ∀ (f : Nat) (l : HLink) (p : Bool) (r : T) (fp : List Nat),
    repLink h st f l = some (p, r, fp) → absLink h st f l = some (p, r) := by
  intro f l p r fp hx
  refine repLink_induct (P := fun f l x => absLink h st f l = some (x.1, x.2.1)) (fun f => ?_) ?_ f l _ hx
  · cases f <;> rfl
  · intro f l v cs hv h1 ih
    rw [absLink_node hv, seqO_map_imp (φ := pr) h1 ih]; rfl

/-! ## the tree a root link denotes -/

/-- the `Tree` record of a `PTree` whose root link denotes `y` -/
def treeRec (t : PTree) (y : Bool × T × List Nat) (d : Bool) : Tree :=
  { root := T.unmk y.2.1, rootP := y.1, dirty := d, size := t.size, height := t.height, bf := t.bf,
    growAfter := t.growAfter, shrinkBelow := t.shrinkBelow }

theorem repTree_eq_some {s : PS} {g : Nat} {t : PTree} {A : Tree} :
    repTree s g t = some A ↔ ∃ x, repLink s.heap s.store g t.root = some x ∧ x.2.2.Nodup ∧
      A = treeRec t x (rootDirty s.heap t.root) := by
  unfold repTree
  cases repLink s.heap s.store g t.root with
  | none => exact ⟨fun h => (nomatch h), fun ⟨_, h, _⟩ => (nomatch h)⟩
  | some x =>
    obtain ⟨p, r, fp⟩ := x
    dsimp only
    rw [Option.ite_none_right_eq_some]
    constructor
    · rintro ⟨hnd, h⟩
      exact ⟨_, rfl, hnd, (Option.some.inj h).symm⟩
    · rintro ⟨x', hx', hnd, rfl⟩
      cases hx'
      exact ⟨hnd, rfl⟩

theorem footprint_eq {s : PS} {g : Nat} {t : PTree} {x : Bool × T × List Nat}
    (hx : repLink s.heap s.store g t.root = some x) : footprint s g t = x.2.2 := by
  unfold footprint; rw [hx]

end Mast.Ptr
