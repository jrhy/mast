import Mastverif.Lemmas.RefLoad
/-!
`ToShared` (the deep copy of the unshared part, made for the clone `newId`): the copy denotes the same row, its
footprint is fresh (addresses `≥` the old heap length), has no duplicates and is owned by `newId`.  `Clone` itself
(load the root, `ToShared`, new record) is in `RefCloneTop`.
-/
namespace Mast.Ptr
open Mast.Heap

/-- what the copy `a'` of the object `a` (denoting `x`) satisfies; `lo` = heap length before the copy -/
def CopyOK (newId lo g : Nat) (x : Bool × T × List Nat) (d : Bool) (a' : Nat) (s' : PS) : Prop :=
  ∃ x', repLink s'.heap s'.store g (.ptr a') = some x' ∧ x'.2.1 = x.2.1 ∧ x'.2.2.Nodup ∧
    (∀ b ∈ x'.2.2, lo ≤ b) ∧ FpOwned s'.heap newId x'.2.2 ∧ rootDirty s'.heap (.ptr a') = d

def CopiesOK (newId lo g : Nat) (cs : List (Bool × T × List Nat)) (ls' : List HLink) (s' : PS) : Prop :=
  ∃ cs', seqO (ls'.map (repLink s'.heap s'.store g)) = some cs' ∧ cs'.map pr = cs.map pr ∧ (fps cs').Nodup ∧
    (∀ b ∈ fps cs', lo ≤ b) ∧ FpOwned s'.heap newId (fps cs')

theorem FpOwned.lt {h : Heap} {m : Nat} {fp : List Nat} (ho : FpOwned h m fp) {b : Nat} (hb : b ∈ fp) : b < h.length := by
  obtain ⟨nd, hnd, _⟩ := ho b hb
  exact (List.getElem?_eq_some_iff.mp hnd).1

theorem FpOwned.append {h : Heap} {m : Nat} {a b : List Nat} (ha : FpOwned h m a) (hb : FpOwned h m b) :
    FpOwned h m (a ++ b) := by
  intro y hy
  rcases List.mem_append.mp hy with h1 | h1
  · exact ha y h1
  · exact hb y h1

theorem fpOwned_nil (h : Heap) (m : Nat) : FpOwned h m [] := fun _ hy => absurd hy List.not_mem_nil

/-- prepend a child whose footprint lies below `mid` to children whose footprints lie at or above `mid` -/
theorem copies_cons {newId lo mid g : Nat} {s1 s2 : PS} {l' : HLink} {ls' : List HLink}
    {c c' : Bool × T × List Nat} {cs0 : List (Bool × T × List Nat)} (hgr : Grow newId s1 s2)
    (hc' : repLink s1.heap s1.store g l' = some c') (hpr : pr c' = pr c) (hnd : c'.2.2.Nodup)
    (hlo : ∀ b ∈ c'.2.2, lo ≤ b) (hown : FpOwned s1.heap newId c'.2.2) (hmid : mid = s1.heap.length) (hlm : lo ≤ mid)
    (hrest : CopiesOK newId mid g cs0 ls' s2) : CopiesOK newId lo g (c :: cs0) (l' :: ls') s2 := by
  obtain ⟨cs', h1, h2, h3, h4, h5⟩ := hrest
  refine ⟨c' :: cs', seqO_map_cons.mpr ⟨c', cs', hgr.rep hc', h1, rfl⟩, by rw [List.map_cons, List.map_cons, hpr, h2], ?_, ?_, ?_⟩
  · rw [fps_cons, List.nodup_append]
    refine ⟨hnd, h3, ?_⟩
    intro a ha b hb hab
    subst hab
    exact Nat.lt_irrefl _ (Nat.lt_of_lt_of_le (Nat.lt_of_lt_of_eq (hown.lt ha) hmid.symm) (h4 a hb))
  · intro b hb
    rw [fps_cons] at hb
    rcases List.mem_append.mp hb with h | h
    · exact hlo b h
    · exact Nat.le_trans hlm (h4 b h)
  · rw [fps_cons]
    exact (hown.allocOnly hgr.alloc).append h5

theorem mapLinks_spec {newId g : Nat} (G : Nat → M Nat)
    (hG : ∀ c s x nd, Good s → repLink s.heap s.store g (.ptr c) = some x → s.heap[c]? = some nd →
      Spec (Grow newId) (G c) s (fun c' s' => CopyOK newId s.heap.length g x nd.dirty c' s')) :
    ∀ (ls : List HLink) (s : PS) (cs : List (Bool × T × List Nat)), Good s →
      seqO (ls.map (repLink s.heap s.store g)) = some cs →
      Spec (Grow newId) (mapLinks G ls) s (fun ls' s' => CopiesOK newId s.heap.length g cs ls' s') := by
  intro ls
  induction ls with
  | nil =>
    intro s cs _ hcs
    unfold mapLinks
    cases hcs
    exact Spec.pure ⟨[], rfl, rfl, List.nodup_nil, fun _ hb => absurd hb List.not_mem_nil, fpOwned_nil _ _⟩
  | cons l ls ih =>
    intro s cs hg hcs
    obtain ⟨c0, cs0, hc0, hcs0, rfl⟩ := seqO_map_cons.mp hcs
    have hflat : isPtr l = false → c0.2.2 = [] := fun hl => repLink_flat_fp hg.flat _ _ _ hl hc0
    have tail : ∀ (s1 : PS) (l' : HLink) (c' : Bool × T × List Nat), Grow newId s s1 →
        repLink s1.heap s1.store g l' = some c' → pr c' = pr c0 → c'.2.2.Nodup →
        (∀ b ∈ c'.2.2, s.heap.length ≤ b) → FpOwned s1.heap newId c'.2.2 →
        Spec (Grow newId) (do let ls' ← mapLinks G ls; pure (l' :: ls')) s1
          (fun r s' => CopiesOK newId s.heap.length g (c0 :: cs0) r s') := by
      intro s1 l' c' hgr1 hc' hpr hnd hlo hown
      have hcs1 : seqO (ls.map (repLink s1.heap s1.store g)) = some cs0 :=
        seqO_map_congr hcs0 (fun l _ c hc => hgr1.rep hc)
      refine Spec.bind (ih s1 cs0 (hgr1.good hg) hcs1) ?_
      intro ls' s2 _ hgr2 hrest
      exact Spec.pure (copies_cons hgr2 hc' hpr hnd hlo hown rfl hgr1.length hrest)
    -- a head that is kept: nothing of what it denotes is in (unshared) memory
    have keep : c0.2.2 = [] →
        Spec (Grow newId) (do let ls' ← mapLinks G ls; pure (l :: ls')) s
          (fun r s' => CopiesOK newId s.heap.length g (c0 :: cs0) r s') := by
      intro h0
      refine tail s l c0 (Grow.refl _ _) hc0 rfl ?_ ?_ ?_
      · rw [h0]; exact List.nodup_nil
      · rw [h0]; exact fun _ hb => absurd hb List.not_mem_nil
      · rw [h0]; exact fpOwned_nil _ _
    cases l with
    | nil => unfold mapLinks; exact keep (hflat rfl)
    | ref n => unfold mapLinks; exact keep (hflat rfl)
    | ptr c =>
      unfold mapLinks
      refine Spec.bind (read_spec c s) ?_
      rintro cn s0 _ _ ⟨rfl, hcn⟩
      by_cases hsh : cn.shared = true
      · rw [if_pos hsh]
        refine Spec.bind (Q1 := fun l' s' => l' = .ptr c ∧ s = s') (Spec.pure ⟨rfl, rfl⟩) ?_
        rintro l' s1 _ _ ⟨rfl, rfl⟩
        exact keep (repLink_shared_fp hg.sflat hg.flat hcn hsh hc0)
      · rw [if_neg hsh]
        refine Spec.bind (Q1 := fun l' s' => ∃ c', l' = .ptr c' ∧ CopyOK newId s.heap.length g c0 cn.dirty c' s') ?_ ?_
        · refine Spec.bind (hG c s c0 cn hg hc0 hcn) ?_
          intro c' s1 _ _ hcopy
          exact Spec.pure ⟨c', rfl, hcopy⟩
        · rintro l' s1 _ hgr1 ⟨c', rfl, x', hx', hrow, hnd, hlo, hown, _⟩
          refine tail s1 (.ptr c') x' hgr1 hx' ?_ hnd hlo hown
          simp only [pr, hrow, repLink_flag_ptr hx', repLink_flag_ptr hc0]

theorem toShared_spec (newId : Nat) : ∀ (f a : Nat) (s : PS) (g : Nat) (x : Bool × T × List Nat) (nd : MNode), Good s →
    repLink s.heap s.store g (.ptr a) = some x → s.heap[a]? = some nd →
    Spec (Grow newId) (toShared newId f a) s (fun a' s' => CopyOK newId s.heap.length g x nd.dirty a' s') := by
  intro f
  induction f with
  | zero => intro a s g x nd _ _ _; exact Spec.oof
  | succ f ih =>
    intro a s g x nd hg hx hnd
    unfold toShared
    refine Spec.bind (read_spec a s) ?_
    rintro nd' s0 _ _ ⟨rfl, hnd'⟩
    rw [hnd] at hnd'; injection hnd' with hnd'; subst hnd'
    by_cases hsh : nd.shared = true
    · rw [if_pos hsh]
      have hfp0 : x.2.2 = [] := repLink_shared_fp hg.sflat hg.flat hnd hsh hx
      refine Spec.pure ⟨x, hx, rfl, by rw [hfp0]; exact List.nodup_nil,
        by rw [hfp0]; exact fun _ hb => absurd hb List.not_mem_nil, by rw [hfp0]; exact fpOwned_nil _ _, ?_⟩
      simp only [rootDirty, hnd, Option.map_some, Option.getD_some]
    · rw [if_neg hsh]
      have hsh' : nd.shared = false := by simpa using hsh
      obtain ⟨g', cs, rfl, hv, h1, hcl, rfl⟩ := repLink_ptr_inv hx hnd
      refine Spec.bind (mapLinks_spec (newId := newId) (g := g') _ (fun c s x nd hg hx hnd => ih c s g' x nd hg hx hnd)
        nd.links s cs hg h1) ?_
      rintro links' s1 _ hgr1 ⟨cs', hcs', hpr, hnd', hlo, hown⟩
      have hlen : links'.length = nd.links.length := by
        have e3 := congrArg List.length hpr
        rw [List.length_map, List.length_map, seqO_map_length hcs', seqO_map_length h1] at e3
        exact e3
      refine (alloc_spec (m := newId) { nd with links := links', owner := newId, source := none } s1 (Or.inr rfl)
        (fun _ => hsh')).conseq ?_
      rintro a' s2 _ hgr2 ⟨rfl, rfl⟩
      have hself : (s1.heap ++ [{ nd with links := links', owner := newId, source := none }])[s1.heap.length]? =
          some { nd with links := links', owner := newId, source := none } := getElem?_append_self _ _
      have hcs2 : seqO (links'.map (repLink (s1.heap ++ [{ nd with links := links', owner := newId, source := none }])
          s1.store g')) = some cs' := seqO_map_congr hcs' (fun l _ c hc => hgr2.rep hc)
      refine ⟨_, repLink_ptr_some.mpr ⟨g', _, cs', rfl, hself, ⟨by rw [hlen]; exact hv.1, hv.2⟩, hcs2, rfl⟩, ?_, ?_, ?_, ?_,
        ?_⟩
      · rw [nodeRep_row, nodeRep_row, hpr]
      · rw [nodeRep_fp]
        have hown1 : ownFp { nd with links := links', owner := newId, source := none } s1.heap.length = [s1.heap.length] := by
          simp [ownFp, hsh']
        rw [hown1]
        refine List.nodup_append.mpr ⟨List.pairwise_singleton _ _, hnd', ?_⟩
        intro a ha b hb hab
        cases List.mem_singleton.mp ha; subst hab
        exact Nat.lt_irrefl _ (hown.lt hb)
      · intro b hb
        rw [nodeRep_fp] at hb
        rcases List.mem_append.mp hb with h | h
        · obtain ⟨_, rfl⟩ := mem_ownFp.mp h
          exact hgr1.length
        · exact hlo b h
      · rw [nodeRep_fp]
        refine FpOwned.append ?_ (hown.allocOnly hgr2.alloc)
        intro y hy
        obtain ⟨_, rfl⟩ := mem_ownFp.mp hy
        exact ⟨_, hself, rfl⟩
      · simp only [rootDirty, hself, Option.map_some, Option.getD_some]

end Mast.Ptr
