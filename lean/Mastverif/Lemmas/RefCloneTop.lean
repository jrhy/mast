import Mastverif.Lemmas.RefClone
/-! `Clone` refines "the same functional tree, held by pointer" (`toShared` from `RefClone` under a loaded root). -/
namespace Mast.Ptr
open Mast.Heap

def CloneOK (t : PTree) (newId g : Nat) (x : Bool × T × List Nat) (s : PS) (t' : PTree) (s' : PS) : Prop :=
  t' = { t with id := newId, root := t'.root } ∧
  ∃ x', repLink s'.heap s'.store g t'.root = some x' ∧ x'.1 = false ∧ x'.2.1 = x.2.1 ∧ x'.2.2.Nodup ∧
    (∀ b ∈ x'.2.2, s.heap.length ≤ b) ∧ FpOwned s'.heap newId x'.2.2 ∧
    rootDirty s'.heap t'.root = rootDirty s.heap t.root

theorem clone_spec (E : Env) (t : PTree) (newId fuel g : Nat) (s : PS) (x : Bool × T × List Nat) (hg : Good s)
    (hx : repLink s.heap s.store g t.root = some x) :
    Spec (Grow newId) (clone E t newId fuel) s (fun t' s' => CloneOK t newId g x s t' s') := by
  unfold clone
  by_cases hr : t.root = .nil
  · rw [if_pos hr]
    rw [hr] at hx
    simp at hx; subst hx
    refine Spec.pure ⟨rfl, (false, T.nil, []), ?_, rfl, rfl, by simp, by simp, fpOwned_nil _ _, rfl⟩
    show repLink s.heap s.store g t.root = _
    rw [hr]; simp
  · rw [if_neg hr]
    refine Spec.bind (load_spec (m := newId) E t.root s hg) ?_
    rintro a s1 hok hgr1 ⟨_, hptr, hld⟩
    have hxa := hld g x hx
    obtain ⟨_, nd, _, _, hnd, _⟩ := repLink_ptr_some.mp hxa
    have hdirty := load_root_dirty hg hok hnd
    refine Spec.bind (toShared_spec newId fuel a s1 g _ nd (hgr1.good hg) hxa hnd) ?_
    rintro a' s2 _ hgr2 ⟨x', hx', hrow, hnd', hlo, hown, hd⟩
    refine Spec.pure ⟨rfl, x', hx', repLink_flag_ptr hx', hrow, hnd', ?_, hown, ?_⟩
    · exact fun b hb => Nat.le_trans hgr1.length (hlo b hb)
    · show rootDirty s2.heap (.ptr a') = _
      rw [hd, hdirty]

/-- the clone's footprint is fresh (`≥` the old heap length), hence disjoint from every old footprint; no freshness of
    `newId` is needed here (only for the system invariant) -/
theorem clone_refines (E : Env) (t t' : PTree) (newId fuel g : Nat) (s s' : PS) (A : Tree)
    (hg : Good s) (hA : repTree s g t = some A) (h : clone E t newId fuel s = .ok t' s') :
    Grow newId s s' ∧ Good s' ∧ t' = { t with id := newId, root := t'.root } ∧
    repTree s' g t' = some { A with rootP := false } ∧ repTree s' g t = some A ∧
    FpOwned s'.heap newId (footprint s' g t') ∧ (∀ b ∈ footprint s' g t', s.heap.length ≤ b) ∧
    footprint s' g t = footprint s g t ∧ (∀ b ∈ footprint s' g t, b ∉ footprint s' g t') := by
  obtain ⟨x, hx, hxnd, hAeq⟩ := repTree_eq_some.mp hA
  obtain ⟨hgr, hrec, x', hx', hflag, hrow, hnd', hlo, hown, hd⟩ := (clone_spec E t newId fuel g s x hg hx).ok h
  have hfp' : footprint s' g t' = x'.2.2 := footprint_eq hx'
  have hfp : footprint s' g t = footprint s g t := hgr.fp_eq hx
  refine ⟨hgr, hgr.good hg, hrec, repTree_eq_some.mpr ⟨x', hx', hnd', ?_⟩, hgr.repTree hA, by rw [hfp']; exact hown,
    by rw [hfp']; exact hlo, hfp, ?_⟩
  · rw [hAeq, hd]
    have e1 : t'.size = t.size := by rw [hrec]
    have e2 : t'.height = t.height := by rw [hrec]
    have e3 : t'.bf = t.bf := by rw [hrec]
    have e4 : t'.growAfter = t.growAfter := by rw [hrec]
    have e5 : t'.shrinkBelow = t.shrinkBelow := by rw [hrec]
    simp only [treeRec, hflag, hrow, e1, e2, e3, e4, e5]
  · intro b hb hb'
    rw [hfp, footprint_eq hx] at hb
    exact Nat.lt_irrefl _ (Nat.lt_of_lt_of_le (repLink_fp_lt hx hb) (hlo b (by rw [← hfp']; exact hb')))

theorem clone_err (E : Env) (t : PTree) (newId fuel g : Nat) (s s' : PS) (A : Tree)
    (hg : Good s) (hA : repTree s g t = some A) (h : clone E t newId fuel s = .err s') : Grow newId s s' := by
  obtain ⟨x, hx, _, _⟩ := repTree_eq_some.mp hA
  exact (clone_spec E t newId fuel g s x hg hx).err h

theorem clone_healthy {t t' : PTree} {newId : Nat} (hrec : t' = { t with id := newId, root := t'.root })
    (hh : Healthy t) : Healthy t' := by
  unfold Healthy at hh ⊢
  rw [hrec]; exact hh

end Mast.Ptr
