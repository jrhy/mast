import Mastverif.Lemmas.RefRelink
import Mastverif.Lemmas.RefPlan
/-! `savePath`, and the in-place part of Insert and Delete: `ToMut` on the found node, the write, `savePath`. -/
namespace Mast.Ptr
open Mast.Heap

theorem fpOwned_of_step {m : Nat} {s s' : PS} {old new : List Nat} (hst : Step m s s')
    (hold : FpOwned s.heap m old) (hext : FpExt s.heap.length old new)
    (hun : ∀ y ∈ new, ∃ nd, s'.heap[y]? = some nd ∧ nd.shared = false) : FpOwned s'.heap m new := by
  intro y hy
  obtain ⟨nd, hnd, hs⟩ := hun y hy
  refine ⟨nd, hnd, ?_⟩
  rcases hext.2 y hy with h | h
  · obtain ⟨nd0, hnd0, ho⟩ := hold y h
    obtain ⟨nd', hnd', e1, _, _⟩ := hst.keep y nd0 hnd0
    rw [hnd] at hnd'; injection hnd' with hnd'; subst hnd'
    rw [e1, ho]
  · rcases hst.fresh y nd h hnd with h1 | h1
    · rw [hs] at h1; cases h1
    · exact h1

theorem savePath_spec {m : Nat} (q : List (Nat × Nat)) (frs : List Fr) (s : PS) (bx : Bool × T × List Nat)
    (g b j : Nat) (hg : Good s) (hctx : Ctx s.heap s.store q frs) (hlast : q.getLast? = some (b, j))
    (hbx : repLink s.heap s.store g (.ptr b) = some bx)
    (hnodup : (plug frs bx).2.2.Nodup) (howned : FpOwned s.heap m (plug frs bx).2.2) :
    Spec (Step m) (savePath m q) s (fun root s' => ∃ a0 g' y, root = .ptr a0 ∧
      repLink s'.heap s'.store g' (.ptr a0) = some y ∧ y.2.1 = plugDel frs bx.2.1 ∧
      FpExt s.heap.length (plug frs bx).2.2 y.2.2 ∧ rootDirty s'.heap root = true) := by
  unfold savePath
  refine Spec.bind (mutPath_spec (m := m) q frs s bx g b j hg hctx hlast hbx hnodup howned) ?_
  rintro q' s1 _ hst1 ⟨hsnd, hsh, hdm, hod, frs', bx', g1, b', j', hctx1, hlast1, hbx1, hrow1, hdel1, hfp1⟩
  have hg1 := hst1.good hg
  refine Spec.bind (relink_spec (m := m) q' frs' s1 bx' g1 b' j' hg1 hctx1 hlast1 hbx1 hfp1.1
    (fun p hp => by obtain ⟨nd, h1, h2, _⟩ := hod p hp; exact ⟨nd, h1, h2⟩)) ?_
  rintro _ s2 _ hst2 ⟨hlen2, hdm2, hfr2, htop⟩
  cases q' with
  | nil => exact Spec.panic
  | cons x rest0 =>
    obtain ⟨a0, i0⟩ := x
    obtain ⟨g2, hrep2⟩ := htop a0 i0 rest0 rfl
    have hsub := topRep_fp_sublist frs' bx'
    refine Spec.pure ⟨a0, g2, _, rfl, hrep2, ?_, ⟨hsub.nodup hfp1.1, fun y hy => hfp1.2 y (hsub.subset hy)⟩, ?_⟩
    · rw [topRep_row, hdel1, hrow1]
    · obtain ⟨nd, h1, _, _, hd⟩ := hod (a0, i0) (List.mem_cons_self ..)
      obtain ⟨nd2, h2, hd2⟩ := hdm2 a0 nd h1 hd
      simp [rootDirty, h2, hd2]

theorem setLastNode_eq {path : List (Nat × Nat)} {node i : Nat} (h : path.getLast? = some (node, i)) (a' : Nat) :
    setLastNode path a' = path.dropLast ++ [(a', i)] := by
  unfold setLastNode; rw [h]

/-- the state after the bottom node (or its fresh copy) has been overwritten with the new contents -/
theorem bottom_written {m : Nat} {h1 h1a : Heap} {st : List SNode} {path : List (Nat × Nat)} {frs : List Fr}
    {node i a' G n2 : Nat} {nd ndN : MNode} {csb cs' : List (Bool × T × List Nat)}
    (hctx : Ctx h1 st path frs) (hlast : path.getLast? = some (node, i))
    (hnd : h1[node]? = some nd)
    (hcase : (nd.shared = false ∧ a' = node ∧ h1a = h1) ∨
             (nd.shared = true ∧ a' = h1.length ∧ h1a = h1 ++ [mutCopy m nd]))
    (hN1 : ndN.shared = false)
    (hkidsN : seqO (ndN.links.map (repLink h1 st G)) = some cs') (hvalidN : ValidN ndN)
    (hfps : FpExt n2 (fps csb) (fps cs'))
    (hn2 : n2 ≤ h1.length) (hlt : ∀ y ∈ (plug frs (bottomRep nd node csb)).2.2, y < n2)
    (hnodup : (plug frs (bottomRep nd node csb)).2.2.Nodup) :
    Ctx (h1a.set a' ndN) st (setLastNode path a') frs ∧ (setLastNode path a').getLast? = some (a', i) ∧
    repLink (h1a.set a' ndN) st (G + 1) (.ptr a') = some (nodeRep false [a'] ndN.keys ndN.vals cs') ∧
    FpExt n2 (plug frs (bottomRep nd node csb)).2.2 (plug frs (nodeRep false [a'] ndN.keys ndN.vals cs')).2.2 := by
  have hal : AllocOnly h1 h1a := by
    rcases hcase with ⟨_, _, rfl⟩ | ⟨_, _, rfl⟩
    · exact AllocOnly.refl _
    · exact allocOnly_append _ _
  have ha'lt : a' < h1a.length := by
    rcases hcase with ⟨_, rfl, rfl⟩ | ⟨_, rfl, rfl⟩
    · exact (List.getElem?_eq_some_iff.mp hnd).1
    · simp
  rw [plug_fp] at hnodup hlt
  have hbfp : (bottomRep nd node csb).2.2 = ownFp nd node ++ fps csb := rfl
  have hnb : (ownFp nd node ++ fps csb).Nodup := by
    rw [← hbfp]; exact (List.nodup_append.mp (List.nodup_append.mp hnodup).1).2.1
  have hfpb : FpExt n2 (bottomRep nd node csb).2.2 (nodeRep false [a'] ndN.keys ndN.vals cs').2.2 := by
    rw [hbfp, nodeRep_fp]
    rcases hcase with ⟨hs, rfl, _⟩ | ⟨hs, rfl, _⟩
    · have ho : ownFp nd a' = [a'] := by simp [ownFp, hs]
      rw [ho] at hnb ⊢
      have := FpExt.ctx (n := n2) [a'] [] (by simpa using hnb) (fun y hy => by
        apply hlt y; simp at hy; subst hy
        simp only [List.mem_append]; exact Or.inl (Or.inr (by rw [hbfp, ho]; simp))) (by simp) hfps
      simpa using this
    · have ho : ownFp nd node = [] := by simp [ownFp, hs]
      rw [ho]
      simp only [List.nil_append, List.singleton_append]
      refine hfps.cons_fresh hn2 ?_
      intro hmem
      obtain ⟨c, hc, hyc⟩ := mem_fps.mp hmem
      obtain ⟨k, hk⟩ := List.getElem?_of_mem hc
      have hlen := seqO_map_length hkidsN
      have hklt : k < ndN.links.length := by rw [← hlen]; exact (List.getElem?_eq_some_iff.mp hk).1
      obtain ⟨c', hc1, hc2⟩ := seqO_map_getElem? hkidsN (List.getElem?_eq_getElem hklt)
      rw [hk] at hc2; injection hc2 with hc2; subst hc2
      have := repLink_fp_lt hc1 hyc
      omega
  have hfp : FpExt n2 (plugA frs ++ (bottomRep nd node csb).2.2 ++ plugB frs)
      (plugA frs ++ (nodeRep false [a'] ndN.keys ndN.vals cs').2.2 ++ plugB frs) :=
    FpExt.ctx _ _ hnodup
      (fun y hy => hlt y (List.mem_append.mpr (Or.inl (List.mem_append.mpr (Or.inl hy)))))
      (fun y hy => hlt y (List.mem_append.mpr (Or.inr hy))) hfpb
  -- `a'` occurs once in the new footprint
  have hnew := hfp.1
  rw [nodeRep_fp] at hnew
  simp only [List.nodup_append, List.mem_append, List.singleton_append, List.nodup_cons, List.mem_cons] at hnew
  obtain ⟨⟨hnA, ⟨ha'cs, _⟩, hAb⟩, hnB, hAbB⟩ := hnew
  have ha'A : a' ∉ plugA frs := fun h => hAb a' h a' (Or.inl rfl) rfl
  have ha'B : a' ∉ plugB frs := fun h => hAbB a' (Or.inr (Or.inl rfl)) a' h rfl
  have hW1a : ∀ (y : Nat) (x : MNode), h1a[y]? = some x → y = a' → x.shared = false := by
    intro y x hx hy
    subst hy
    rcases hcase with ⟨hs, rfl, rfl⟩ | ⟨hs, rfl, rfl⟩
    · exact Option.some.inj (hnd.symm.trans hx) ▸ hs
    · exact Option.some.inj ((getElem?_append_self _ _).symm.trans hx) ▸ rfl
  refine ⟨?_, ?_, ?_, by rw [plug_fp, plug_fp]; exact hfp⟩
  · rw [setLastNode_eq hlast]
    refine Ctx.setLast _ (Ctx.frame (fun y => y = a') ?_ hW1a (hctx.allocOnly hal) ?_)
    · intro y x hx hne
      rw [List.getElem?_set_ne (fun h => hne h.symm)]; exact hx
    · intro y hy h
      subst h
      rcases List.mem_append.mp hy with h | h
      · exact ha'A h
      · exact ha'B h
  · rw [setLastNode_eq hlast]; simp
  · refine repLink_ptr_some.mpr ⟨G, ndN, cs', rfl, List.getElem?_set_self ha'lt, hvalidN, ?_, by simp [ownFp, hN1]⟩
    refine seqO_map_congr hkidsN (fun l hl c hc => ?_)
    have := repLink_frame (h := h1) (h' := h1a.set a' ndN) (st := st) [] (fun y => y = a') ?_ ?_ G l c hc ?_
    · simpa using this
    · intro y x hx hne
      rw [List.getElem?_set_ne (fun h => hne h.symm)]; exact hal y x hx
    · intro y x hx hy
      exact hW1a y x (hal y x hx) hy
    · intro y hy h
      subst h
      obtain ⟨c', hc1, hc2⟩ := seqO_map_mem hkidsN hl
      exact ha'cs (mem_fps.mpr ⟨c, Option.some.inj (hc1.symm.trans hc) ▸ hc2, hy⟩)

/-- The in-place part of Insert and Delete: `ToMut` on the found node, new contents `upd nd'` (keys `K`, values `V`,
    links `L` denoting `cs'`) written over it, then `savePath`.  The new root denotes the new bottom row under the
    frames of the path, empty nodes pruned. -/
theorem commit_spec {m : Nat} (upd : MNode → MNode) {s0 s1 : PS} {frs : List Fr} {fd : Found}
    {key lv gb G n2 : Nat} {nd : MNode} {csb cs' : List (Bool × T × List Nat)} {K V : List Nat} {L : List HLink}
    {x : Bool × T × List Nat}
    (hB : Bottom key s0.heap.length x lv fd s1.heap s1.store frs gb csb nd n2)
    (hupd : ∀ nd' : MNode, nd'.keys = nd.keys → nd'.vals = nd.vals → nd'.links = nd.links → nd'.shared = false →
      (upd nd').shared = false ∧ (upd nd').keys = K ∧ (upd nd').vals = V ∧ (upd nd').links = L)
    (hkids : seqO (L.map (repLink s1.heap s1.store G)) = some cs')
    (hvalid : L.length = K.length + 1 ∧ V.length = K.length) (hfps : FpExt n2 (fps csb) (fps cs'))
    (hg1 : Good s1) (hst01 : Step m s0 s1) (hown0 : FpOwned s0.heap m x.2.2) :
    Spec (Step m) (do
        let a' ← toMut m fd.node
        let nd' ← read a'
        write m a' (upd nd')
        savePath m (setLastNode fd.path a')) s1
      (fun root s' => ∃ a0 g' y, root = .ptr a0 ∧ repLink s'.heap s'.store g' (.ptr a0) = some y ∧
        y.2.1 = plugDel frs (mkRow (cs'.map pr) K V) ∧ FpExt s0.heap.length x.2.2 y.2.2 ∧
        rootDirty s'.heap root = true) := by
  have hnd := hB.node
  refine Spec.bind (toMut_spec (m := m) fd.node s1).toStep ?_
  rintro a' s1a _ hst1a ⟨nd0, hnd0, hcase⟩
  obtain rfl := Option.some.inj (hnd.symm.trans hnd0)
  refine Spec.bind (read_spec a' s1a) ?_
  rintro nd' s _ _ ⟨rfl, hnd'⟩
  have hnd'eq : nd'.keys = nd.keys ∧ nd'.vals = nd.vals ∧ nd'.links = nd.links ∧ nd'.shared = false := by
    rcases hcase with ⟨hs, rfl, rfl⟩ | ⟨hs, rfl, rfl⟩
    · obtain rfl := Option.some.inj (hnd.symm.trans hnd')
      exact ⟨rfl, rfl, rfl, hs⟩
    · obtain rfl := Option.some.inj ((getElem?_append_self _ _).symm.trans hnd')
      exact ⟨rfl, rfl, rfl, rfl⟩
  obtain ⟨hN1, hNk, hNv, hNl⟩ := hupd nd' hnd'eq.1 hnd'eq.2.1 hnd'eq.2.2.1 hnd'eq.2.2.2
  have hcase' : (nd.shared = false ∧ a' = fd.node ∧ s1a.heap = s1.heap) ∨
      (nd.shared = true ∧ a' = s1.heap.length ∧ s1a.heap = s1.heap ++ [mutCopy m nd]) := by
    rcases hcase with ⟨hs, h1, h2⟩ | ⟨hs, h1, h2⟩
    · exact Or.inl ⟨hs, h1, by rw [h2]⟩
    · exact Or.inr ⟨hs, h1, by rw [h2]⟩
  refine Spec.bind (write_spec (m := m) a' _ s1a) ?_
  rintro _ s1b _ hst1b ⟨old, hold, ho1, ho2, hn1, hn2', _, rfl⟩
  generalize upd nd' = ndN at hN1 hNk hNv hNl hst1b ⊢
  obtain ⟨hctxb, hlastb, hrepb, hfpb⟩ := bottom_written (m := m) (h1a := s1a.heap) (a' := a') hB.ctx hB.last hnd hcase' hN1
    (hNl ▸ hkids) (by unfold ValidN; rw [hNk, hNv, hNl]; exact hvalid) hfps hB.le_heap hB.lt hB.fp.1
  have hstore : s1a.store = s1.store := hst1a.store
  have hst0 : Step m s0 { s1a with heap := s1a.heap.set a' ndN } := hst01.trans (hst1a.trans hst1b)
  have hfpall : FpExt s0.heap.length x.2.2 (plug frs (nodeRep false [a'] ndN.keys ndN.vals cs')).2.2 :=
    hB.fp.trans hfpb hB.start_le
  have hctxb' : Ctx ({ s1a with heap := s1a.heap.set a' ndN } : PS).heap
      ({ s1a with heap := s1a.heap.set a' ndN } : PS).store (setLastNode fd.path a') frs := by
    show Ctx (s1a.heap.set a' ndN) s1a.store _ _
    rw [hstore]; exact hctxb
  have hrepb' : repLink ({ s1a with heap := s1a.heap.set a' ndN } : PS).heap
      ({ s1a with heap := s1a.heap.set a' ndN } : PS).store (G + 1) (.ptr a') =
      some (nodeRep false [a'] ndN.keys ndN.vals cs') := by
    show repLink (s1a.heap.set a' ndN) s1a.store _ _ = _
    rw [hstore]; exact hrepb
  refine (savePath_spec (m := m) (setLastNode fd.path a') frs _ _ (G + 1) a' fd.idx (hst1b.good (hst1a.good hg1)) hctxb'
    hlastb hrepb' hfpall.1 (fpOwned_of_step hst0 hown0 hfpall (plug_fp_unshared hctxb' hrepb'))).conseq ?_
  rintro root s' _ hst' ⟨a0, g', y, rfl, hy, hyrow, hyfp, hdirty⟩
  exact ⟨a0, g', y, rfl, hy, by rw [hyrow, nodeRep_row, hNk, hNv], hfpall.trans hyfp hst0.len, hdirty⟩

end Mast.Ptr
#print axioms Mast.Ptr.savePath_spec
