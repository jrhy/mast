import Mastverif.Lemmas.RefBase
/-!
Contexts: the nodes of a search path with the results of the sibling links.  `plug frs x` is what the top
of the path denotes when the bottom node denotes `x` and every path link is a pointer.
-/
namespace Mast.Ptr
open Mast.Heap

/-- one node of the path: its own footprint part, its entries, the results of the links left and right
    of the path link -/
structure Fr where
  own : List Nat
  ks : List Nat
  vs : List Nat
  L : List (Bool × T × List Nat)
  R : List (Bool × T × List Nat)

def Fr.plug (fr : Fr) (x : Bool × T × List Nat) : Bool × T × List Nat :=
  nodeRep false fr.own fr.ks fr.vs (fr.L ++ (false, x.2.1, x.2.2) :: fr.R)

def plug : List Fr → (Bool × T × List Nat) → (Bool × T × List Nat)
  | [], x => x
  | fr :: frs, x => fr.plug (plug frs x)

def Fr.plugRow (fr : Fr) (r : T) : T := mkRow (fr.L.map pr ++ (false, r) :: fr.R.map pr) fr.ks fr.vs

def plugRow : List Fr → T → T
  | [], r => r
  | fr :: frs, r => fr.plugRow (plugRow frs r)

/-- the part of the footprint before / after the bottom's -/
def plugA : List Fr → List Nat
  | [] => []
  | fr :: frs => fr.own ++ fps fr.L ++ plugA frs

def plugB : List Fr → List Nat
  | [] => []
  | fr :: frs => plugB frs ++ fps fr.R

theorem Fr.plug_row (fr : Fr) (x : Bool × T × List Nat) : (fr.plug x).2.1 = fr.plugRow x.2.1 := by
  simp [Fr.plug, Fr.plugRow, nodeRep_row, pr]

theorem Fr.plug_fp (fr : Fr) (x : Bool × T × List Nat) :
    (fr.plug x).2.2 = fr.own ++ fps fr.L ++ x.2.2 ++ fps fr.R := by
  simp [Fr.plug, nodeRep_fp, List.append_assoc]

theorem Fr.plug_flag (fr : Fr) (x : Bool × T × List Nat) : (fr.plug x).1 = false := rfl

theorem plug_row (frs : List Fr) (x : Bool × T × List Nat) : (plug frs x).2.1 = plugRow frs x.2.1 := by
  induction frs with
  | nil => rfl
  | cons fr frs ih => simp only [plug, plugRow, Fr.plug_row, ih]

theorem plug_fp (frs : List Fr) (x : Bool × T × List Nat) : (plug frs x).2.2 = plugA frs ++ x.2.2 ++ plugB frs := by
  induction frs with
  | nil => simp [plug, plugA, plugB]
  | cons fr frs ih => simp only [plug, plugA, plugB, Fr.plug_fp, ih, List.append_assoc]

/-- the sibling results fit the entries (true of every frame of a `Ctx`) -/
def Fr.Fits (fr : Fr) : Prop := fr.L.length + fr.R.length = fr.ks.length ∧ fr.vs.length = fr.ks.length

/-- the frame fits the key: the path link is at the key's index, the key is not in this node -/
def Fr.OK (key : Nat) (fr : Fr) : Prop :=
  fr.L.length + fr.R.length = fr.ks.length ∧ fr.vs.length = fr.ks.length ∧
    keyIdx fr.ks key = fr.L.length ∧ fr.ks[fr.L.length]? ≠ some key

/-- `fr` is the frame of the node at `a` around its link `i` (the first conjunct of `Ctx` at a path node) -/
@[reducible] def Fr.At (h : Heap) (st : List SNode) (a i : Nat) (fr : Fr) : Prop :=
  ∃ nd g, h[a]? = some nd ∧ ValidN nd ∧ fr.own = ownFp nd a ∧ fr.ks = nd.keys ∧ fr.vs = nd.vals ∧
    i = fr.L.length ∧ i < nd.links.length ∧
    seqO ((nd.links.take i).map (repLink h st g)) = some fr.L ∧
    seqO ((nd.links.drop (i + 1)).map (repLink h st g)) = some fr.R

/-- the path `(a₀,i₀) … (aₙ,iₙ)` in the heap: every node but the last is valid, its links other than `iⱼ`
    denote the frame's sibling results -/
def Ctx (h : Heap) (st : List SNode) : List (Nat × Nat) → List Fr → Prop
  | [_], [] => True
  | (a, i) :: (b, j) :: rest, fr :: frs =>
    (∃ nd g, h[a]? = some nd ∧ ValidN nd ∧ fr.own = ownFp nd a ∧ fr.ks = nd.keys ∧ fr.vs = nd.vals ∧
      i = fr.L.length ∧ i < nd.links.length ∧
      seqO ((nd.links.take i).map (repLink h st g)) = some fr.L ∧
      seqO ((nd.links.drop (i + 1)).map (repLink h st g)) = some fr.R) ∧
    Ctx h st ((b, j) :: rest) frs
  | _, _ => False

/-- Induction over a context: the last node of the path, or a frame on top of a context.
    (`elab_as_elim`: the motive is read off the goal; unification alone does not find it.) -/
@[elab_as_elim]
theorem Ctx.induction {h : Heap} {st : List SNode} {P : List (Nat × Nat) → List Fr → Prop}
    {p : List (Nat × Nat)} {frs : List Fr} (hc : Ctx h st p frs)
    (last : ∀ z, P [z] [])
    (step : ∀ a i b j rest fr frs, Fr.At h st a i fr → Ctx h st ((b, j) :: rest) frs → P ((b, j) :: rest) frs →
      P ((a, i) :: (b, j) :: rest) (fr :: frs)) : P p frs := by
  induction p generalizing frs with
  | nil => cases frs <;> exact hc.elim
  | cons x p ih =>
    cases p with
    | nil =>
      cases frs with
      | nil => exact last x
      | cons _ _ => exact hc.elim
    | cons y rest =>
      cases frs with
      | nil => exact hc.elim
      | cons fr frs => exact step x.1 x.2 y.1 y.2 rest fr frs hc.1 hc.2 (ih hc.2)

theorem Ctx.length {h : Heap} {st : List SNode} : ∀ {p : List (Nat × Nat)} {frs : List Fr},
    Ctx h st p frs → p.length = frs.length + 1 := by
  intro p frs hc
  refine hc.induction ?_ ?_
  · intro _; rfl
  · intro a i b j rest fr frs _ _ ih
    exact congrArg Nat.succ ih

theorem Fr.At.frame {h h' : Heap} {st : List SNode} (W : Nat → Prop)
    (hfr : ∀ a nd, h[a]? = some nd → ¬ W a → h'[a]? = some nd)
    (hW : ∀ a nd, h[a]? = some nd → W a → nd.shared = false)
    {a i : Nat} {fr : Fr} (hf : Fr.At h st a i fr)
    (hown : ∀ y ∈ fr.own, ¬ W y) (hdL : ∀ y ∈ fps fr.L, ¬ W y) (hdR : ∀ y ∈ fps fr.R, ¬ W y) :
    Fr.At h' st a i fr := by
  obtain ⟨nd, g, hnd, hv, ho, hks, hvs, hi, hilt, hL, hR⟩ := hf
  have hna : ¬ W a := fun hw => hown a (ho ▸ mem_ownFp.mpr ⟨hW a nd hnd hw, rfl⟩) hw
  exact ⟨nd, g, hfr a nd hnd hna, hv, ho, hks, hvs, hi, hilt, repLinks_frame W hfr hW hL hdL,
    repLinks_frame W hfr hW hR hdR⟩

theorem Ctx.frame {h h' : Heap} {st : List SNode} (W : Nat → Prop)
    (hfr : ∀ a nd, h[a]? = some nd → ¬ W a → h'[a]? = some nd)
    (hW : ∀ a nd, h[a]? = some nd → W a → nd.shared = false) :
    ∀ {p : List (Nat × Nat)} {frs : List Fr}, Ctx h st p frs →
      (∀ y ∈ plugA frs ++ plugB frs, ¬ W y) → Ctx h' st p frs := by
  intro p frs hc
  refine hc.induction ?_ ?_
  · intro _ _; trivial
  · intro a i b j rest fr frs hf _ ih hd
    simp only [plugA, plugB, List.mem_append] at hd ih
    exact ⟨hf.frame W hfr hW (fun y hy => hd y (Or.inl (Or.inl (Or.inl hy))))
        (fun y hy => hd y (Or.inl (Or.inl (Or.inr hy)))) (fun y hy => hd y (Or.inr (Or.inr hy))),
      ih fun y hy => hd y (hy.elim (fun hy => Or.inl (Or.inr hy)) (fun hy => Or.inr (Or.inl hy)))⟩

theorem Ctx.allocOnly {h h' : Heap} {st : List SNode} (ha : AllocOnly h h') {p : List (Nat × Nat)} {frs : List Fr}
    (hc : Ctx h st p frs) : Ctx h' st p frs :=
  Ctx.frame (fun _ => False) (fun a nd hnd _ => ha a nd hnd) (fun _ _ _ hw => hw.elim) hc (fun _ _ hw => hw)

theorem Ctx.cons {h : Heap} {st : List SNode} {q : List (Nat × Nat)} {frs : List Fr} {a i : Nat} {fr : Fr}
    (hq : Ctx h st q frs) (hnode : Fr.At h st a i fr) : Ctx h st ((a, i) :: q) (fr :: frs) := by
  cases q with
  | nil => cases frs <;> exact hq.elim
  | cons y rest => exact ⟨hnode, hq⟩

theorem Ctx.fits {h : Heap} {st : List SNode} {p : List (Nat × Nat)} {frs : List Fr} (hc : Ctx h st p frs) :
    ∀ fr ∈ frs, fr.Fits := by
  refine hc.induction ?_ ?_
  · intro _ _ hfr; cases hfr
  · intro a i b j rest fr frs hf _ ih fr' hfr'
    obtain ⟨nd, g, _, hv, _, hks, hvs, hi, hilt, _, hR⟩ := hf
    rcases List.mem_cons.mp hfr' with rfl | h'
    · refine ⟨?_, by rw [hvs, hks]; exact hv.2⟩
      have h1 := seqO_map_length hR
      rw [List.length_drop, hv.1, ← hks, hi] at h1
      rw [hi, hv.1, ← hks] at hilt
      rw [h1, Nat.add_sub_add_right]
      exact Nat.add_sub_cancel' (Nat.le_of_lt_succ hilt)
    · exact ih fr' h'

theorem Ctx.fp_forall {h : Heap} {st : List SNode} {P : Nat → Prop}
    (hrep : ∀ g l c, repLink h st g l = some c → ∀ y ∈ c.2.2, P y)
    (hown : ∀ a nd, h[a]? = some nd → nd.shared = false → P a)
    {p : List (Nat × Nat)} {frs : List Fr} (hc : Ctx h st p frs) : ∀ y ∈ plugA frs ++ plugB frs, P y := by
  refine hc.induction ?_ ?_
  · intro _ y hy; cases hy
  · intro a i b j rest fr frs hf _ ih y hy
    obtain ⟨nd, g, hnd, _, ho, _, _, _, _, hL, hR⟩ := hf
    have hsib : ∀ {ls : List HLink} {cs : List (Bool × T × List Nat)},
        seqO (ls.map (repLink h st g)) = some cs → y ∈ fps cs → P y := fun hcs hy =>
      let ⟨c, hc, hyc⟩ := mem_fps.mp hy
      seqO_map_forall (P := fun c => ∀ y ∈ c.2.2, P y) hcs (fun l _ c hc => hrep g l c hc) c hc y hyc
    simp only [plugA, plugB, List.mem_append] at hy
    rcases hy with ((hy | hy) | hy) | (hy | hy)
    · rw [ho] at hy
      obtain ⟨hs, rfl⟩ := mem_ownFp.mp hy
      exact hown _ nd hnd hs
    · exact hsib hL hy
    · exact ih y (List.mem_append_left _ hy)
    · exact ih y (List.mem_append_right _ hy)
    · exact hsib hR hy

theorem plug_fp_forall {h : Heap} {st : List SNode} {P : Nat → Prop}
    (hrep : ∀ g l c, repLink h st g l = some c → ∀ y ∈ c.2.2, P y)
    (hown : ∀ a nd, h[a]? = some nd → nd.shared = false → P a)
    {q : List (Nat × Nat)} {frs : List Fr} {g b : Nat} {bx : Bool × T × List Nat} (hctx : Ctx h st q frs)
    (hbx : repLink h st g (.ptr b) = some bx) : ∀ y ∈ (plug frs bx).2.2, P y := by
  intro y hy
  rw [plug_fp] at hy
  rcases List.mem_append.mp hy with hy | hy
  · rcases List.mem_append.mp hy with hy | hy
    · exact hctx.fp_forall hrep hown y (List.mem_append_left _ hy)
    · exact hrep _ _ _ hbx y hy
  · exact hctx.fp_forall hrep hown y (List.mem_append_right _ hy)

theorem plug_fp_lt {h : Heap} {st : List SNode} {q : List (Nat × Nat)} {frs : List Fr} {g b : Nat}
    {bx : Bool × T × List Nat} (hctx : Ctx h st q frs) (hbx : repLink h st g (.ptr b) = some bx) :
    ∀ y ∈ (plug frs bx).2.2, y < h.length :=
  plug_fp_forall (fun _ _ _ hc _ hy => repLink_fp_lt hc hy)
    (fun _ _ hnd _ => (List.getElem?_eq_some_iff.mp hnd).1) hctx hbx

theorem plug_fp_unshared {h : Heap} {st : List SNode} {q : List (Nat × Nat)} {frs : List Fr} {g b : Nat}
    {bx : Bool × T × List Nat} (hctx : Ctx h st q frs) (hbx : repLink h st g (.ptr b) = some bx) :
    ∀ y ∈ (plug frs bx).2.2, ∃ nd, h[y]? = some nd ∧ nd.shared = false :=
  plug_fp_forall (fun g l c hc => repLink_fp_unshared g l c hc) (fun _ nd hnd hs => ⟨nd, hnd, hs⟩) hctx hbx

theorem Ctx.setLast {h : Heap} {st : List SNode} : ∀ {p : List (Nat × Nat)} {frs : List Fr} (z : Nat × Nat),
    Ctx h st p frs → Ctx h st (p.dropLast ++ [z]) frs := by
  intro p frs z hc
  refine hc.induction ?_ ?_
  · intro _; trivial
  · intro a i b j rest fr frs hf _ ih
    cases rest with
    | nil => exact ⟨hf, ih⟩
    | cons y rest => exact ⟨hf, ih⟩

end Mast.Ptr
