import Mastverif.Model.PtrCursor
import Mastverif.Lemmas.RefCursorRows
import Mastverif.Lemmas.RefLoad
import Mastverif.Lemmas.RefGet
import Mastverif.Lemmas.RefCloneTop
import Mastverif.Lemmas.CursorWalk
import Mastverif.Lemmas.RefSysInv
import Mastverif.Lemmas.CursorRetry
/-!
# The object-level cursor refines the functional cursor

`PathRep w s g opath P`: the object path `opath` (addresses, indices) denotes the functional path `P`
(rows, indices): same indices, every object denotes (`repLink`, as a pointer) the row at the same
position.  `g` is the fuel of `repLink` (any `g` above the height of what is denoted will do:
`NodeRep.mono`), `w` the owner tag of the cursor's tree.  Each navigation function of
`Model/PtrCursor.lean`, run from a `Good` state on a path that denotes `P`, only allocates and —
when it reports no error — leaves a path that denotes what `Model/Cursor.lean` computes from `P`
with the same fuel.  A failing `Min` / `Max` / `Ceil` leaves the descent so far (`MinPartial`,
`MaxPartial`, `CeilPartial` of `Lemmas/CursorRetry.lean`), from which the same call resumes; a
failing `Forward` / `Backward` puts the old path back.
-/
namespace Mast.Ptr
open Mast.Heap Mast

variable {w : Nat}

/-- the link `l` denotes `row`; its footprint (the unshared objects read) is duplicate-free and
    carries the owner tag `w` -/
def LinkRep (w : Nat) (s : PS) (g : Nat) (l : HLink) (row : T) : Prop :=
  ∃ p fp, repLink s.heap s.store g l = some (p, row, fp) ∧ fp.Nodup ∧ FpOwned s.heap w fp

def NodeRep (w : Nat) (s : PS) (g a : Nat) (row : T) : Prop :=
  ∃ fp, repLink s.heap s.store g (.ptr a) = some (false, row, fp) ∧ fp.Nodup ∧ FpOwned s.heap w fp

theorem NodeRep.iff_link {s : PS} {g a : Nat} {row : T} : NodeRep w s g a row ↔ LinkRep w s g (.ptr a) row := by
  refine ⟨fun ⟨fp, h⟩ => ⟨false, fp, h⟩, fun ⟨p, fp, h, hnd, hown⟩ => ?_⟩
  obtain ⟨_, _, _, _, _, _, _, hx⟩ := repLink_ptr_some.mp h
  cases hx
  exact ⟨_, h, hnd, hown⟩

def PathRep (w : Nat) (s : PS) (g : Nat) : CPath → Path → Prop
  | [], [] => True
  | (a, i) :: o, (row, j) :: p => i = j ∧ NodeRep w s g a row ∧ PathRep w s g o p
  | _, _ => False

theorem NodeRep.grow {m : Nat} {s s' : PS} {g a : Nat} {row : T} (h : NodeRep w s g a row) (gr : Grow m s s') :
    NodeRep w s' g a row := by
  obtain ⟨fp, h, h2, h3⟩ := h
  exact ⟨fp, gr.rep h, h2, h3.allocOnly gr.alloc⟩

theorem PathRep.nil_inv {s : PS} {g : Nat} {P : Path} (h : PathRep w s g [] P) : P = [] := by
  cases P with
  | nil => rfl
  | cons _ _ => exact h.elim

theorem PathRep.cons_inv {s : PS} {g a i : Nat} {o : CPath} {P : Path} (h : PathRep w s g ((a, i) :: o) P) :
    ∃ row p, P = (row, i) :: p ∧ NodeRep w s g a row ∧ PathRep w s g o p := by
  cases P with
  | nil => exact h.elim
  | cons y p =>
    obtain ⟨row, j⟩ := y
    obtain ⟨rfl, hn, hr⟩ := h
    exact ⟨row, p, rfl, hn, hr⟩

theorem PathRep.imp {s s' : PS} {g g' : Nat} (h : ∀ a row, NodeRep w s g a row → NodeRep w s' g' a row) :
    ∀ {o : CPath} {p : Path}, PathRep w s g o p → PathRep w s' g' o p := by
  intro o
  induction o with
  | nil => intro p hp; cases hp.nil_inv; trivial
  | cons x o ih =>
    intro p hp
    obtain ⟨a, i⟩ := x
    obtain ⟨row, p, rfl, hn, hr⟩ := hp.cons_inv
    exact ⟨rfl, h _ _ hn, ih hr⟩

theorem PathRep.grow {m : Nat} {s s' : PS} {g : Nat} (gr : Grow m s s') {o : CPath} {p : Path}
    (h : PathRep w s g o p) : PathRep w s' g o p :=
  h.imp fun _ _ hn => hn.grow gr

theorem NodeRep.mono {s : PS} {g g2 a : Nat} {row : T} (h : NodeRep w s g a row) (hle : g ≤ g2) :
    NodeRep w s g2 a row := by
  obtain ⟨fp, h, h2, h3⟩ := h
  exact ⟨fp, repLink_mono_le h hle, h2, h3⟩

theorem NodeRep.view {s : PS} {g a : Nat} {row : T} (h : NodeRep w s g a row) :
    ∃ g' nd cs, g = g' + 1 ∧ s.heap[a]? = some nd ∧ ValidN nd ∧
      seqO (nd.links.map (repLink s.heap s.store g')) = some cs ∧
      (∀ c ∈ cs, c.2.2.Nodup ∧ FpOwned s.heap w c.2.2) ∧
      row = mkRow (cs.map fun c => (c.1, c.2.1)) nd.keys nd.vals := by
  obtain ⟨fp, h, hnd, hown⟩ := h
  obtain ⟨g', nd, cs, hg, hnd', hval, hseq, hx⟩ := repLink_ptr_some.mp h
  -- `fp` is the object's own footprint followed by the footprints of the children
  cases hx
  refine ⟨g', nd, cs, hg, hnd', hval, hseq, fun c hc => ⟨?_, fun y hy => hown y ?_⟩, rfl⟩
  · exact List.Nodup.sublist (List.sublist_flatten_of_mem (List.mem_map.mpr ⟨c, hc, rfl⟩))
      (List.nodup_append.mp hnd).2.1
  · exact List.mem_append.mpr (Or.inr (List.mem_flatten.mpr ⟨_, List.mem_map.mpr ⟨c, hc, rfl⟩, hy⟩))

theorem ite_getElem? {α : Type} (xs : List α) (j : Nat) : (if j < xs.length then xs[j]? else none) = xs[j]? := by
  split
  · rfl
  · next h => exact (List.getElem?_eq_none (Nat.le_of_not_lt h)).symm

theorem repLink_row_isNil {h : Heap} {st : List SNode} {f : Nat} {l : HLink} {x : Bool × T × List Nat}
    (hl : l ≠ .nil) (hx : repLink h st f l = some x) : x.2.1.isNil = false := by
  have := repLink_row_ne_nil hx hl
  cases hr : x.2.1 with
  | nil => exact absurd hr this
  | last _ _ => rfl
  | cons _ _ _ _ _ => rfl

theorem tryE_spec {α : Type} {R : PS → PS → Prop} {x : M α} {s : PS} {Q : α → PS → Prop}
    (h : Spec R x s Q) :
    Spec R (tryE x) s (fun r s' => match r with | some a => Q a s' | none => True) := by
  unfold Spec tryE
  unfold Spec at h
  cases hx : x s with
  | ok a s' => rw [hx] at h; exact h
  | err s' => rw [hx] at h; exact ⟨h, trivial⟩
  | panic => trivial
  | stuck => trivial
  | oof => trivial

theorem LinkRep.nil {s : PS} {g : Nat} {row : T} (h : LinkRep w s g .nil row) : row.isNil = true := by
  obtain ⟨p, fp, h, _⟩ := h
  rw [repLink_nil] at h
  injection h with h
  exact congrArg (fun x => x.2.1.isNil) h.symm

theorem LinkRep.isNil {s : PS} {g : Nat} {l : HLink} {row : T} (h : LinkRep w s g l row) (hl : l ≠ .nil) :
    row.isNil = false := by
  obtain ⟨p, fp, h, _⟩ := h
  exact repLink_row_isNil hl h

theorem LinkRep.load {m : Nat} (E : Env) {s : PS} {g : Nat} {l : HLink} {row : T} (hg : Good s)
    (h : LinkRep w s g l row) :
    Spec (Grow m) (tryE (load E l)) s (fun r s' => ∀ b, r = some b → NodeRep w s' g b row) := by
  obtain ⟨p, fp, hc, hnd, hown⟩ := h
  refine (tryE_spec (load_spec (m := m) E l s hg)).conseq ?_
  intro r s' _ hgr hq b hb
  subst hb
  exact ⟨fp, hq.2.2 g _ hc, hnd, hown.allocOnly hgr.alloc⟩

/-- what `read` finds at an object that denotes `row` -/
structure Shows (w : Nat) (s : PS) (g : Nat) (nd : MNode) (row : T) : Prop where
  keys : nd.keys.length = T.rowLen row
  vals : nd.vals.length = T.rowLen row
  links : nd.links.length = T.rowLen row + 1
  entry : ∀ i, T.entryAt row i = (nd.keys[i]?).bind fun k => (nd.vals[i]?).map fun v => (k, v)
  bound : ∀ k, T.lowerBound k row = keyIdx nd.keys k
  child : ∀ i l, nd.links[i]? = some l → LinkRep w s g l (T.linkAt row i)
  absent : ∀ i, nd.links[i]? = none → (T.linkAt row i).isNil = true

theorem NodeRep.shows {s : PS} {g a : Nat} {row : T} {nd : MNode} (h : NodeRep w s g a row)
    (hnd : s.heap[a]? = some nd) : Shows w s g nd row := by
  obtain ⟨g', nd', cs, rfl, hnd', hval, hseq, hcs, rfl⟩ := h.view
  rw [hnd] at hnd'; injection hnd' with hnd'; subst hnd'
  have hlen : (cs.map fun c => (c.1, c.2.1)).length = nd.keys.length + 1 := by
    rw [List.length_map, seqO_map_length hseq]; exact hval.1
  have hrl := rowLen_mkRow nd.keys _ nd.vals hlen hval.2
  refine ⟨hrl.symm, hrl ▸ hval.2, hrl ▸ hval.1, fun i => entryAt_mkRow nd.keys _ nd.vals i hlen hval.2,
    fun k => lowerBound_mkRow nd.keys _ nd.vals k hlen hval.2, ?_, ?_⟩
  · intro i l hl
    obtain ⟨c, hc1, hc2⟩ := seqO_map_getElem? hseq hl
    refine ⟨c.1, c.2.2, ?_, (hcs c (List.mem_of_getElem? hc2)).1, (hcs c (List.mem_of_getElem? hc2)).2⟩
    rw [linkAt_mkRow nd.keys _ nd.vals i hlen hval.2, List.getElem?_map, hc2]
    exact repLink_mono _ _ _ hc1
  · intro i hl
    rw [linkAt_mkRow nd.keys _ nd.vals i hlen hval.2, List.getElem?_map]
    have : cs[i]? = none := by
      rw [List.getElem?_eq_none_iff] at hl ⊢
      rw [seqO_map_length hseq]; exact hl
    rw [this]; rfl

theorem NodeRep.bind_read {R : PS → PS → Prop} [PreR R] {β : Type} {s : PS} {g a : Nat} {row : T}
    {f : MNode → M β} {Q : β → PS → Prop} (h : NodeRep w s g a row)
    (hf : ∀ nd, Shows w s g nd row → Spec R (f nd) s Q) : Spec R (read a >>= f) s Q := by
  refine Spec.bind (Ptr.read_spec a s) ?_
  rintro nd _ _ _ ⟨rfl, hnd⟩
  exact hf nd (h.shows hnd)

theorem Shows.key {s : PS} {g : Nat} {nd : MNode} {row : T} (h : Shows w s g nd row) (i : Nat) :
    (T.entryAt row i).map (·.1) = nd.keys[i]? := by
  rw [h.entry]
  cases hk : nd.keys[i]? with
  | none => rfl
  | some k =>
    have hlt : i < nd.vals.length := by rw [h.vals, ← h.keys]; exact (List.getElem?_eq_some_iff.mp hk).1
    rw [List.getElem?_eq_getElem hlt]; rfl

/-- without an error the path denotes `P'`; with one it denotes a path in `R` -/
def PlacePost (w g : Nat) (P' : Path) (R : Path → Prop) (r : CPath × Bool) (s' : PS) : Prop :=
  (r.2 = false → PathRep w s' g r.1 P') ∧ (r.2 = true → ∃ P'', PathRep w s' g r.1 P'' ∧ R P'')

/-- `PlacePost` without saying which path an error leaves: it still denotes some path -/
def NavPost (w g : Nat) (P' : Path) (r : CPath × Bool) (s' : PS) : Prop :=
  (r.2 = false → PathRep w s' g r.1 P') ∧ (r.2 = true → ∃ P'', PathRep w s' g r.1 P'')

theorem PlacePost.nav {g : Nat} {P' : Path} {R : Path → Prop} {r : CPath × Bool} {s' : PS}
    (h : PlacePost w g P' R r s') : NavPost w g P' r s' :=
  ⟨h.1, fun he => (h.2 he).imp fun _ hp => hp.1⟩

theorem PlacePost.done {g : Nat} {P' : Path} {R : Path → Prop} {o : CPath} {s' : PS} (h : PathRep w s' g o P') :
    PlacePost w g P' R (o, false) s' :=
  ⟨fun _ => h, fun h => nomatch h⟩

theorem PlacePost.failed {g : Nat} {P' P'' : Path} {R : Path → Prop} {o : CPath} {s' : PS}
    (h : PathRep w s' g o P'') (hr : R P'') : PlacePost w g P' R (o, true) s' :=
  ⟨fun h => (nomatch h), fun _ => ⟨P'', h, hr⟩⟩

theorem PlacePost.imp {g : Nat} {P' : Path} {R R' : Path → Prop} {r : CPath × Bool} {s' : PS}
    (h : PlacePost w g P' R r s') (hR : ∀ P'', R P'' → R' P'') : PlacePost w g P' R' r s' :=
  ⟨h.1, fun he => (h.2 he).imp fun _ hp => ⟨hp.1, hR _ hp.2⟩⟩

theorem cMinLoop_spec {m : Nat} (E : Env) (g : Nat) : ∀ (f a i : Nat) (o : CPath) (s : PS) (node : T) (j : Nat) (rest : Path),
    Good s → PathRep w s g ((a, i) :: o) ((node, j) :: rest) →
    Spec (Grow m) (cMinLoop E f a ((a, i) :: o)) s
      (PlacePost w g (Cursor.minFrom f node ((node, j) :: rest)) (Cursor.MinPartial ((node, j) :: rest))) := by
  intro f
  induction f with
  | zero => intro a i o s node j rest _ _; exact Spec.oof
  | succ f ih =>
    intro a i o s node j rest hg hp
    unfold cMinLoop
    refine hp.2.1.bind_read fun nd hv => ?_
    split
    next hl =>
      rw [Cursor.minFrom_stop _ (hv.absent 0 hl)]
      exact Spec.pure (.done hp)
    next hl =>
      rw [Cursor.minFrom_stop _ (hv.child 0 _ hl).nil]
      exact Spec.pure (.done hp)
    next l hne hl =>
      have hc := hv.child 0 l hl
      have hnn := hc.isNil hne
      rw [Cursor.minFrom_down _ hnn]
      refine Spec.bind (hc.load (m := m) E hg) ?_
      intro r s2 _ hgr hq
      cases r with
      | none => exact Spec.pure (.failed (hp.grow hgr) (.here _))
      | some c =>
        have hq := hq c rfl
        refine (ih c 0 _ s2 _ 0 _ (hgr.good hg) ⟨rfl, hq, hp.grow hgr⟩).conseq ?_
        intro r s3 _ _ hr
        exact hr.imp fun _ h => .down _ _ _ _ hnn h

theorem cMin_spec {m : Nat} (E : Env) (g f : Nat) (opath : CPath) (s : PS) (P : Path)
    (hg : Good s) (hp : PathRep w s g opath P) :
    Spec (Grow m) (cMin E f opath) s (PlacePost w g (Cursor.min f P) (Cursor.MinPartial P)) := by
  cases opath with
  | nil => cases hp.nil_inv; exact Spec.pure (.done trivial)
  | cons x o =>
    obtain ⟨a, i⟩ := x
    obtain ⟨row, p, rfl, _, _⟩ := hp.cons_inv
    exact cMinLoop_spec E g f a i o s row i p hg hp

/-- `j`: `Max` has taken the top entry off the path and never looks at its index (`MaxPartial.here`) -/
theorem cMaxLoop_spec {m : Nat} (E : Env) (g : Nat) : ∀ (f a : Nat) (o : CPath) (s : PS) (node : T) (j : Nat) (P : Path),
    Good s → NodeRep w s g a node → PathRep w s g o P →
    Spec (Grow m) (cMaxLoop E f a o) s (PlacePost w g (Cursor.maxFrom f node P) (Cursor.MaxPartial ((node, j) :: P))) := by
  intro f
  induction f with
  | zero => intro a o s node j P _ _ _; exact Spec.oof
  | succ f ih =>
    intro a o s node j P hg hn hp
    unfold cMaxLoop
    refine hn.bind_read fun nd hv => ?_
    rw [if_neg (by rw [hv.links]; exact Nat.succ_ne_zero _), hv.links, Nat.add_sub_cancel, hv.vals]
    split
    next hl =>
      rw [Cursor.maxFrom_stop _ (hv.absent _ hl)]
      exact Spec.pure (.done ⟨rfl, hn, hp⟩)
    next hl =>
      rw [Cursor.maxFrom_stop _ (hv.child _ _ hl).nil]
      exact Spec.pure (.done ⟨rfl, hn, hp⟩)
    next l hne hl =>
      have hc := hv.child _ l hl
      have hnn := hc.isNil hne
      rw [Cursor.maxFrom_down _ hnn]
      refine Spec.bind (hc.load (m := m) E hg) ?_
      intro r s2 _ hgr hq
      have hp2 : PathRep w s2 g ((a, T.rowLen node) :: o) ((node, T.rowLen node) :: P) :=
        ⟨rfl, hn.grow hgr, hp.grow hgr⟩
      cases r with
      | none => exact Spec.pure (.failed hp2 (.here _ _ _ _))
      | some c =>
        refine (ih c _ s2 _ 0 _ (hgr.good hg) (hq c rfl) hp2).conseq ?_
        intro r s3 _ _ hr
        exact hr.imp fun _ h => .down _ _ _ _ hnn h

theorem cMax_spec {m : Nat} (E : Env) (g f : Nat) (opath : CPath) (s : PS) (P : Path)
    (hg : Good s) (hp : PathRep w s g opath P) :
    Spec (Grow m) (cMax E f opath) s (PlacePost w g (Cursor.max f P) (Cursor.MaxPartial P)) := by
  cases opath with
  | nil => cases hp.nil_inv; exact Spec.pure (.done trivial)
  | cons x o =>
    obtain ⟨a, i⟩ := x
    obtain ⟨row, p, rfl, hn, hrest⟩ := hp.cons_inv
    exact cMaxLoop_spec E g f a o s row i p hg hn hrest

theorem cGet_spec {m : Nat} (g : Nat) (opath : CPath) (s : PS) (P : Path) (hp : PathRep w s g opath P) :
    Spec (Grow m) (cGet opath) s (fun r s' => s' = s ∧ r = Cursor.get P) := by
  cases opath with
  | nil => cases hp.nil_inv; exact Spec.pure ⟨rfl, rfl⟩
  | cons x o =>
    obtain ⟨a, i⟩ := x
    obtain ⟨row, p, rfl, hn, _⟩ := hp.cons_inv
    unfold cGet
    refine hn.bind_read fun nd hv => ?_
    rw [Cursor.get, hv.entry]
    by_cases hi : nd.keys.length ≤ i
    · rw [if_pos hi, List.getElem?_eq_none_iff.mpr hi]
      exact Spec.pure ⟨rfl, rfl⟩
    · have hi' : i < nd.keys.length := Nat.lt_of_not_le hi
      have hv' : i < nd.vals.length := by rw [hv.vals, ← hv.keys]; exact hi'
      rw [if_neg hi, List.getElem?_eq_getElem hi', List.getElem?_eq_getElem hv']
      exact Spec.pure ⟨rfl, rfl⟩

/-- post-condition of `Forward` / `Backward`: as `NavPost`, and a failed call leaves the cursor
    where it was -/
def MovePost (w g : Nat) (opath : CPath) (P' : Path) (r : CPath × Bool) (s' : PS) : Prop :=
  (r.2 = false → PathRep w s' g r.1 P') ∧ (r.2 = true → r.1 = opath)

theorem MovePost.done {g : Nat} {opath o' : CPath} {P' : Path} {s' : PS} (h : PathRep w s' g o' P') :
    MovePost w g opath P' (o', false) s' :=
  ⟨fun _ => h, fun h => nomatch h⟩

theorem MovePost.stay {g : Nat} {opath : CPath} {P' : Path} {s' : PS} : MovePost w g opath P' (opath, true) s' :=
  ⟨fun h => (nomatch h), fun _ => rfl⟩

theorem restore_spec {m g : Nat} {x : M (CPath × Bool)} {s : PS} {opath : CPath} {P' : Path} {R : Path → Prop}
    (h : Spec (Grow m) x s (PlacePost w g P' R)) :
    Spec (Grow m) (do let r ← x; if r.2 then pure (opath, true) else pure r) s (MovePost w g opath P') := by
  refine Spec.bind h ?_
  intro r s1 _ _ hq
  by_cases hr : r.2 = true
  · rw [if_pos hr]; exact Spec.pure .stay
  · rw [if_neg hr]; exact Spec.pure ⟨fun h => hq.1 h, fun h => absurd h hr⟩

/-- `x`: the entry `Forward` has popped before the loop -/
theorem cPopFwd_spec {m : Nat} (g : Nat) : ∀ (opath : CPath) (s : PS) (P : Path) (x : T × Nat), PathRep w s g opath P →
    Spec (Grow m) (cPopFwd opath) s (fun r s' => s' = s ∧ PathRep w s g r (Cursor.popFwd (x :: P))) := by
  intro opath
  induction opath with
  | nil =>
    intro s P x hp
    cases hp.nil_inv
    exact Spec.pure ⟨rfl, trivial⟩
  | cons y o ih =>
    intro s P x hp
    obtain ⟨a, i⟩ := y
    obtain ⟨row, p, rfl, hn, hrest⟩ := hp.cons_inv
    unfold cPopFwd
    refine hn.bind_read fun nd hv => ?_
    rw [hv.keys, Cursor.popFwd]
    by_cases hi : i < T.rowLen row
    · rw [if_pos hi, if_pos hi]
      exact Spec.pure ⟨rfl, hp⟩
    · rw [if_neg hi, if_neg hi]
      exact ih s p (row, i) hrest

theorem cForward_spec {m : Nat} (E : Env) (g f : Nat) (opath : CPath) (s : PS) (P : Path)
    (hg : Good s) (hp : PathRep w s g opath P) :
    Spec (Grow m) (cForward E f opath) s (MovePost w g opath (Cursor.forward f P)) := by
  cases opath with
  | nil => cases hp.nil_inv; exact Spec.pure (.done trivial)
  | cons x o =>
    obtain ⟨a, i⟩ := x
    obtain ⟨row, p, rfl, hn, hrest⟩ := hp.cons_inv
    unfold cForward
    refine hn.bind_read fun nd hv => ?_
    rw [ite_getElem?]
    have hdown : ∀ l, nd.links[i + 1]? = some l → l ≠ .nil → Spec (Grow m) (do
          match ← tryE (load E l) with
          | none => pure (((a, i) :: o : CPath), true)
          | some c =>
            let r ← cMinLoop E f c ((c, 0) :: (a, i + 1) :: o)
            if r.2 then pure ((a, i) :: o, true) else pure r) s
        (MovePost w g ((a, i) :: o) (Cursor.forward f ((row, i) :: p))) := by
      intro l hl hne
      have hc := hv.child _ l hl
      rw [Cursor.forward_down (hc.isNil hne)]
      refine Spec.bind (hc.load (m := m) E hg) ?_
      intro r s2 _ hgr hq
      cases r with
      | none => exact Spec.pure .stay
      | some c =>
        exact restore_spec (cMinLoop_spec E g f c 0 _ s2 _ 0 _ (hgr.good hg)
          ⟨rfl, hq c rfl, rfl, hn.grow hgr, hrest.grow hgr⟩)
    split
    next b hl => exact hdown _ hl (by simp)
    next n hl => exact hdown _ hl (by simp)
    next h1 h2 =>
      have hnil : (T.linkAt row (i + 1)).isNil = true := by
        cases hl : nd.links[i + 1]? with
        | none => exact hv.absent _ hl
        | some l =>
          cases l with
          | nil => exact (hv.child _ _ hl).nil
          | ptr b => exact absurd hl (h1 b)
          | ref n => exact absurd hl (h2 n)
      rw [Cursor.forward_flat hnil, hv.keys]
      by_cases hk : i + 1 < T.rowLen row
      · rw [if_pos hk, if_pos hk]
        exact Spec.pure (.done ⟨rfl, hn, hrest⟩)
      · rw [if_neg hk, if_neg hk]
        refine Spec.bind (cPopFwd_spec (m := m) g o s p (row, i) hrest) ?_
        rintro r s2 _ _ ⟨rfl, hr⟩
        exact Spec.pure (.done hr)

theorem cPopBwd_rep {s : PS} {g : Nat} : ∀ (o : CPath) (p : Path) (x : T × Nat), PathRep w s g o p →
    PathRep w s g (cPopBwd o) (Cursor.popBwd (x :: p)) := by
  intro o
  induction o with
  | nil =>
    intro p x hp
    cases hp.nil_inv
    trivial
  | cons y o ih =>
    intro p x hp
    obtain ⟨a, i⟩ := y
    obtain ⟨row, p, rfl, hn, hrest⟩ := hp.cons_inv
    rw [cPopBwd, Cursor.popBwd]
    by_cases hi : i > 0
    · rw [if_pos hi, if_pos hi]; exact ⟨rfl, hn, hrest⟩
    · rw [if_neg hi, if_neg hi]; exact ih p (row, i) hrest

theorem cBackward_spec {m : Nat} (E : Env) (g f : Nat) (opath : CPath) (s : PS) (P : Path)
    (hg : Good s) (hp : PathRep w s g opath P) :
    Spec (Grow m) (cBackward E f opath) s (MovePost w g opath (Cursor.backward f P)) := by
  cases opath with
  | nil => cases hp.nil_inv; exact Spec.pure (.done trivial)
  | cons x o =>
    obtain ⟨a, i⟩ := x
    obtain ⟨row, p, rfl, hn, hrest⟩ := hp.cons_inv
    unfold cBackward
    refine hn.bind_read fun nd hv => ?_
    split
    next => exact Spec.panic
    next hl =>
      rw [Cursor.backward_flat (hv.child _ _ hl).nil]
      by_cases hi : i > 0
      · rw [if_pos hi, if_pos hi]
        exact Spec.pure (.done ⟨rfl, hn, hrest⟩)
      · rw [if_neg hi, if_neg hi]
        exact Spec.pure (.done (cPopBwd_rep o p (row, i) hrest))
    next l hne hl =>
      have hc := hv.child _ l hl
      rw [Cursor.backward_down (hc.isNil hne)]
      refine Spec.bind (hc.load (m := m) E hg) ?_
      intro r s2 _ hgr hq
      cases r with
      | none => exact Spec.pure .stay
      | some c => exact restore_spec (cMaxLoop_spec E g f c _ s2 _ 0 _ (hgr.good hg) (hq c rfl) (hp.grow hgr))

theorem cPopCeil_spec {m : Nat} (g : Nat) : ∀ (opath : CPath) (s : PS) (P : Path), PathRep w s g opath P →
    Spec (Grow m) (cPopCeil opath) s (fun r s' => s' = s ∧ PathRep w s g r (Cursor.popCeil P)) := by
  intro opath
  induction opath with
  | nil =>
    intro s P hp
    cases hp.nil_inv
    exact Spec.pure ⟨rfl, trivial⟩
  | cons x o ih =>
    intro s P hp
    obtain ⟨a, i⟩ := x
    obtain ⟨row, p, rfl, hn, hrest⟩ := hp.cons_inv
    unfold cPopCeil
    refine hn.bind_read fun nd hv => ?_
    rw [hv.keys, Cursor.popCeil]
    by_cases hi : i = T.rowLen row
    · rw [if_pos hi, if_pos hi]
      exact ih s p hrest
    · rw [if_neg hi, if_neg hi]
      exact Spec.pure ⟨rfl, hp⟩

theorem cCeil_spec {m : Nat} (E : Env) (g k : Nat) : ∀ (f : Nat) (opath : CPath) (s : PS) (P : Path),
    Good s → PathRep w s g opath P →
    Spec (Grow m) (cCeil E k f opath) s (PlacePost w g (Cursor.ceil k f P) (Cursor.CeilPartial k P)) := by
  intro f
  induction f with
  | zero => intro opath s P _ _; exact Spec.oof
  | succ f ih =>
    intro opath s P hg hp
    cases opath with
    | nil => cases hp.nil_inv; exact Spec.pure (.done trivial)
    | cons x o =>
      obtain ⟨a, i0⟩ := x
      obtain ⟨row, p, rfl, hn, hrest⟩ := hp.cons_inv
      simp only [cCeil]
      refine hn.bind_read fun nd hv => ?_
      have hp1 : PathRep w s g ((a, keyIdx nd.keys k) :: o) ((row, keyIdx nd.keys k) :: p) := ⟨rfl, hn, hrest⟩
      by_cases hk : nd.keys[keyIdx nd.keys k]? = some k
      · rw [if_pos hk, Cursor.ceil_found (by rw [hv.key, hv.bound]; exact hk), hv.bound]
        exact Spec.pure (.done hp1)
      · rw [if_neg hk]
        split
        next => exact Spec.panic
        next hl =>
          have hd : Cursor.ceilDown k row = none := by
            rw [Cursor.ceilDown_eq, hv.key, hv.bound, if_neg hk, if_pos (hv.child _ _ hl).nil]
          rw [Cursor.ceil_stop hd, hv.bound]
          refine Spec.bind (cPopCeil_spec (m := m) g _ s _ hp1) ?_
          rintro r s2 _ _ ⟨rfl, hr⟩
          exact Spec.pure (.done hr)
        next l hne hl =>
          have hc := hv.child _ l hl
          have hd : Cursor.ceilDown k row = some (T.linkAt row (keyIdx nd.keys k), keyIdx nd.keys k) := by
            rw [Cursor.ceilDown_eq, hv.key, hv.bound, if_neg hk, hc.isNil hne, if_neg Bool.false_ne_true]
          rw [Cursor.ceil_down hd]
          refine Spec.bind (hc.load (m := m) E hg) ?_
          intro r s2 _ hgr hq
          cases r with
          | none => exact Spec.pure (.failed (hp1.grow hgr) (.here _ _ _ _))
          | some c =>
            refine (ih ((c, 0) :: (a, keyIdx nd.keys k) :: o) s2 ((T.linkAt row (keyIdx nd.keys k), 0) :: (row, keyIdx nd.keys k) :: p)
              (hgr.good hg) ⟨rfl, hq c rfl, hp1.grow hgr⟩).conseq ?_
            intro r s3 _ _ hr
            exact hr.imp fun _ h => .down _ _ _ _ _ _ hd h

/-- `CPlace` / `CMove` (Model/PtrCursor.lean) and `Cursor.Place` / `Cursor.Move` are the same
    enumerations, one on either side of the refinement -/
def toPlace : CPlace → Cursor.Place
  | .min => .min | .max => .max | .ceil k => .ceil k

def toMove : CMove → Cursor.Move
  | .fwd => .fwd | .bwd => .bwd

def placeFrom (f : Nat) (P : Path) : CPlace → Path
  | .min => Cursor.min f P
  | .max => Cursor.max f P
  | .ceil k => Cursor.ceil k f P

/-- the paths a failing placement from `P` can leave -/
def placePartial (P : Path) : CPlace → Path → Prop
  | .min => Cursor.MinPartial P
  | .max => Cursor.MaxPartial P
  | .ceil k => Cursor.CeilPartial k P

/-- the model's loop fuel `f` covers the descent of the placement from `P` -/
def PlaceDone (f : Nat) (P : Path) : CPlace → Prop
  | .min => Cursor.MinDoneP f P
  | .max => match P with
      | [] => True
      | (row, _) :: _ => Cursor.MaxDone f row
  | .ceil k => Cursor.CeilDone k f P

theorem cPlace_resumable {m : Nat} (E : Env) (g f : Nat) (opath : CPath) (s : PS) (P : Path) (pl : CPlace)
    (hg : Good s) (hp : PathRep w s g opath P) :
    Spec (Grow m) (cPlace E f opath pl) s (PlacePost w g (placeFrom f P pl) (placePartial P pl)) := by
  cases pl with
  | min => exact cMin_spec E g f opath s P hg hp
  | max => exact cMax_spec E g f opath s P hg hp
  | ceil k => exact cCeil_spec E g k f opath s P hg hp

theorem placeFrom_resume {f : Nat} {P P2 : Path} {pl : CPlace} (h : placePartial P pl P2) (hfuel : PlaceDone f P pl) :
    placeFrom f P2 pl = placeFrom f P pl := by
  cases pl with
  | min => exact Cursor.min_resume h hfuel
  -- `PlaceDone … .max` is `Cursor.MaxDoneP` spelt out
  | max => exact Cursor.max_resume h (by cases h <;> exact hfuel)
  | ceil k => exact Cursor.ceil_resume h hfuel

theorem cPlace_spec {m : Nat} (E : Env) (g f : Nat) (opath : CPath) (s : PS) (root : T) (pl : CPlace)
    (hg : Good s) (hp : PathRep w s g opath [(root, 0)]) :
    Spec (Grow m) (cPlace E f opath pl) s (NavPost w g (Cursor.place f root (toPlace pl))) :=
  (cPlace_resumable E g f opath s [(root, 0)] pl hg hp).conseq fun _ _ _ _ h => by cases pl <;> exact h.nav

/-- the empty path is what the cursor of a tree without a root node holds -/
theorem cPlace_nil_spec {m : Nat} (E : Env) (g f : Nat) (s : PS) (pl : CPlace) :
    Spec (Grow m) (cPlace E f [] pl) s (NavPost w g []) := by
  cases pl with
  | min => exact Spec.pure ⟨fun _ => trivial, fun h => nomatch h⟩
  | max => exact Spec.pure ⟨fun _ => trivial, fun h => nomatch h⟩
  | ceil k =>
    cases f with
    | zero => exact Spec.oof
    | succ f => exact Spec.pure ⟨fun _ => trivial, fun h => nomatch h⟩

theorem cStep_spec {m : Nat} (E : Env) (g f : Nat) (opath : CPath) (s : PS) (P : Path) (mv : CMove)
    (hg : Good s) (hp : PathRep w s g opath P) :
    Spec (Grow m) (cStep E f opath mv) s (MovePost w g opath (Cursor.stepPath f P (toMove mv))) := by
  cases mv with
  | fwd => exact cForward_spec E g f opath s P hg hp
  | bwd => exact cBackward_spec E g f opath s P hg hp

theorem cWalk_spec {m : Nat} (E : Env) (g f : Nat) : ∀ (ms : List CMove) (opath : CPath) (s : PS) (P : Path),
    Good s → PathRep w s g opath P →
    Spec (Grow m) (cWalk E f ms opath) s
      (fun r s' => r.2 = false → PathRep w s' g r.1 ((ms.map toMove).foldl (Cursor.stepPath f) P)) := by
  intro ms
  induction ms with
  | nil => intro opath s P _ hp; exact Spec.pure (fun _ => hp)
  | cons mv ms ih =>
    intro opath s P hg hp
    unfold cWalk
    refine Spec.bind (cStep_spec (m := m) E g f opath s P mv hg hp) ?_
    intro r s1 _ hgr hq
    cases hr : r.2 with
    | true => simp only [if_true]; exact Spec.pure (fun h => by rw [hr] at h; cases h)
    | false =>
      simp only [Bool.false_eq_true, if_false, List.map_cons, List.foldl_cons]
      exact ih r.1 s1 _ (hgr.good hg) (hq.1 hr)

theorem cursorNew_spec (E : Env) (t : PTree) (newId fuel g : Nat) (s : PS) (x : Bool × T × List Nat) (hg : Good s)
    (hx : repLink s.heap s.store g t.root = some x) :
    Spec (Grow newId) (cursorNew E t newId fuel) s (fun r s' =>
      (t.root = .nil → r.2 = []) ∧ (t.root ≠ .nil → PathRep newId s' g r.2 [(x.2.1, 0)])) := by
  unfold cursorNew
  refine Spec.bind (clone_spec E t newId fuel g s x hg hx) ?_
  rintro t' s1 _ hgr ⟨_, x', hx', _, hrow, hnd, _, hown, _⟩
  by_cases hr : t'.root = .nil
  · rw [if_pos hr]
    refine Spec.pure ⟨fun _ => rfl, fun hne => ?_⟩
    -- the clone of a tree with a root node has a root node
    rw [hr, repLink_nil] at hx'
    injection hx' with hx'; subst hx'
    exact absurd hrow.symm (repLink_row_ne_nil hx hne)
  · rw [if_neg hr]
    refine Spec.bind (load_spec (m := newId) E t'.root s1 (hgr.good hg)) ?_
    rintro a s2 _ hgr2 ⟨_, _, hld⟩
    refine Spec.pure ⟨fun hnil => ?_, fun _ => ⟨rfl, ⟨x'.2.2, hrow ▸ hld g x' hx', hnd, hown.allocOnly hgr2.alloc⟩, trivial⟩⟩
    rw [hnil, repLink_nil] at hx
    injection hx with hx; subst hx
    exact absurd hrow (repLink_row_ne_nil hx' hr)

/-- `P0`: the placement on the root row, or the empty path of a tree without a root node -/
theorem cNavigate_spec (E : Env) (t : PTree) (newId fuel f g : Nat) (pl : CPlace) (ms : List CMove) (s : PS)
    (x : Bool × T × List Nat) (hg : Good s) (hx : repLink s.heap s.store g t.root = some x) :
    Spec (Grow newId) (cNavigate E t newId fuel f pl ms) s (fun r _ => ∀ e, r = some e →
      ∃ P0, e = Cursor.get ((ms.map toMove).foldl (Cursor.stepPath f) P0) ∧
        (t.root ≠ .nil → P0 = Cursor.place f x.2.1 (toPlace pl)) ∧ (t.root = .nil → P0 = [])) := by
  unfold cNavigate
  refine Spec.bind (cursorNew_spec E t newId fuel g s x hg hx) ?_
  rintro ⟨t', path⟩ s1 _ hgr1 ⟨hnil, hnn⟩
  have hg1 := hgr1.good hg
  obtain ⟨P1, hpl, h1, h2⟩ : ∃ P1, Spec (Grow newId) (cPlace E f path pl) s1 (NavPost newId g P1) ∧
      (t.root ≠ .nil → P1 = Cursor.place f x.2.1 (toPlace pl)) ∧ (t.root = .nil → P1 = []) := by
    by_cases hr : t.root = .nil
    · exact ⟨[], by rw [show path = [] from hnil hr]; exact cPlace_nil_spec E g f s1 pl, fun h => absurd hr h, fun _ => rfl⟩
    · exact ⟨_, cPlace_spec E g f path s1 x.2.1 pl hg1 (hnn hr), fun _ => rfl, fun h => absurd h hr⟩
  refine Spec.bind hpl ?_
  intro r s2 _ hgr2 hq
  by_cases hr2 : r.2 = true
  · rw [if_pos hr2]; exact Spec.pure (fun e h => nomatch h)
  · rw [if_neg hr2]
    refine Spec.bind (cWalk_spec (m := newId) E g f ms r.1 s2 P1 (hgr2.good hg1) (hq.1 (Bool.eq_false_iff.mpr hr2))) ?_
    intro r3 s3 _ _ hq3
    by_cases hr3 : r3.2 = true
    · rw [if_pos hr3]; exact Spec.pure (fun e h => nomatch h)
    · rw [if_neg hr3]
      refine Spec.bind (cGet_spec (m := newId) g r3.1 s3 _ (hq3 (Bool.eq_false_iff.mpr hr3))) ?_
      rintro e s4 _ _ ⟨rfl, he⟩
      refine Spec.pure ?_
      intro e' he'
      injection he' with he'; subst he'
      exact ⟨P1, he, h1, h2⟩

/-- `unmk`: a tree without a root node denotes a tree with an empty top node -/
theorem repTree_root {s : PS} {g : Nat} {t : PTree} {A : Tree} (hA : repTree s g t = some A) :
    ∃ x, repLink s.heap s.store g t.root = some x ∧ x.2.2.Nodup ∧ A.root = T.unmk x.2.1 := by
  obtain ⟨x, hx, hnd, hAeq⟩ := repTree_eq_some.mp hA
  exact ⟨x, hx, hnd, by rw [hAeq]; rfl⟩

/-! ## a cursor is a capture: steps performed for other trees do not touch what its path denotes -/

/-- a step performed for tree `m` (an Insert, Delete, MakeRoot, Clone, load … of another tree:
    `WStep`) leaves an object owned by the cursor denoting the same row, footprint still owned -/
theorem NodeRep.other_step {m : Nat} {s s' : PS} (hst : WStep m s s') (hne : w ≠ m) {g a : Nat} {row : T}
    (h : NodeRep w s g a row) : NodeRep w s' g a row := by
  obtain ⟨fp, hx, hnd, hown⟩ := h
  obtain ⟨ext, hext⟩ := hst.store
  have hx' : repLink s'.heap s'.store g (.ptr a) = some (false, row, fp) := by
    rw [hext]
    refine repLink_frame (h := s.heap) (h' := s'.heap) (st := s.store) ext
      (fun a => ∃ nd, s.heap[a]? = some nd ∧ nd.shared = false ∧ nd.owner = m) ?_ ?_ g _ _ hx ?_
    · intro a nd hnd hnw
      obtain ⟨nd', hnd', _, _, heq⟩ := hst.keep a nd hnd
      have : nd.shared = true ∨ nd.owner ≠ m := by
        cases hs : nd.shared with
        | true => exact Or.inl rfl
        | false => exact Or.inr (fun ho => hnw ⟨nd, hnd, hs, ho⟩)
      rw [heq this] at hnd'; exact hnd'
    · rintro a nd hnd ⟨nd', hnd', hs, _⟩
      rw [hnd] at hnd'; injection hnd' with hnd'; subst hnd'; exact hs
    · rintro y hy ⟨nd, hnd, _, ho⟩
      obtain ⟨nd', hnd', ho'⟩ := hown y hy
      rw [hnd] at hnd'; injection hnd' with hnd'; subst hnd'
      exact hne (ho'.symm.trans ho)
  refine ⟨fp, hx', hnd, ?_⟩
  intro y hy
  obtain ⟨nd0, hnd0, ho⟩ := hown y hy
  obtain ⟨nd', hnd', _, _, heq⟩ := hst.keep y nd0 hnd0
  rw [heq (Or.inr (by rw [ho]; exact hne))] at hnd'
  exact ⟨nd0, hnd', ho⟩

theorem PathRep.other_step {m : Nat} {s s' : PS} {g : Nat} (hst : WStep m s s') (hne : w ≠ m) :
    ∀ {o : CPath} {p : Path}, PathRep w s g o p → PathRep w s' g o p :=
  fun h => h.imp fun _ _ hn => hn.other_step hst hne

end Mast.Ptr
