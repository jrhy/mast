import Mastverif.Model.Cursor
import Mastverif.Lemmas.RefRows
/-! Rows built by `mkRow` seen through the accessors of `Model/Cursor.lean`. -/
namespace Mast.Ptr
open Mast.Heap Mast

theorem rowLen_mkRow (ks : List Nat) (cs : List (Bool × T)) (vs : List Nat)
    (hl : cs.length = ks.length + 1) (hv : vs.length = ks.length) : T.rowLen (mkRow cs ks vs) = ks.length := by
  refine row_induction (motive := fun cs ks vs => T.rowLen (mkRow cs ks vs) = ks.length) ?_ ?_ ks cs vs hl hv
  · intro c; rfl
  · intro c x ls k ks v vs ih
    rw [mkRow_cons, T.rowLen, ih]; rfl

theorem linkAt_mkRow (ks : List Nat) (cs : List (Bool × T)) (vs : List Nat) (i : Nat)
    (hl : cs.length = ks.length + 1) (hv : vs.length = ks.length) :
    T.linkAt (mkRow cs ks vs) i = (cs[i]?.map (·.2)).getD T.nil := by
  refine row_induction (motive := fun cs ks vs => ∀ i, T.linkAt (mkRow cs ks vs) i = (cs[i]?.map (·.2)).getD T.nil)
    ?_ ?_ ks cs vs hl hv i
  · intro c i
    cases i <;> rfl
  · intro c x ls k ks v vs ih i
    rw [mkRow_cons]
    cases i with
    | zero => rfl
    | succ i => exact ih i

theorem entryAt_mkRow (ks : List Nat) (cs : List (Bool × T)) (vs : List Nat) (i : Nat)
    (hl : cs.length = ks.length + 1) (hv : vs.length = ks.length) :
    T.entryAt (mkRow cs ks vs) i = (ks[i]?).bind fun k => (vs[i]?).map fun v => (k, v) := by
  refine row_induction
    (motive := fun cs ks vs => ∀ i, T.entryAt (mkRow cs ks vs) i = (ks[i]?).bind fun k => (vs[i]?).map fun v => (k, v))
    ?_ ?_ ks cs vs hl hv i
  · intro c i; rfl
  · intro c x ls k ks v vs ih i
    rw [mkRow_cons]
    cases i with
    | zero => rfl
    | succ i => exact ih i

theorem lowerBound_mkRow (ks : List Nat) (cs : List (Bool × T)) (vs : List Nat) (k : Nat)
    (hl : cs.length = ks.length + 1) (hv : vs.length = ks.length) :
    T.lowerBound k (mkRow cs ks vs) = keyIdx ks k := by
  refine row_induction (motive := fun cs ks vs => T.lowerBound k (mkRow cs ks vs) = keyIdx ks k) ?_ ?_ ks cs vs hl hv
  · intro c; rfl
  · intro c x ls k' ks v vs ih
    rw [mkRow_cons, T.lowerBound, keyIdx, ih]

end Mast.Ptr
