import Mastverif.Lemmas.RefDelPlan
import Mastverif.Lemmas.RefCommit
/-! `deleteCommit` (the in-place write of `deleteEntry`, then `savePathForRoot` with pruning) refines `T.del`. -/
namespace Mast.Ptr
open Mast.Heap

def DelCommitOK (key n0 : Nat) (x : Bool × T × List Nat) (lv : Nat) (root : HLink) (s' : PS) : Prop :=
  ∃ a0 g' y, root = .ptr a0 ∧ repLink s'.heap s'.store g' (.ptr a0) = some y ∧
    T.del key lv x.2.1 = some y.2.1 ∧ FpExt n0 x.2.2 y.2.2 ∧ rootDirty s'.heap root = true

theorem length_eraseIdx_lt {α : Type} (l : List α) {i : Nat} (h : i < l.length) :
    (l.eraseIdx i).length = l.length - 1 := by
  rw [List.length_eraseIdx, if_pos h]

theorem linkAt_map_pr {cs : List (Bool × T × List Nat)} {i : Nat} {c : Bool × T × List Nat} (h : cs[i]? = some c) :
    linkAt (cs.map pr) i = pr c := by
  simp [linkAt, h]

theorem deleteCommit_spec (t : PTree) (p : DelPlan) (key val : Nat) (s0 s1 : PS) (x : Bool × T × List Nat)
    (height target : Nat) (hg1 : Good s1) (hst01 : Step t.id s0 s1) (hown0 : FpOwned s0.heap t.id x.2.2)
    (hplan : DelPlanRef key val s0.heap.length x height target p s1.heap s1.store) :
    Spec (Step t.id) (deleteCommit t p) s1
      (fun root s2 => DelCommitOK key s0.heap.length x (height - target) root s2) := by
  obtain ⟨_, frs, gb, csb, nd, n2, cl, cr, hP⟩ := hplan
  obtain ⟨gm, xm, hxm, hxmrow, hfm⟩ := hP.merged
  have hB := hP.bottom
  have hkey := hP.key
  have hcl2 := hP.left
  have hcr2 := hP.right
  have hv := hB.valid
  have hkids := hB.kids
  have hilt : p.found.idx < nd.keys.length := (List.getElem?_eq_some_iff.mp hkey).1
  have hfps : FpExt n2 (fps csb) (fps (csb.take p.found.idx ++ xm :: csb.drop (p.found.idx + 2))) := by
    have hnb := hB.kids_nodup
    have hltk : ∀ y ∈ fps csb, y < n2 := fun y hy => hB.lt y (mem_plug_bottom hy)
    rw [fps_split_two hcl2 hcr2] at hnb hltk ⊢
    rw [fps_append, fps_cons, ← List.append_assoc _ xm.2.2]
    exact FpExt.ctx _ _ hnb (fun y hy => hltk y (List.mem_append_left _ (List.mem_append_left _ hy)))
      (fun y hy => hltk y (List.mem_append_right _ hy)) hfm
  have hlinks : nd.links.length = nd.keys.length + 1 := hv.1
  unfold deleteCommit
  refine (commit_spec (m := t.id) (G := max gb gm)
    (fun nd' => { nd' with
      source := none, keys := nd'.keys.eraseIdx p.found.idx, vals := nd'.vals.eraseIdx p.found.idx,
      links := (nd'.links.eraseIdx p.found.idx).set p.found.idx p.merged })
    hB (K := nd.keys.eraseIdx p.found.idx) (V := nd.vals.eraseIdx p.found.idx)
    (L := nd.links.take p.found.idx ++ p.merged :: nd.links.drop (p.found.idx + 2))
    (fun nd' ek ev el es => ⟨es, congrArg (·.eraseIdx p.found.idx) ek, congrArg (·.eraseIdx p.found.idx) ev, by
      show (nd'.links.eraseIdx p.found.idx).set p.found.idx p.merged = _
      rw [el, eraseIdx_set _ _ _ (by rw [hlinks]; exact Nat.succ_lt_succ hilt)]⟩)
    ?_ ?_ hfps hg1 hst01 hown0).conseq ?_
  · refine seqO_map_append.mpr ⟨_, _, ?_, ?_, rfl⟩
    · exact seqO_map_congr (seqO_map_take hkids _) (fun l _ c hc => repLink_mono_le hc (Nat.le_max_left _ _))
    · refine seqO_map_cons.mpr ⟨xm, _, repLink_mono_le hxm (Nat.le_max_right _ _), ?_, rfl⟩
      exact seqO_map_congr (seqO_map_drop hkids _) (fun l _ c hc => repLink_mono_le hc (Nat.le_max_left _ _))
  · rw [← eraseIdx_set nd.links p.found.idx p.merged (by rw [hlinks]; exact Nat.succ_lt_succ hilt), List.length_set,
      length_eraseIdx_lt nd.keys hilt, length_eraseIdx_lt nd.vals (by rw [hv.2]; exact hilt),
      length_eraseIdx_lt nd.links (by rw [hlinks]; exact Nat.lt_succ_of_lt hilt), hlinks, hv.2]
    exact ⟨(Nat.sub_add_cancel (Nat.lt_of_le_of_lt (Nat.zero_le _) hilt)).symm, rfl⟩
  · rintro root s' _ _ ⟨a0, g', y, rfl, hy, hyrow, hyfp, hdirty⟩
    refine ⟨a0, g', y, rfl, hy, ?_, hyfp, hdirty⟩
    rw [← del_unmk, hB.del, hyrow]
    show (T.del key 0 (mkRow (csb.map pr) nd.keys nd.vals)).map (plugDel frs) = _
    rw [del_mkRow_zero nd.keys (csb.map pr) nd.vals key hB.kidsLen hv.2, ← hB.idx, if_pos hkey, linkAt_map_pr hcl2,
      linkAt_map_pr hcr2]
    have hpx : pr xm = mergeLink (pr cl) (pr cr) := hxmrow
    simp only [Option.map_some, List.map_append, List.map_cons, List.map_take, List.map_drop, hpx]

end Mast.Ptr
