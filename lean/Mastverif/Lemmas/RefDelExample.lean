import Mastverif.Lemmas.RefDelTop
import Mastverif.Lemmas.RefExample
/-!
Non-vacuity for `delete_refines`, and the kernel-checked witnesses of the places where the object-level
`Ptr.delete` and the functional `Tree.delete` differ (all by `decide +kernel`).

The system is `rxSys` of `RefExample.lean` (cache on; load, inserts with growth, flush, reload of the persisted root
into a second tree through the cache, inserts on both trees).  Tree 1 has height 1, top entries 4 and 8, the child
`[3]` still a *name* (persisted), the child `[5, 6]` an in-memory node.
-/
namespace Mast.Ptr
open Mast.Heap

/-- one `Delete` on tree `i` agrees with `Tree.delete` on the denoted tree: outcome `ok`, and the new object graph
    denotes exactly the functional result -/
def delAgrees (E : Env) (σ : Sys) (i k v : Nat) : Bool :=
  match σ.trees[i]? with
  | none => false
  | some t =>
    let r := delete E 10 σ.ps t k v
    match repTree σ.ps 10 t with
    | none => false
    | some A =>
      match Tree.delete E.layer A k v with
      | .ok A' => decide (repTree r.1 10 r.2.1 = some A') && decide (r.2.2 = .ok)
      | _ => false

def heightOf (σ : Sys) (i : Nat) : Option Nat := σ.trees[i]?.map (·.height)

/-- the hypotheses of `delete_refines` hold in `rxSys` (checked in `RefExample.lean`: `Good`, `repTree = some _`,
    footprints owned) -/
example : goodB rxSys.ps = true ∧
    rxSys.trees.map (fun t => (repTree rxSys.ps 10 t).isSome && fpOwnedB rxSys.ps.heap t.id (footprint rxSys.ps 10 t)) =
      [true, true] := by rw [rxSys_eq]; decide +kernel

/-- **a delete that merges two children**: `Delete(4)` on tree 1 removes a top entry; its neighbours `[3]` (a name,
    loaded through the cache) and `[5, 6]` (in memory) are merged into one new node `[3, 5, 6]` -/
example : delAgrees rxEnv rxSys 1 4 40 = true := by rw [rxSys_eq]; decide +kernel

def dSys1 : Sys := (rxSys.apply rxEnv 10 (.del 1 4 40)).1

/-- the merged child is there: the tree now denotes `[3 5 6] 8 ·` -/
example : (dSys1.trees[1]?.bind (fun t => repTree dSys1.ps 10 t)).map (·.root) =
    some (T.cons false (T.cons false T.nil 3 30 (T.cons false T.nil 5 50 (T.cons false T.nil 6 60 (T.last false T.nil))))
      8 80 (T.last false T.nil)) := by rw [dSys1, rxSys_eq]; decide +kernel

example : goodB dSys1.ps = true ∧
    dSys1.trees.map (fun t => (repTree dSys1.ps 10 t).isSome && fpOwnedB dSys1.ps.heap t.id (footprint dSys1.ps 10 t)) =
      [true, true] := by rw [dSys1, rxSys_eq]; decide +kernel

/-- **a delete that shrinks the tree**: `Delete(8)` removes the last top entry; the top node is entry-less, `shrink`
    runs, the height goes from 1 to 0 -/
example : delAgrees rxEnv dSys1 1 8 80 = true := by rw [dSys1, rxSys_eq]; decide +kernel
example : heightOf dSys1 1 = some 1 ∧ heightOf (dSys1.apply rxEnv 10 (.del 1 8 80)).1 1 = some 0 := by rw [dSys1, rxSys_eq]; decide +kernel

/-- a delete below the top (entry 3 of tree 0, in a child), and deletes that fail: absent key, other value — the
    object level returns an error and `Tree.delete` says why -/
example : delAgrees rxEnv rxSys 0 3 30 = true := by rw [rxSys_eq]; decide +kernel
example :
    (match rxSys.trees[0]? with
     | none => none
     | some t =>
       match repTree rxSys.ps 10 t with
       | none => none
       | some A =>
         some ((delete rxEnv 10 rxSys.ps t 7 70).2.2, (delete rxEnv 10 rxSys.ps t 3 31).2.2,
           (match Tree.delete rxEnv.layer A 7 70 with | .err e => e | _ => ""),
           (match Tree.delete rxEnv.layer A 3 31 with | .err e => e | _ => ""))) =
      some (.err, .err, "notpresent", "valuemismatch") := by rw [rxSys_eq]; decide +kernel

/-! ## findings: a tree that becomes EMPTY while its height is above 0

Reachable with the public operations: `LoadMast` of an empty root with a claimed height `h > 0`, one `Insert`
(the path of pass-through nodes is created), then `Delete` of that entry. -/

def emSys (size h : Nat) : Sys := (Sys.run rxEnv 10 {} [.load 0 size h 2, .ins 0 3 30]).1

/-- what the two models say about `Delete(3)`: (outcome, root link is nil, height, IsDirty) at the object level,
    (height, dirty) of `Tree.delete` -/
def emReport (size h : Nat) : Option ((Outcome × Bool × Nat × Option Bool) × Option (Nat × Bool)) :=
  match (emSys size h).trees[0]? with
  | none => none
  | some t =>
    let r := delete rxEnv 10 (emSys size h).ps t 3 30
    match repTree (emSys size h).ps 10 t with
    | none => none
    | some A =>
      some ((r.2.2, decide (r.2.1.root = .nil), r.2.1.height, (repTree r.1 10 r.2.1).map (·.dirty)),
        match Tree.delete rxEnv.layer A 3 30 with
        | .ok B => some (B.height, B.dirty)
        | _ => none)

/-- height 1: both end `ok` at height 0 with the empty tree, but the object level (like Go: `m.root = nil`, so
    `IsDirty()` is false) reports `dirty = false`, `Tree.delete` keeps `dirty = true`
    (`delete_refines_emptied`, case `t'.height = 0`) -/
example : emReport 0 1 = some ((.ok, true, 0, some false), some (0, true)) := by decide +kernel

/-- height 2: the first `shrink` empties the root link, the loop condition still holds (`size = 0 ≤ shrinkBelow`),
    and the second `shrink` returns the error "tree with empty root but height 1": the object level ends in
    `err` with the entry gone (second alternative of `delete_err_refines`; the record still has height 2), while
    `Tree.delete` ends `ok` at height 0 -/
example : emReport 0 2 = some ((.err, false, 2, some true), some (0, true)) := by decide +kernel

/-- a wrong `size` in the root record (5 claimed for the empty root): after the first `shrink` the root link is nil,
    the object-level condition is false (`size > shrinkBelow`, and a nil root is not "entry-less"), the call ends
    `ok` at height 1; the functional loop sees the entry-less row `last false nil` and goes on to height 0
    (`delete_refines_emptied`, general case) -/
example : emReport 5 2 = some ((.ok, true, 1, some false), some (0, true)) := by decide +kernel

end Mast.Ptr
