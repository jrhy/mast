import Mastverif.Lemmas.RefDelRows
import Mastverif.Lemmas.RefPrune
/-! `mergeNodes` refines `T.mergeRow` (allocation only; induction on the fuel). -/
namespace Mast.Ptr
open Mast.Heap

def MergeOK (n : Nat) (h : Heap) (st : List SNode) (xl xr : Bool × T × List Nat) (mg : HLink) : Prop :=
  ∃ g x, repLink h st g mg = some x ∧ (x.1, x.2.1) = mergeLink (xl.1, xl.2.1) (xr.1, xr.2.1) ∧
    FpExt n (xl.2.2 ++ xr.2.2) x.2.2

theorem dropLast_append_of_getLast? {α : Type} {l : List α} {a : α} (h : l.getLast? = some a) :
    l = l.dropLast ++ [a] := by
  induction l with
  | nil => simp at h
  | cons x l ih =>
    cases l with
    | nil => simp at h; subst h; rfl
    | cons y l =>
      rw [List.getLast?_cons_cons] at h
      rw [List.dropLast_cons_cons, List.cons_append, ← ih h]

/-- the new node's row is `mergeRow_mkRow`; its footprint is the siblings' footprints around that of the recursively
    merged pair (`FpExt.ctx`), plus the fresh node -/
theorem mergeNodes_spec {m : Nat} (E : Env) : ∀ (f : Nat) (l r : HLink) (s : PS) (g : Nat)
    (xl xr : Bool × T × List Nat), Good s →
    repLink s.heap s.store g l = some xl → repLink s.heap s.store g r = some xr → (xl.2.2 ++ xr.2.2).Nodup →
    Spec (Grow m) (mergeNodes E m f l r) s (fun mg s' => MergeOK s.heap.length s'.heap s'.store xl xr mg) := by
  intro f
  induction f with
  | zero => intro l r s g xl xr _ _ _ _; exact Spec.oof
  | succ f ih =>
    intro l r s g xl xr hg hxl hxr hnd
    unfold mergeNodes
    refine Spec.ite (fun hl0 => ?_) (fun hl0 => Spec.ite (fun hr0 => ?_) (fun hr0 => ?_))
    · subst hl0
      rw [repLink_nil] at hxl; injection hxl with hxl; subst hxl
      exact Spec.pure ⟨g, xr, hxr, (mergeLink_nil_left _ _).symm, FpExt.refl hnd⟩
    · subst hr0
      rw [repLink_nil] at hxr; injection hxr with hxr; subst hxr
      refine Spec.pure ⟨g, xl, hxl, (mergeLink_nil_right _ (repLink_row_ne_nil hxl hl0)).symm, ?_⟩
      rw [List.append_nil] at hnd ⊢
      exact FpExt.refl hnd
    · have hlrow : xl.2.1 ≠ T.nil := repLink_row_ne_nil hxl hl0
      have hrrow : xr.2.1 ≠ T.nil := repLink_row_ne_nil hxr hr0
      have hltl : ∀ y ∈ xl.2.2, y < s.heap.length := repLink_fp_lt' hxl
      have hltr : ∀ y ∈ xr.2.2, y < s.heap.length := repLink_fp_lt' hxr
      refine Spec.bind (load_spec (m := m) E l s hg) ?_
      rintro la s1 _ hgr1 ⟨_, _, hldl⟩
      have hla1 := hldl g xl hxl
      have hg1 := hgr1.good hg
      refine Spec.bind (load_spec (m := m) E r s1 hg1) ?_
      rintro ra s2 _ hgr2 ⟨_, _, hldr⟩
      have hra := hldr g xr (hgr1.rep hxr)
      have hla := hgr2.rep hla1
      have hg2 := hgr2.good hg1
      have hlen02 := Nat.le_trans hgr1.length hgr2.length
      refine Spec.bind (read_spec la s2) ?_
      rintro ln s2' _ _ ⟨rfl, hln⟩
      refine Spec.bind (read_spec ra s2) ?_
      rintro rn s2' _ _ ⟨rfl, hrn⟩
      obtain ⟨g', lcs, rfl, hvl, hkl, hcll, hxle⟩ := repLink_ptr_inv hla hln
      obtain ⟨g'', rcs, hgeq, hvr, hkr, hclr, hxre⟩ := repLink_ptr_inv hra hrn
      obtain rfl : g' = g'' := Nat.succ.inj hgeq
      split
      · next ll rl rrest hgl hrl =>
        have hlinks := dropLast_append_of_getLast? hgl
        rw [hlinks] at hkl
        obtain ⟨linit, c2, hkinit, hk2, rfl⟩ := seqO_map_append.mp hkl
        obtain ⟨cl, hcl, rfl⟩ := seqO_map_single hk2
        rw [hrl] at hkr
        obtain ⟨cr, rcs', hcr, hkrest, rfl⟩ := seqO_map_cons.mp hkr
        have hinitlen : linit.length = ln.keys.length := by
          rw [List.length_append] at hcll; exact Nat.succ.inj hcll
        have hrestlen : rcs'.length = rn.keys.length := Nat.succ.inj hclr
        have hfl : xl.2.2 = ownFp ln la ++ (fps linit ++ cl.2.2) := by
          have := congrArg (fun z => z.2.2) hxle
          simp only [nodeRep_fp, fps_append, fps_cons, fps_nil, List.append_nil] at this
          exact this
        have hfr : xr.2.2 = ownFp rn ra ++ (cr.2.2 ++ fps rcs') := by
          have := congrArg (fun z => z.2.2) hxre
          simp only [nodeRep_fp, fps_cons] at this
          exact this
        have hsub : (fps linit ++ (cl.2.2 ++ cr.2.2) ++ fps rcs').Sublist (xl.2.2 ++ xr.2.2) := by
          rw [hfl, hfr]
          have e : fps linit ++ (cl.2.2 ++ cr.2.2) ++ fps rcs' = (fps linit ++ cl.2.2) ++ (cr.2.2 ++ fps rcs') := by
            simp [List.append_assoc]
          rw [e]
          exact List.Sublist.append (List.sublist_append_right _ _) (List.sublist_append_right _ _)
        have hcore : (fps linit ++ (cl.2.2 ++ cr.2.2) ++ fps rcs').Nodup := hsub.nodup hnd
        have hlt : ∀ y ∈ xl.2.2 ++ xr.2.2, y < s.heap.length := by
          intro y hy
          rcases List.mem_append.mp hy with h | h
          · exact hltl y h
          · exact hltr y h
        have hcc : (cl.2.2 ++ cr.2.2).Nodup := (List.nodup_append.mp (List.nodup_append.mp hcore).1).2.1
        refine Spec.bind (ih ll rl s2 g' cl cr hg2 hcl hcr hcc) ?_
        rintro mg s3 _ hgr3 ⟨gm, xm, hxm, hxmrow, hfm⟩
        have hlen3 := hgr3.length
        dsimp only
        refine Spec.ite (fun _ => Spec.fail) fun _ => ?_
        · refine Spec.bind (alloc_spec (m := m) _ s3 (Or.inr rfl) (fun _ => rfl)) ?_
          rintro a s4 _ hgr4 ⟨rfl, rfl⟩
          refine Spec.pure ⟨max g' gm + 1,
            nodeRep false [s3.heap.length] (ln.keys ++ rn.keys) (ln.vals ++ rn.vals) (linit ++ xm :: rcs'), ?_, ?_, ?_⟩
          · refine repLink_ptr_some.mpr ⟨_, _, linit ++ xm :: rcs', rfl, getElem?_append_self _ _, ?_, ?_,
              by simp [ownFp]⟩
            · show (ln.links.dropLast ++ mg :: rrest).length = (ln.keys ++ rn.keys).length + 1 ∧
                (ln.vals ++ rn.vals).length = (ln.keys ++ rn.keys).length
              have h3 : rrest.length = rn.keys.length := by
                have := hvr.1; rw [hrl] at this; exact Nat.succ.inj this
              rw [List.length_append, List.length_append, List.length_append, List.length_cons, List.length_dropLast,
                hvl.1, hvl.2, hvr.2, h3]
              exact ⟨rfl, rfl⟩
            · show seqO ((ln.links.dropLast ++ mg :: rrest).map _) = some _
              refine seqO_map_append.mpr ⟨linit, xm :: rcs', ?_, ?_, rfl⟩
              · refine seqO_map_congr hkinit (fun l' _ c hc => ?_)
                exact repLink_mono_le (repLink_allocOnly (allocOnly_append _ _) (hgr3.rep hc)) (Nat.le_max_left _ _)
              · refine seqO_map_cons.mpr ⟨xm, rcs', ?_, ?_, rfl⟩
                · exact repLink_mono_le (repLink_allocOnly (allocOnly_append _ _) hxm) (Nat.le_max_right _ _)
                · refine seqO_map_congr hkrest (fun l' _ c hc => ?_)
                  exact repLink_mono_le (repLink_allocOnly (allocOnly_append _ _) (hgr3.rep hc))
                    (Nat.le_max_left _ _)
          · have hxlrow : xl.2.1 = mkRow (linit.map pr ++ [pr cl]) ln.keys ln.vals := by
              have := congrArg (fun z => z.2.1) hxle
              simp only [nodeRep_row, List.map_append, List.map_cons, List.map_nil] at this
              exact this
            have hxrrow : xr.2.1 = mkRow (pr cr :: rcs'.map pr) rn.keys rn.vals := by
              have := congrArg (fun z => z.2.1) hxre
              simp only [nodeRep_row, List.map_cons] at this
              exact this
            rw [mergeLink_both hlrow hrrow]
            show (false, mkRow ((linit ++ xm :: rcs').map pr) (ln.keys ++ rn.keys) (ln.vals ++ rn.vals)) = _
            simp only at hxlrow hxrrow ⊢
            rw [hxlrow, hxrrow, mergeRow_mkRow ln.keys (linit.map pr) ln.vals (pr cl) (pr cr) (rcs'.map pr) rn.keys rn.vals
              (by rw [List.length_map]; exact hinitlen) hvl.2]
            simp only [List.map_append, List.map_cons]
            have : pr xm = mergeLink (pr cl) (pr cr) := hxmrow
            rw [this]
          · -- the merged pair's footprint replaces `cl ++ cr` between the siblings' (`FpExt.ctx`); the new node is fresh
            have hA : ∀ y ∈ fps linit, y < s2.heap.length := fun y hy =>
              Nat.lt_of_lt_of_le (hlt y (hsub.subset (List.mem_append_left _ (List.mem_append_left _ hy)))) hlen02
            have hB : ∀ y ∈ fps rcs', y < s2.heap.length := fun y hy =>
              Nat.lt_of_lt_of_le (hlt y (hsub.subset (List.mem_append_right _ hy))) hlen02
            have hmid := FpExt.ctx (fps linit) (fps rcs') hcore hA hB hfm
            have hall := (hmid.n_mono hlen02).old_mono (fun y hy => hsub.subset hy)
            have hfin := hall.cons_fresh (z := s3.heap.length) (Nat.le_trans hlen02 hlen3) (by
              intro hmem
              rcases List.mem_append.mp hmem with h | h
              · rcases List.mem_append.mp h with h | h
                · exact Nat.lt_irrefl _ (Nat.lt_of_lt_of_le (hA _ h) hlen3)
                · exact Nat.lt_irrefl _ (repLink_fp_lt' hxm _ h)
              · exact Nat.lt_irrefl _ (Nat.lt_of_lt_of_le (hB _ h) hlen3))
            show FpExt _ _ (nodeRep false [s3.heap.length] _ _ (linit ++ xm :: rcs')).2.2
            rw [nodeRep_fp]
            simpa [List.append_assoc] using hfin
      · exact Spec.panic

end Mast.Ptr
