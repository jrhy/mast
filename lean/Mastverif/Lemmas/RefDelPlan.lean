import Mastverif.Lemmas.RefRelink
import Mastverif.Lemmas.RefDelMerge
import Mastverif.Lemmas.RefPlan
/-! `deletePlan`: what the state looks like when the plan has been made (nothing reachable was written). -/
namespace Mast.Ptr
open Mast.Heap

theorem split_two {α : Type} {l : List α} {i : Nat} {a b : α} (h1 : l[i]? = some a) (h2 : l[i + 1]? = some b) :
    l = l.take i ++ a :: b :: l.drop (i + 2) := by
  have e1 := take_append_getElem_drop h1
  have hlt : i + 1 < l.length := (List.getElem?_eq_some_iff.mp h2).1
  have hb : l[i + 1] = b := by
    have := List.getElem?_eq_getElem hlt
    rw [h2] at this; injection this with this; exact this.symm
  have e2 : l.drop (i + 1) = b :: l.drop (i + 2) := by
    rw [List.drop_eq_getElem_cons hlt, hb]
  rw [e2] at e1
  exact e1

theorem fps_split_two {cs : List (Bool × T × List Nat)} {i : Nat} {a b : Bool × T × List Nat} (h1 : cs[i]? = some a)
    (h2 : cs[i + 1]? = some b) : fps cs = fps (cs.take i) ++ (a.2.2 ++ b.2.2) ++ fps (cs.drop (i + 2)) := by
  conv => lhs; rw [split_two h1 h2]
  rw [fps_append, fps_cons, fps_cons, List.append_assoc, List.append_assoc]

/-- the found node holds the entry, and the children `cl`, `cr` next to it are merged -/
structure DelPlanAt (key val n0 : Nat) (x : Bool × T × List Nat) (lv : Nat) (p : DelPlan) (h : Heap) (st : List SNode)
    (frs : List Fr) (gb : Nat) (csb : List (Bool × T × List Nat)) (nd : MNode) (n2 : Nat)
    (cl cr : Bool × T × List Nat) : Prop where
  bottom : Bottom key n0 x lv p.found h st frs gb csb nd n2
  key : nd.keys[p.found.idx]? = some key
  val : nd.vals[p.found.idx]? = some val
  left : csb[p.found.idx]? = some cl
  right : csb[p.found.idx + 1]? = some cr
  merged : MergeOK n2 h st cl cr p.merged

def DelPlanRef (key val n0 : Nat) (x : Bool × T × List Nat) (height target : Nat) (p : DelPlan) (h : Heap)
    (st : List SNode) : Prop :=
  T.get key (height - target) x.2.1 = some val ∧ ∃ frs gb csb nd n2 cl cr,
    DelPlanAt key val n0 x (height - target) p h st frs gb csb nd n2 cl cr

theorem deletePlan_spec (E : Env) (t : PTree) (fuel key val : Nat) (s : PS) (hg : Good s) {g : Nat}
    {x : Bool × T × List Nat} (hx : repLink s.heap s.store g t.root = some x) (hnd : x.2.2.Nodup) :
    Spec (Grow t.id) (deletePlan E t fuel key val) s (fun p s' => t.root ≠ .nil ∧
      DelPlanRef key val s.heap.length x t.height (min (E.layer key) t.height) p s'.heap s'.store) := by
  unfold deletePlan
  refine Spec.ite (fun _ => Spec.fail) (fun hroot => ?_)
  refine Spec.bind (layerM_spec (m := t.id) E key s) ?_
  rintro lay s1 _ hgr1 rfl
  have hg1 := hgr1.good hg
  dsimp only
  refine Spec.bind (load_spec (m := t.id) E t.root s1 hg1) ?_
  rintro a0 s2 _ hgr2 ⟨_, _, hld⟩
  have hx0 := hld g x (hgr1.rep hx)
  have hg2 := hgr2.good hg1
  refine Spec.bind (findNode_spec (m := t.id) E key (min (E.layer key) t.height) false fuel a0 t.height [] s2 g _ hg2
    (Nat.min_le_right _ _) hx0 hnd) ?_
  rintro fd s3 _ hgr3 ⟨nd, hnd3, hidx, himp⟩
  have hg3 := hgr3.good hg2
  refine Spec.bind (read_spec fd.node s3) ?_
  rintro nd' s4 _ _ ⟨rfl, hnd'⟩
  obtain rfl : nd = nd' := Option.some.inj (hnd3.symm.trans hnd')
  refine Spec.ite (fun _ => Spec.fail) (fun hc1 => Spec.ite (fun _ => Spec.fail) (fun hc2 =>
    Spec.ite (fun _ => Spec.fail) (fun hc3 => ?_)))
  have hct : fd.cur = min (E.layer key) t.height := Decidable.of_not_not (fun h => hc1 (Or.inl h))
  have hkey : nd.keys[fd.idx]? = some key := Decidable.of_not_not hc2
  have hval : nd.vals[fd.idx]? = some val := Decidable.of_not_not hc3
  have hxrow : T.unmk x.2.1 = x.2.1 := unmk_of_ne_nil (repLink_row_ne_nil hx hroot)
  obtain ⟨_, _, _, _, _, hF⟩ := himp (Or.inr hkey)
  obtain ⟨frs, gb', csb, hB⟩ := hF.bottom (x := x) hnd3 hidx hct hxrow.symm (FpExt.refl hnd)
    (Nat.le_trans hgr1.length hgr2.length) hgr3.length
  have hget : T.get key (t.height - min (E.layer key) t.height) x.2.1 = some val := by
    rw [← hxrow, hB.get_eq, if_pos hkey]; exact hval
  split
  · next l r hl hr =>
    obtain ⟨cl, hcl1, hcl2⟩ := seqO_map_getElem? hB.kids hl
    obtain ⟨cr, hcr1, hcr2⟩ := seqO_map_getElem? hB.kids hr
    have hcc : (cl.2.2 ++ cr.2.2).Nodup := by
      have h1 := hB.kids_nodup
      rw [fps_split_two hcl2 hcr2] at h1
      exact nodup_right (nodup_left h1)
    refine Spec.bind (mergeNodes_spec (m := t.id) E fuel l r s3 gb' cl cr hg3 hcl1 hcr1 hcc) ?_
    rintro mg s5 _ hgr5 hmg
    exact Spec.pure ⟨hroot, hget, frs, gb', csb, nd, _, cl, cr, hB.grow hgr5, hkey, hval, hcl2, hcr2, hmg⟩
  · exact Spec.panic

end Mast.Ptr
