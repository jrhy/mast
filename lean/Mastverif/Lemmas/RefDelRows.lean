import Mastverif.Lemmas.RefRows
import Mastverif.Lemmas.Del
/-! Row lemmas for Delete: `mkRow` against `T.mergeRow`, `T.joinAt`, `T.del`; the fuel of `Tree.shrinkLoop`. -/
namespace Mast.Ptr
open Mast.Heap

/-- the link that `mergeNodes` returns for two neighbouring links, as (flag, row) -/
def mergeLink (a b : Bool × T) : Bool × T :=
  if a.2.isNil then b else if b.2.isNil then a else (false, T.mergeRow a.2 b.2)

theorem mergeLink_nil_left (b : Bool × T) (p : Bool) : mergeLink (p, T.nil) b = b := by
  simp [mergeLink, T.isNil]

theorem mergeLink_nil_right {a : Bool × T} (p : Bool) (ha : a.2 ≠ T.nil) : mergeLink a (p, T.nil) = a := by
  unfold mergeLink
  have : a.2.isNil = false := by
    cases h : a.2.isNil with
    | false => rfl
    | true => exact absurd (T.isNil_iff.mp h) ha
  simp [T.isNil]

theorem mergeLink_both {a b : Bool × T} (ha : a.2 ≠ T.nil) (hb : b.2 ≠ T.nil) :
    mergeLink a b = (false, T.mergeRow a.2 b.2) := by
  unfold mergeLink
  have h1 : a.2.isNil = false := by
    cases h : a.2.isNil with
    | false => rfl
    | true => exact absurd (T.isNil_iff.mp h) ha
  have h2 : b.2.isNil = false := by
    cases h : b.2.isNil with
    | false => rfl
    | true => exact absurd (T.isNil_iff.mp h) hb
  simp [h1, h2]

/-- the first link of a row sits in a `last` or in a `cons` whose other parts do not depend on it -/
theorem mkRow_head (rest : List (Bool × T)) (ks vs : List Nat) :
    (∀ b : Bool × T, mkRow (b :: rest) ks vs = T.last b.1 b.2) ∨
    ∃ k v r, ∀ b : Bool × T, mkRow (b :: rest) ks vs = T.cons b.1 b.2 k v r := by
  cases rest with
  | nil => exact Or.inl fun b => mkRow_single b.1 b.2 ks vs
  | cons y rest =>
    cases ks with
    | nil => exact Or.inl fun ⟨_, _⟩ => rfl
    | cons k ks =>
      cases vs with
      | nil => exact Or.inl fun ⟨_, _⟩ => rfl
      | cons v vs => exact Or.inr ⟨k, v, _, fun ⟨p, c⟩ => mkRow_cons p c y rest k ks v vs⟩

/-! ## `mergeRow`, `joinAt`, `del` -/

theorem mergeRow_last_mkRow (a b : Bool × T) (rrest : List (Bool × T)) (rk rv : List Nat) :
    T.mergeRow (T.last a.1 a.2) (mkRow (b :: rrest) rk rv) = mkRow (mergeLink a b :: rrest) rk rv := by
  obtain ⟨p, c⟩ := a
  obtain ⟨p2, c2⟩ := b
  rcases mkRow_head rrest rk rv with h | ⟨k, v, r, h⟩
  · rw [h, h, T.mergeRow, mergeLink]
    cases c.isNil <;> cases c2.isNil <;> rfl
  · rw [h, h, T.mergeRow, mergeLink]
    cases c.isNil <;> cases c2.isNil <;> rfl

theorem mergeRow_mkRow (lk : List Nat) (linit : List (Bool × T)) (lv : List Nat) (a b : Bool × T)
    (rrest : List (Bool × T)) (rk rv : List Nat) (hl : linit.length = lk.length) (hv : lv.length = lk.length) :
    T.mergeRow (mkRow (linit ++ [a]) lk lv) (mkRow (b :: rrest) rk rv) =
      mkRow (linit ++ mergeLink a b :: rrest) (lk ++ rk) (lv ++ rv) := by
  refine entries_induction ?_ ?_ lk linit lv hl hv
  · show T.mergeRow (mkRow [a] [] []) _ = _
    rw [mkRow_single]
    exact mergeRow_last_mkRow a b rrest rk rv
  · rintro ⟨p, c⟩ linit k lk v lv ih
    simp only [List.cons_append]
    rw [mkRow_cons' _ _ _ _ _ _ _ (List.append_ne_nil_of_right_ne_nil _ (List.cons_ne_nil _ _)),
      mkRow_cons' _ _ _ _ _ _ _ (List.append_ne_nil_of_right_ne_nil _ (List.cons_ne_nil _ _))]
    simp only [T.mergeRow]
    rw [ih]

/-- `deleteEntry`: the link left of the removed entry meets the first link of the rest of the row -/
theorem joinAt_mkRow (a b : Bool × T) (rest : List (Bool × T)) (ks vs : List Nat) :
    T.joinAt a.1 a.2 (mkRow (b :: rest) ks vs) = mkRow (mergeLink a b :: rest) ks vs := by
  rw [T.joinAt_eq_mergeRow _ _ (mkRow_ne_nil (List.cons_ne_nil _ _))]
  exact mergeRow_last_mkRow a b rest ks vs

/-- the (flag, row) at index `i` (absent: the nil link) -/
def linkAt (cs : List (Bool × T)) (i : Nat) : Bool × T := cs[i]?.getD (false, T.nil)

theorem del_mkRow_zero (ks : List Nat) (cs : List (Bool × T)) (vs : List Nat) (k : Nat)
    (hl : cs.length = ks.length + 1) (hv : vs.length = ks.length) :
    T.del k 0 (mkRow cs ks vs) =
      if ks[keyIdx ks k]? = some k then
        some (mkRow (cs.take (keyIdx ks k) ++ mergeLink (linkAt cs (keyIdx ks k)) (linkAt cs (keyIdx ks k + 1)) ::
                cs.drop (keyIdx ks k + 2)) (ks.eraseIdx (keyIdx ks k)) (vs.eraseIdx (keyIdx ks k)))
      else none := by
  refine row_induction ?_ ?_ ks cs vs hl hv
  · intro c; rfl
  · rintro ⟨p, c⟩ y ls k' ks v vs ih
    rw [mkRow_cons, T.del, keyIdx]
    by_cases h1 : k' < k
    · rw [if_pos h1, if_pos h1, ih]
      by_cases h3 : ks[keyIdx ks k]? = some k
      · simp only [if_pos h3, List.getElem?_cons_succ, Option.map_some, List.take_succ_cons, List.drop_succ_cons,
          List.cons_append, List.eraseIdx_cons_succ, linkAt]
        rw [mkRow_cons' _ _ _ _ _ _ _ (List.append_ne_nil_of_right_ne_nil _ (List.cons_ne_nil _ _))]
      · simp only [if_neg h3, List.getElem?_cons_succ, Option.map_none]
    · rw [if_neg h1, if_neg h1]
      by_cases h2 : k' = k
      · subst h2
        simp only [if_true, List.getElem?_cons_zero, List.take_zero, List.nil_append, List.eraseIdx_cons_zero,
          linkAt, List.getElem?_cons_succ, Option.getD_some, List.drop_succ_cons, List.drop_zero]
        exact congrArg some (joinAt_mkRow (p, c) y ls ks vs)
      · simp only [if_neg h2, List.getElem?_cons_zero, Option.some.injEq]

theorem del_mkRow_succ (ks : List Nat) (cs : List (Bool × T)) (vs : List Nat) (k s : Nat)
    (hl : cs.length = ks.length + 1) (hv : vs.length = ks.length) :
    T.del k (s + 1) (mkRow cs ks vs) =
      if ks[keyIdx ks k]? = some k then none
      else (T.del k s (childAt cs (keyIdx ks k))).map
        (fun c' => mkRow (cs.take (keyIdx ks k) ++ (false, T.mk c') :: cs.drop (keyIdx ks k + 1)) ks vs) := by
  refine row_induction ?_ ?_ ks cs vs hl hv
  · intro c; rfl
  · rintro ⟨p, c⟩ y ls k' ks v' vs ih
    rw [mkRow_cons, T.del, keyIdx]
    by_cases h1 : k' < k
    · simp only [if_pos h1, ih, childAt_cons_succ, List.getElem?_cons_succ]
      by_cases h3 : ks[keyIdx ks k]? = some k
      · rw [if_pos h3, if_pos h3]; rfl
      · simp only [if_neg h3, Option.map_map, List.take_succ_cons, List.drop_succ_cons, List.cons_append]
        congr 1
        funext c'
        exact (mkRow_cons' _ _ _ _ _ _ _ (List.append_ne_nil_of_right_ne_nil _ (List.cons_ne_nil _ _))).symm
    · simp only [if_neg h1, List.getElem?_cons_zero, Option.some.injEq, childAt_cons_zero, List.take_zero,
        List.nil_append, List.drop_succ_cons, List.drop_zero, mkRow_cons]

theorem eraseIdx_set {α : Type} (l : List α) (i : Nat) (x : α) (h : i + 1 < l.length) :
    (l.eraseIdx i).set i x = l.take i ++ x :: l.drop (i + 2) := by
  induction l generalizing i with
  | nil => simp at h
  | cons y l ih =>
    cases i with
    | zero =>
      match l, h with
      | z :: l, _ => simp
    | succ i =>
      simp only [List.eraseIdx_cons_succ, List.set_cons_succ, List.take_succ_cons, List.drop_succ_cons,
        List.cons_append]
      rw [ih i (by simpa using h)]

/-! ## the fuel of `Tree.shrinkLoop` -/

def shrinkCond (m : Tree) : Prop := m.height > 0 ∧ (m.size ≤ m.shrinkBelow ∨ Tree.topEntryless m.root = true)

instance (m : Tree) : Decidable (shrinkCond m) := by unfold shrinkCond; infer_instance

theorem shrinkLoop_succ (f : Nat) (m : Tree) :
    Tree.shrinkLoop (f + 1) m = if shrinkCond m then Tree.shrinkLoop f (Tree.shrinkStep m) else m := rfl

theorem shrinkLoop_of_not_cond {m : Tree} (h : ¬ shrinkCond m) : ∀ f, Tree.shrinkLoop f m = m := by
  intro f
  cases f with
  | zero => rfl
  | succ f => rw [shrinkLoop_succ, if_neg h]

theorem shrinkLoop_add : ∀ (b a : Nat) (m : Tree),
    Tree.shrinkLoop (a + b) m = Tree.shrinkLoop a (Tree.shrinkLoop b m) := by
  intro b
  induction b with
  | zero => intro a m; rfl
  | succ b ih =>
    intro a m
    rw [← Nat.add_assoc, shrinkLoop_succ, shrinkLoop_succ]
    by_cases hm : shrinkCond m
    · rw [if_pos hm, if_pos hm]; exact ih a _
    · rw [if_neg hm, if_neg hm, shrinkLoop_of_not_cond hm]

theorem shrinkLoop_stable (f : Nat) (m : Tree) (hc : ¬ shrinkCond (Tree.shrinkLoop f m)) (f' : Nat) (h : f ≤ f') :
    Tree.shrinkLoop f' m = Tree.shrinkLoop f m := by
  obtain ⟨d, rfl⟩ := Nat.exists_eq_add_of_le h
  rw [Nat.add_comm, shrinkLoop_add, shrinkLoop_of_not_cond hc]

/-- every step lowers the height: `height + 1` iterations always reach the end -/
theorem shrinkLoop_conv : ∀ (f : Nat) (m : Tree), m.height < f → ¬ shrinkCond (Tree.shrinkLoop f m) := by
  intro f
  induction f with
  | zero => intro m h; exact absurd h (Nat.not_lt_zero _)
  | succ f ih =>
    intro m h
    rw [shrinkLoop_succ]
    by_cases hm : shrinkCond m
    · rw [if_pos hm]
      exact ih _ (Nat.lt_of_lt_of_le (Nat.sub_lt hm.1 Nat.one_pos) (Nat.le_of_lt_succ h))
    · rw [if_neg hm]; exact hm

theorem shrinkLoop_fuel (f : Nat) (m : Tree) (hc : ¬ shrinkCond (Tree.shrinkLoop f m)) :
    Tree.shrinkLoop (m.height + 1) m = Tree.shrinkLoop f m := by
  have hconv := shrinkLoop_conv (m.height + 1) m (Nat.lt_succ_self _)
  have a := shrinkLoop_stable f m hc (max f (m.height + 1)) (Nat.le_max_left _ _)
  have b := shrinkLoop_stable (m.height + 1) m hconv (max f (m.height + 1)) (Nat.le_max_right _ _)
  rw [← b, a]

end Mast.Ptr
