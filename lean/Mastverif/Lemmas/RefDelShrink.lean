import Mastverif.Lemmas.RefDelShrinkRows
import Mastverif.Lemmas.RefGrow
/-! `shrink` refines `T.shrink`; `topEntryless` refines `Tree.topEntryless`. -/
namespace Mast.Ptr
open Mast.Heap

def childStep (E : Env) (l : HLink) (acc : MNode) : M MNode :=
  if l = .nil then pure { acc with links := acc.links ++ [HLink.nil] } else do
    let c ← load E l
    let cn ← read c
    let acc1 := { acc with keys := acc.keys ++ cn.keys, vals := acc.vals ++ cn.vals, links := acc.links ++ cn.links }
    if !validOK acc1 then panicE else pure acc1

theorem shrinkLoop_cons_nil (E : Env) (l : HLink) (ls : List HLink) (acc : MNode) :
    shrinkLoop E (l :: ls) [] acc = childStep E l acc >>= fun acc1 => shrinkLoop E ls [] acc1 := rfl

theorem shrinkLoop_cons_cons (E : Env) (l : HLink) (ls : List HLink) (k v : Nat) (es : List (Nat × Nat)) (acc : MNode) :
    shrinkLoop E (l :: ls) ((k, v) :: es) acc = childStep E l acc >>= fun acc1 =>
      shrinkLoop E ls es { acc1 with keys := acc1.keys ++ [k], vals := acc1.vals ++ [v] } := rfl

/-- one link of the loop: the child (an absent child as an empty node) is a node `gl / gks / gvs` whose links
    denote `gcs`; its parts are appended to the accumulator -/
theorem childStep_spec {m : Nat} (E : Env) (l : HLink) (acc : MNode) (s : PS) (G : Nat) (c : Bool × T × List Nat)
    (hg : Good s) (hc : repLink s.heap s.store G l = some c) :
    Spec (Grow m) (childStep E l acc) s (fun acc1 s' => ∃ gl gks gvs gcs,
      acc1 = { acc with keys := acc.keys ++ gks, vals := acc.vals ++ gvs, links := acc.links ++ gl } ∧
      gl.length = gks.length + 1 ∧ gvs.length = gks.length ∧
      seqO (gl.map (repLink s'.heap s'.store G)) = some gcs ∧
      T.unmk c.2.1 = mkRow (gcs.map pr) gks gvs ∧ (fps gcs).Sublist c.2.2) := by
  unfold childStep
  refine Spec.ite (fun h0 => ?_) (fun h0 => ?_)
  · subst h0
    rw [repLink_nil] at hc; injection hc with hc; subst hc
    exact Spec.pure ⟨[.nil], [], [], [(false, T.nil, [])], by simp, rfl, rfl,
      seqO_map_cons.mpr ⟨_, [], repLink_nil _ _ _, rfl, rfl⟩, unmk_nil, List.Sublist.refl _⟩
  · refine Spec.bind (load_spec (m := m) E l s hg) ?_
    rintro a s1 _ hgr ⟨_, _, hld⟩
    have hca := hld G c hc
    refine Spec.bind (read_spec a s1) ?_
    rintro cn s1' _ _ ⟨rfl, hcn⟩
    obtain ⟨g', gcs, rfl, hv, hk, hlen, heq⟩ := repLink_ptr_inv hca hcn
    have h1 : c.2.1 = mkRow (gcs.map pr) cn.keys cn.vals := congrArg (fun z => z.2.1) heq
    have h2 : c.2.2 = ownFp cn a ++ fps gcs := congrArg (fun z => z.2.2) heq
    dsimp only
    refine Spec.ite (fun _ => Spec.panic) (fun _ => ?_)
    refine Spec.pure ⟨cn.links, cn.keys, cn.vals, gcs, rfl, hv.1, hv.2, ?_, ?_, ?_⟩
    · exact seqO_map_congr hk (fun l' _ c' hc' => repLink_mono _ _ _ hc')
    · rw [h1]
      apply unmk_of_ne_nil
      apply mkRow_ne_nil
      intro h0
      have : (gcs.map pr).length = 0 := by rw [h0]; rfl
      rw [List.length_map, hlen] at this
      cases this
    · rw [h2]; exact List.sublist_append_right _ _

/-- the loop of `shrink` refines `T.shrink` on the remaining part of the row; the footprint of the links of the
    accumulator grows by parts of the children's footprints -/
theorem shrinkLoop_spec {m : Nat} (E : Env) (G : Nat) : ∀ (ls : List HLink) (ks vs : List Nat) (acc : MNode) (s : PS)
    (cs acs : List (Bool × T × List Nat)), Good s → ls.length = ks.length + 1 → vs.length = ks.length →
    seqO (ls.map (repLink s.heap s.store G)) = some cs →
    seqO (acc.links.map (repLink s.heap s.store G)) = some acs →
    acc.links.length = acc.keys.length → acc.vals.length = acc.keys.length →
    Spec (Grow m) (shrinkLoop E ls (ks.zip vs) acc) s (fun acc' s' => ∃ acs' extra,
      seqO (acc'.links.map (repLink s'.heap s'.store G)) = some acs' ∧
      acc'.links.length = acc'.keys.length + 1 ∧ acc'.vals.length = acc'.keys.length ∧
      mkRow (acs'.map pr) acc'.keys acc'.vals =
        appendRow (acs.map pr) acc.keys acc.vals (T.shrink (mkRow (cs.map pr) ks vs)) ∧
      fps acs' = fps acs ++ extra ∧ extra.Sublist (fps cs) ∧
      acc'.dirty = acc.dirty ∧ acc'.shared = acc.shared ∧ acc'.owner = acc.owner ∧ acc'.source = acc.source) := by
  intro ls ks vs acc s cs acs hg hl hv
  revert acc s cs acs
  refine row_induction (α := HLink) ?_ ?_ ks ls vs hl hv
  · -- the last link
    intro l acc s cs acs hg hcs hacs hal hav
    obtain ⟨c, hc, rfl⟩ := seqO_map_single hcs
    have hacl : (acs.map pr).length = acc.keys.length := by
      rw [List.length_map, seqO_map_length hacs]; exact hal
    rw [List.zip_nil_left, shrinkLoop_cons_nil]
    refine Spec.bind (childStep_spec (m := m) E l acc s G c hg hc) ?_
    rintro acc1 s1 _ hgr ⟨gl, gks, gvs, gcs, rfl, hgl, hgv, hgcs, hrow, hsub⟩
    have hgne : gcs.map pr ≠ [] := by
      intro h0
      have : (gcs.map pr).length = 0 := by rw [h0]; rfl
      rw [List.length_map, seqO_map_length hgcs, hgl] at this
      cases this
    refine Spec.pure ⟨acs ++ gcs, fps gcs, ?_, ?_, ?_, ?_, fps_append _ _, by simpa using hsub, rfl, rfl, rfl, rfl⟩
    · exact seqO_map_append.mpr ⟨acs, gcs, seqO_map_congr hacs (fun l' _ c' hc' => hgr.rep hc'), hgcs, rfl⟩
    · rw [List.length_append, List.length_append, hal, hgl]; rfl
    · rw [List.length_append, List.length_append, hav, hgv]
    · simp only [List.map_cons, List.map_nil, List.map_append]
      rw [show pr c = (c.1, c.2.1) from rfl, shrink_mkRow_single, hrow, appendRow_mkRow _ _ _ _ _ _ hacl hav hgne]
  · -- a link and an entry in front of the rest
    intro l x ls' k ks' v vs' ih acc s cs acs hg hcs hacs hal hav
    obtain ⟨c, cs', hc, hcs', rfl⟩ := seqO_map_cons.mp hcs
    have hacl : (acs.map pr).length = acc.keys.length := by
      rw [List.length_map, seqO_map_length hacs]; exact hal
    rw [List.zip_cons_cons, shrinkLoop_cons_cons]
    refine Spec.bind (childStep_spec (m := m) E l acc s G c hg hc) ?_
    rintro acc1 s1 _ hgr ⟨gl, gks, gvs, gcs, rfl, hgl, hgv, hgcs, hrow, hsub⟩
    have hgcl : (gcs.map pr).length = gks.length + 1 := by rw [List.length_map, seqO_map_length hgcs]; exact hgl
    have hne : cs'.map pr ≠ [] := by
      intro h0
      have : (cs'.map pr).length = 0 := by rw [h0]; rfl
      rw [List.length_map, seqO_map_length hcs'] at this
      cases this
    refine (ih _ s1 cs' (acs ++ gcs) (hgr.good hg)
      (seqO_map_congr hcs' (fun l' _ c' hc' => hgr.rep hc'))
      (seqO_map_append.mpr ⟨acs, gcs, seqO_map_congr hacs (fun l' _ c' hc' => hgr.rep hc'), hgcs, rfl⟩)
      (by rw [List.length_append, List.length_append, List.length_append, hal, hgl]; rfl)
      (by rw [List.length_append, List.length_append, List.length_append, List.length_append, hav, hgv]; rfl)).conseq ?_
    rintro acc' s2 _ _ ⟨acs', extra, h1, h2, h3, h4, h5, h6, h7, h8, h9, h10⟩
    refine ⟨acs', fps gcs ++ extra, h1, h2, h3, ?_, ?_, ?_, h7, h8, h9, h10⟩
    · rw [h4]
      simp only [List.map_cons, List.map_append]
      rw [show pr c = (c.1, c.2.1) from rfl, shrink_mkRow_cons' _ _ _ _ _ _ _ hne, ← snoc_unmk, hrow]
      exact appendRow_snoc_mkRow _ _ _ _ _ _ _ _ _ hacl hav hgcl hgv
    · rw [h5, fps_append, List.append_assoc]
    · rw [fps_cons]; exact List.Sublist.append hsub h6

theorem linkNew_ok_heap {nd : MNode} {s s' : PS} {l : HLink} (h : linkNew nd s = .ok l s') :
    (l = .nil ∧ s' = s) ∨ (l = .ptr s.heap.length ∧ s'.heap = s.heap ++ [nd]) := by
  unfold linkNew at h
  split at h
  · simp only [pure, M.pure] at h
    injection h with h1 h2
    exact Or.inl ⟨h1.symm, h2.symm⟩
  · simp only [bind, M.bind, alloc, pure, M.pure] at h
    cases hg : applyAct s.heap (.alloc nd) with
    | none => rw [hg] at h; cases h
    | some h' =>
      rw [hg] at h
      have := applyAct_alloc_some hg; subst this
      injection h with h1 h2
      exact Or.inr ⟨h1.symm, by rw [← h2]⟩

def shrunkTree (t : PTree) (r : HLink) : PTree :=
  { t with root := r, height := t.height - 1,
           shrinkBelow := if t.shrinkBelow > 1 then t.shrinkBelow / t.bf else t.shrinkBelow,
           growAfter := if t.shrinkBelow > 1 then t.growAfter / t.bf else t.growAfter }

theorem shrink_spec (E : Env) (t : PTree) (s : PS) (hg : Good s) {g a : Nat} {y : Bool × T × List Nat}
    (hroot : t.root = .ptr a) (hy : repLink s.heap s.store g (.ptr a) = some y) (hynd : y.2.2.Nodup) :
    Spec (Grow t.id) (shrink E t) s (fun t' s' => ∃ r g' y', t' = shrunkTree t r ∧ t.height ≠ 0 ∧
      repLink s'.heap s'.store g' r = some y' ∧ y'.1 = false ∧ T.unmk y'.2.1 = T.shrink y.2.1 ∧
      FpExt s.heap.length y.2.2 y'.2.2 ∧
      (r = .nil ∨ ∃ na, r = .ptr na ∧ rootDirty s'.heap (.ptr na) = true)) := by
  unfold shrink
  rw [hroot]
  refine Spec.ite (fun _ => Spec.fail) (fun hh => Spec.ite (fun h => nomatch h) (fun _ => ?_))
  refine Spec.bind (load_spec (m := t.id) E (.ptr a) s hg) ?_
  rintro a' s0 _ _ ⟨_, hptr, _⟩
  obtain ⟨rfl, rfl⟩ := hptr a rfl
  refine Spec.bind (read_spec a' s0) ?_
  rintro nd s0' _ _ ⟨rfl, hnda⟩
  obtain ⟨g0, cs, rfl, hv, hkids, hcl, rfl⟩ := repLink_ptr_inv hy hnda
  rw [nodeRep_fp] at hynd
  have hnd : (fps cs).Nodup := (List.nodup_append.mp hynd).2.1
  have hlt0 : ∀ z ∈ fps cs, z < s0.heap.length := fun z hz =>
    repLink_fp_lt hy (by rw [nodeRep_fp]; exact List.mem_append.mpr (Or.inr hz))
  refine Spec.bind (shrinkLoop_spec (m := t.id) E g0 nd.links nd.keys nd.vals _ s0 cs [] hg hv.1 hv.2 hkids rfl rfl rfl) ?_
  rintro top s1 _ hgr1 ⟨acs', extra, h1, h2, h3, h4, h5, h6, h7, h8, h9, h10⟩
  simp only [List.map_nil, appendRow_nil, fps_nil, List.nil_append] at h4 h5
  have hlen1 := hgr1.length
  refine Spec.ite (fun _ => Spec.panic) (fun _ => ?_)
  refine Spec.bind (linkNew_spec (m := t.id) top s1 g0 acs' h9 h8 ⟨h2, h3⟩ h1) ?_
  rintro r s2 hok hgr2 ⟨x, hx1, hx2, hx3, hx4⟩
  have hacl : (acs'.map pr).length = top.keys.length + 1 := by
    rw [List.length_map, seqO_map_length h1]; exact h2
  refine Spec.pure ⟨r, g0 + 1, x, rfl, hh, hx1, hx2, ?_, ?_, ?_⟩
  · rw [hx3, unmk_mk_mkRow hacl h3 (flagOK_of_seqO h1), h4, nodeRep_row]
  · rw [nodeRep_fp]
    rcases hx4 with ⟨_, _, _, hfp⟩ | ⟨_, _, hfp⟩
    · rw [hfp]; exact ⟨List.nodup_nil, fun _ hz => by simp at hz⟩
    · rw [hfp, h5]
      have hext : FpExt s0.heap.length (ownFp nd a' ++ fps cs) extra :=
        ⟨h6.nodup hnd, fun z hz => Or.inl (List.mem_append.mpr (Or.inr (h6.subset hz)))⟩
      refine hext.cons_fresh hlen1 ?_
      exact fun hmem => Nat.lt_irrefl _ (Nat.lt_of_lt_of_le (hlt0 _ (h6.subset hmem)) hlen1)
  · rcases linkNew_ok_heap hok with ⟨hr, _⟩ | ⟨hr, hheap⟩
    · exact Or.inl hr
    · refine Or.inr ⟨s1.heap.length, hr, ?_⟩
      simp [rootDirty, hheap, h7]

theorem topEntryless_spec {m : Nat} (t : PTree) (s : PS) {g a : Nat} {y : Bool × T × List Nat}
    (hroot : t.root = .ptr a) (hy : repLink s.heap s.store g (.ptr a) = some y) :
    Spec (Grow m) (topEntryless t) s (fun b s' => s' = s ∧ b = Tree.topEntryless y.2.1) := by
  unfold topEntryless
  rw [hroot]
  refine Spec.bind (read_spec a s) ?_
  rintro nd s1 _ _ ⟨rfl, hnd⟩
  obtain ⟨g0, cs, rfl, hv, hkids, hcl, rfl⟩ := repLink_ptr_inv hy hnd
  refine Spec.pure ⟨rfl, ?_⟩
  rw [nodeRep_row, topEntryless_mkRow (by rw [List.length_map]; exact hcl) hv.2]

theorem topEntryless_nil_spec {m : Nat} (t : PTree) (s : PS) (hroot : t.root = .nil) :
    Spec (Grow m) (topEntryless t) s (fun b s' => s' = s ∧ b = false) := by
  unfold topEntryless
  rw [hroot]
  exact Spec.pure ⟨rfl, rfl⟩

end Mast.Ptr

#print axioms Mast.Ptr.shrink_spec
#print axioms Mast.Ptr.topEntryless_spec
#print axioms Mast.Ptr.topEntryless_nil_spec
