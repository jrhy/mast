import Mastverif.Lemmas.RefDelShrink
import Mastverif.Lemmas.RefDelRows
/-! The shrink loop of `Delete` against `Tree.shrinkLoop`. -/
namespace Mast.Ptr
open Mast.Heap

/-- `shrink` on an absent root link returns an error (lib.go: "tree with empty root but height …") -/
theorem shrink_nil_fail (E : Env) (t : PTree) (h : t.root = .nil) : shrink E t = failE := by
  unfold shrink
  by_cases h0 : t.height = 0
  · rw [if_pos h0]
  · rw [if_neg h0, if_pos h]

/-- what `shrinkAll` establishes.  Either the tree still has a top node and the record is what `Tree.shrinkLoop`
    computes (with the same fuel), or a shrink made the tree empty (root link `nil`): then the object level stops
    — or fails — where the functional loop goes on (`delete_refines_emptied` says what the two results are then). -/
def ShrinkAllOK (f : Nat) (t : PTree) (y : Bool × T × List Nat) (n0 : Nat) (t' : PTree) (s' : PS) : Prop :=
  ∃ g' y', repLink s'.heap s'.store g' t'.root = some y' ∧ y'.1 = false ∧ t'.id = t.id ∧ t'.bf = t.bf ∧
    t'.size = t.size ∧ FpExt n0 y.2.2 y'.2.2 ∧
    ((∃ a', t'.root = .ptr a' ∧ rootDirty s'.heap (.ptr a') = true ∧
        treeRec t' y' true = Tree.shrinkLoop f (treeRec t y true) ∧ ¬ shrinkCond (treeRec t' y' true)) ∨
     (t'.root = .nil ∧ t'.height < t.height ∧ ¬ (t'.height > 0 ∧ t'.size ≤ t'.shrinkBelow) ∧
        ∃ n, treeRec t' y' true = Tree.shrinkLoop n (treeRec t y true)))

theorem treeRec_shrunk {t : PTree} {r : HLink} {y y1 : Bool × T × List Nat} (hyf : y.1 = false) (hy1f : y1.1 = false)
    (hrow : T.unmk y1.2.1 = T.shrink (T.unmk y.2.1)) :
    treeRec (shrunkTree t r) y1 true = Tree.shrinkStep (treeRec t y true) := by
  simp only [treeRec, shrunkTree, Tree.shrinkStep, hrow, hyf, hy1f]

theorem shrinkAll_refines (E : Env) : ∀ (f : Nat) (t : PTree) (s : PS) (g a : Nat) (y : Bool × T × List Nat),
    Good s → t.root = .ptr a → repLink s.heap s.store g (.ptr a) = some y → y.2.2.Nodup →
    rootDirty s.heap (.ptr a) = true →
    Spec (Grow t.id) (shrinkAll E f t) s (fun t' s' => ShrinkAllOK f t y s.heap.length t' s') := by
  intro f
  induction f with
  | zero => intro t s g a y _ _ _ _ _; exact Spec.oof
  | succ f ih =>
    intro t s g a y hg hroot hy hynd hdirty
    have hyrow : T.unmk y.2.1 = y.2.1 := unmk_of_ne_nil (repLink_row_ne_nil hy (by simp))
    have hyf : y.1 = false := repLink_flag_ptr hy
    unfold shrinkAll
    refine Spec.bind (topEntryless_spec (m := t.id) t s hroot hy) ?_
    rintro el s0 _ _ ⟨rfl, rfl⟩
    have hcondiff : (t.height > 0 ∧ (t.size ≤ t.shrinkBelow ∨ Tree.topEntryless y.2.1 = true)) ↔
        shrinkCond (treeRec t y true) := by
      unfold shrinkCond
      simp only [treeRec, hyrow]
    refine Spec.ite (fun hc => ?_) (fun hc => ?_)
    · have hcond : shrinkCond (treeRec t y true) := hcondiff.mp hc
      refine Spec.bind (shrink_spec E t s0 hg hroot hy hynd) ?_
      rintro t1 s1 _ hgr1 ⟨r, g1, y1, rfl, hh0, hy1, hy1f, hy1row, hfp1, hr⟩
      have hg1 := hgr1.good hg
      have hlen1 := hgr1.length
      have hrec1 : treeRec (shrunkTree t r) y1 true = Tree.shrinkStep (treeRec t y true) :=
        treeRec_shrunk hyf hy1f (by rw [hyrow]; exact hy1row)
      rcases hr with rfl | ⟨na, rfl, hd1⟩
      · -- the tree became empty
        cases f with
        | zero => exact Spec.oof
        | succ f' =>
          unfold shrinkAll
          refine Spec.bind (topEntryless_nil_spec (m := t.id) (shrunkTree t .nil) s1 rfl) ?_
          rintro el1 s1' _ _ ⟨rfl, rfl⟩
          refine Spec.ite (fun _ => ?_) (fun hc1 => ?_)
          · rw [shrink_nil_fail E _ rfl]
            exact Spec.bind (Q1 := fun _ _ => True) Spec.fail (fun _ _ h => by cases h)
          · refine Spec.pure ⟨g1, y1, hy1, hy1f, rfl, rfl, rfl, hfp1, Or.inr ⟨rfl, ?_, ?_, 1, ?_⟩⟩
            · exact Nat.sub_lt (Nat.pos_of_ne_zero hh0) Nat.one_pos
            · intro h
              exact hc1 ⟨h.1, Or.inl h.2⟩
            · rw [hrec1, shrinkLoop_succ, if_pos hcond]; rfl
      · -- the tree still has a top node
        refine (ih (shrunkTree t (.ptr na)) s1 g1 na y1 hg1 rfl hy1 hfp1.1 hd1).conseq ?_
        rintro t' s' _ hgr' ⟨g', y', h1, h2, h3, h4, h5, h6, h7⟩
        refine ⟨g', y', h1, h2, h3, h4, h5, hfp1.trans h6 hlen1, ?_⟩
        rcases h7 with ⟨a', e1, e2, e3, e4⟩ | ⟨e1, e2, e3, n, e4⟩
        · refine Or.inl ⟨a', e1, e2, ?_, e4⟩
          rw [e3, hrec1, shrinkLoop_succ, if_pos hcond]
        · refine Or.inr ⟨e1, ?_, e3, n + 1, ?_⟩
          · exact Nat.lt_of_lt_of_le e2 (Nat.sub_le t.height 1)
          · rw [e4, hrec1, shrinkLoop_succ, if_pos hcond]
    · have hncond : ¬ shrinkCond (treeRec t y true) := fun h => hc (hcondiff.mpr h)
      refine Spec.pure ⟨g, y, by rw [hroot]; exact hy, hyf, rfl, rfl, rfl, FpExt.refl hynd,
        Or.inl ⟨a, hroot, hdirty, ?_, hncond⟩⟩
      rw [shrinkLoop_succ, if_neg hncond]

end Mast.Ptr
