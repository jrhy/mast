import Mastverif.Lemmas.RefDelRows
import Mastverif.Lemmas.RefRowsGrow
/-! Row lemmas for `T.shrink`, `T.snoc`, `Tree.topEntryless` against `mkRow` / `appendRow` (pure list reasoning). -/
namespace Mast.Ptr
open Mast.Heap

theorem shrink_mkRow_cons' (p : Bool) (c : T) (ls : List (Bool × T)) (k : Nat) (ks : List Nat) (v : Nat) (vs : List Nat)
    (h : ls ≠ []) : T.shrink (mkRow ((p, c) :: ls) (k :: ks) (v :: vs)) = T.snoc k v (T.shrink (mkRow ls ks vs)) c := by
  rw [mkRow_cons' _ _ _ _ _ _ _ h]; rfl

theorem shrink_mkRow_cons (p : Bool) (c : T) (x : Bool × T) (ls : List (Bool × T)) (k : Nat) (ks : List Nat)
    (v : Nat) (vs : List Nat) :
    T.shrink (mkRow ((p, c) :: x :: ls) (k :: ks) (v :: vs)) = T.snoc k v (T.shrink (mkRow (x :: ls) ks vs)) c :=
  shrink_mkRow_cons' p c (x :: ls) k ks v vs (List.cons_ne_nil _ _)

theorem shrink_mkRow_single (p : Bool) (c : T) (ks vs : List Nat) : T.shrink (mkRow [(p, c)] ks vs) = T.unmk c := by
  rw [mkRow_single]; rfl

theorem snoc_nil (k v : Nat) (rest : T) : T.snoc k v rest T.nil = appendRow [(false, T.nil)] [k] [v] rest := rfl

/-- an absent child and an empty child node are spliced in the same way -/
theorem snoc_unmk (k v : Nat) (rest c : T) : T.snoc k v rest (T.unmk c) = T.snoc k v rest c := by
  cases c <;> rfl

theorem unmk_nil : T.unmk T.nil = mkRow [(false, T.nil)] [] [] := by
  rw [mkRow_single]; rfl

theorem snoc_mkRow (k v : Nat) (rest : T) (gks : List Nat) (gcs : List (Bool × T)) (gvs : List Nat)
    (hl : gcs.length = gks.length + 1) (hv : gvs.length = gks.length) :
    T.snoc k v rest (mkRow gcs gks gvs) = appendRow gcs (gks ++ [k]) (gvs ++ [v]) rest := by
  refine row_induction ?_ ?_ gks gcs gvs hl hv
  · rintro ⟨p, c⟩
    rw [mkRow_single]; rfl
  · rintro ⟨p, c⟩ y ls k0 gks v0 gvs ih
    rw [mkRow_cons]
    simp only [T.snoc, List.cons_append, appendRow]
    rw [ih]

theorem topEntryless_mkRow {cs : List (Bool × T)} {ks vs : List Nat} (hl : cs.length = ks.length + 1)
    (hv : vs.length = ks.length) : Tree.topEntryless (mkRow cs ks vs) = (ks.length == 0) := by
  refine row_induction ?_ ?_ ks cs vs hl hv
  · rintro ⟨p, c⟩; rw [mkRow_single]; rfl
  · rintro ⟨p, c⟩ x ls k ks v vs _; rw [mkRow_cons]; rfl

/-- the general step of the loop of `shrink` on rows: a child row `mkRow gcs gks gvs` followed by the entry `(k, v)`
    is spliced in behind the accumulated entries -/
theorem appendRow_snoc_mkRow (A : List (Bool × T)) (ka va : List Nat) (k v : Nat) (R : T)
    (gcs : List (Bool × T)) (gks gvs : List Nat) (hl : A.length = ka.length) (hv : va.length = ka.length)
    (hgl : gcs.length = gks.length + 1) (hgv : gvs.length = gks.length) :
    appendRow (A ++ gcs) (ka ++ gks ++ [k]) (va ++ gvs ++ [v]) R =
      appendRow A ka va (T.snoc k v R (mkRow gcs gks gvs)) := by
  rw [snoc_mkRow k v R gks gcs gvs hgl hgv, List.append_assoc, List.append_assoc,
    appendRow_append A ka va gcs _ _ R hl hv]

end Mast.Ptr
