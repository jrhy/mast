import Mastverif.Lemmas.RefDelTop
import Mastverif.Lemmas.RefSys
import Mastverif.Lemmas.GrowShrink
import Mastverif.Lemmas.TreeInv
/-!
Around `delete_refines`: a condition on the input under which the two models agree (the removed entry is not the last
one) and that `t'.root ≠ .nil` cannot be weakened; the other trees of a system; when `Tree.delete` succeeds.
The threshold invariant `Thresh` of BOTH operations lives here (`insert_thresh`, `delete_thresh`): `Healthy` alone is
not kept by `Delete`.
-/
namespace Mast.Ptr
open Mast.Heap

/-! ## the entry removed is not the last one -/

theorem toList_shrinkLoop (n : Nat) (m : Tree) : (Tree.shrinkLoop n m).root.toList = m.root.toList :=
  Tree.shrinkLoop_induct (P := fun m' => m'.root.toList = m.root.toList)
    (fun m' h _ => (T.toList_shrink m'.root).trans h) n m rfl

/-- `delete_refines` with a condition on the input instead of `t'.root ≠ .nil`: some entry is left -/
theorem delete_refines' (E : Env) (fuel g : Nat) (s s' : PS) (t t' : PTree) (k v : Nat) (A : Tree)
    (hg : Good s) (hown : FpOwned s.heap t.id (footprint s g t))
    (hA : repTree s g t = some A) (h : delete E fuel s t k v = (s', t', .ok))
    (hleft : ∀ r, T.del k (A.levels E.layer k) A.root = some r → r.toList ≠ []) :
    ∃ g' A', repTree s' g' t' = some A' ∧ Tree.delete E.layer A k v = .ok A' ∧ Good s' ∧
      FpOwned s'.heap t'.id (footprint s' g' t') ∧ t'.id = t.id ∧ t'.bf = t.bf ∧ Step t.id s s' := by
  apply delete_refines E fuel g s s' t t' k v A hg hown hA h
  intro hroot
  obtain ⟨g', y', r, hD⟩ := delete_ok_core E fuel g s s' t t' k v A hg hown hA h
  have hdel := hD.del
  have hy' := hD.rep
  rcases hD.shape with ⟨a', e1, _⟩ | ⟨_, _, _, n, e4⟩
  · rw [hroot] at e1; cases e1
  · have hy0 : y' = (false, T.nil, []) := by
      rw [hroot] at hy'; simp at hy'; exact hy'.symm
    have h1 : (treeRec t' y' true).root.toList = [] := by rw [hy0]; rfl
    rw [e4, toList_shrinkLoop] at h1
    exact hleft r hdel h1

/-! ## the other trees -/

theorem delete_other_trees (E : Env) (fuel g g2 : Nat) (s s' : PS) (t t' t2 : PTree) (k v : Nat) (A B : Tree)
    (o : Outcome) (hg : Good s) (hown : FpOwned s.heap t.id (footprint s g t))
    (hA : repTree s g t = some A) (h : delete E fuel s t k v = (s', t', o)) (ho : o = .ok ∨ o = .err)
    (hne : t2.id ≠ t.id) (hB : repTree s g2 t2 = some B) (hown2 : FpOwned s.heap t2.id (footprint s g2 t2)) :
    repTree s' g2 t2 = some B ∧ FpOwned s'.heap t2.id (footprint s' g2 t2) := by
  have hst : Step t.id s s' := by
    rcases ho with rfl | rfl
    · exact delete_ok_step E fuel g s s' t t' k v A hg hown hA h
    · exact (delete_err_refines E fuel g s s' t t' k v A hg hown hA h).2.1
  exact hst.repTree_other hne hB hown2

/-! ## thresholds -/

/-- the thresholds are consecutive powers of the branch factor (true after `LoadMast`, kept by `grow` and `shrink`) -/
def Thresh (t : PTree) : Prop := 2 ≤ t.bf ∧ ∃ e, t.shrinkBelow = t.bf ^ e ∧ t.growAfter = t.bf ^ (e + 1)

def ThreshT (m : Tree) : Prop := 2 ≤ m.bf ∧ ∃ e, m.shrinkBelow = m.bf ^ e ∧ m.growAfter = m.bf ^ (e + 1)

theorem Thresh.healthy {t : PTree} (h : Thresh t) : Healthy t := by
  obtain ⟨hbf, e, _, hga⟩ := h
  refine ⟨hbf, ?_⟩
  rw [hga]
  exact Nat.pow_pos (by omega)

theorem threshT_of_repTree {s : PS} {g : Nat} {t : PTree} {A : Tree} (hA : repTree s g t = some A) :
    ThreshT A ↔ Thresh t := by
  obtain ⟨x, _, _, rfl⟩ := repTree_eq_some.mp hA
  rfl

theorem threshT_growStep (layer : Nat → Nat) {m : Tree} (h : ThreshT m) : ThreshT (Tree.growStep layer m) := by
  obtain ⟨hbf, e, hsb, hga⟩ := h
  refine ⟨hbf, e + 1, ?_, ?_⟩
  · show m.growAfter = m.bf ^ (e + 1); exact hga
  · show m.growAfter * m.bf = m.bf ^ (e + 1 + 1)
    rw [hga, Nat.pow_succ m.bf (e + 1)]

theorem threshT_growLoop (layer : Nat → Nat) : ∀ (f : Nat) (m : Tree), ThreshT m → ThreshT (Tree.growLoop layer f m) := by
  intro f
  induction f with
  | zero => intro m h; exact h
  | succ f ih =>
    intro m h
    rw [growLoop_succ]
    split
    · exact ih _ (threshT_growStep layer h)
    · exact h

theorem threshT_shrinkStep {m : Tree} (h : ThreshT m) : ThreshT (Tree.shrinkStep m) := by
  obtain ⟨hbf, e, hsb, hga⟩ := h
  have hpos : 0 < m.bf := by omega
  by_cases hgt : m.shrinkBelow > 1
  · cases e with
    | zero => rw [hsb] at hgt; simp at hgt
    | succ e =>
      refine ⟨hbf, e, ?_, ?_⟩
      · show (if m.shrinkBelow > 1 then m.shrinkBelow / m.bf else m.shrinkBelow) = m.bf ^ e
        rw [if_pos hgt, hsb, Nat.pow_succ, Nat.mul_div_cancel _ hpos]
      · show (if m.shrinkBelow > 1 then m.growAfter / m.bf else m.growAfter) = m.bf ^ (e + 1)
        rw [if_pos hgt, hga, Nat.pow_succ m.bf (e + 1), Nat.mul_div_cancel _ hpos]
  · refine ⟨hbf, e, ?_, ?_⟩
    · show (if m.shrinkBelow > 1 then m.shrinkBelow / m.bf else m.shrinkBelow) = m.bf ^ e
      rw [if_neg hgt]; exact hsb
    · show (if m.shrinkBelow > 1 then m.growAfter / m.bf else m.growAfter) = m.bf ^ (e + 1)
      rw [if_neg hgt]; exact hga

theorem threshT_shrinkLoop (n : Nat) (m : Tree) (h : ThreshT m) : ThreshT (Tree.shrinkLoop n m) :=
  Tree.shrinkLoop_induct (P := ThreshT) (fun _ h _ => threshT_shrinkStep h) n m h

theorem threshT_insert {layer : Nat → Nat} {A A' : Tree} {k v : Nat} (h : ThreshT A)
    (hi : Tree.insert layer A k v = .ok A') : ThreshT A' := by
  unfold Tree.insert at hi
  split at hi
  · split at hi
    · injection hi with hi; rw [← hi]; exact h
    · split at hi
      · injection hi with hi; rw [← hi]; exact h
      · cases hi
  · split at hi
    · cases hi
    · injection hi with hi
      rw [← hi]
      exact threshT_growLoop layer _ _ h

/-- `Insert` keeps the threshold invariant (and `Thresh` gives the `Healthy` that `insert_refines` needs) -/
theorem insert_thresh (E : Env) (fuel g : Nat) (s s' : PS) (t t' : PTree) (k v : Nat) (A : Tree)
    (hg : Good s) (hown : FpOwned s.heap t.id (footprint s g t)) (hth : Thresh t)
    (hA : repTree s g t = some A) (h : insert E fuel s t k v = (s', t', .ok)) : Thresh t' := by
  obtain ⟨g', A', hA', hins, _⟩ := insert_refines E fuel g s s' t t' k v A hg hown hth.healthy hA h
  exact (threshT_of_repTree hA').mp (threshT_insert ((threshT_of_repTree hA).mpr hth) hins)

theorem delete_thresh (E : Env) (fuel g : Nat) (s s' : PS) (t t' : PTree) (k v : Nat) (A : Tree)
    (hg : Good s) (hown : FpOwned s.heap t.id (footprint s g t)) (hth : Thresh t)
    (hA : repTree s g t = some A) (h : delete E fuel s t k v = (s', t', .ok)) : Thresh t' := by
  obtain ⟨g', y', r, hOk⟩ := delete_ok_core E fuel g s s' t t' k v A hg hown hA h
  have hD : ThreshT (delRec A r) := (threshT_of_repTree hA).mpr hth
  have hrec : ∀ n, treeRec t' y' true = Tree.shrinkLoop n (delRec A r) → Thresh t' := by
    intro n hn
    have : ThreshT (treeRec t' y' true) := by rw [hn]; exact threshT_shrinkLoop n _ hD
    exact this
  rcases hOk.shape with ⟨_, _, _, e3⟩ | ⟨_, _, _, n, e4⟩
  · exact hrec _ e3
  · exact hrec _ e4

/-- `Healthy` alone is NOT kept by the height reduction: thresholds 2 / 2 with branch factor 3 -/
example : Healthy { id := 1, root := .nil, size := 0, height := 1, bf := 3, growAfter := 2, shrinkBelow := 2 } ∧
    ¬ Healthy (shrunkTree { id := 1, root := .nil, size := 0, height := 1, bf := 3, growAfter := 2, shrinkBelow := 2 }
      .nil) := by
  unfold Healthy shrunkTree; decide

/-- the form that iterates along a history of inserts and deletes: `Thresh` in, `Thresh` (hence `Healthy`) out -/
theorem delete_refines_thresh (E : Env) (fuel g : Nat) (s s' : PS) (t t' : PTree) (k v : Nat) (A : Tree)
    (hg : Good s) (hown : FpOwned s.heap t.id (footprint s g t)) (hth : Thresh t)
    (hA : repTree s g t = some A) (h : delete E fuel s t k v = (s', t', .ok)) (hroot : t'.root ≠ .nil) :
    ∃ g' A', repTree s' g' t' = some A' ∧ Tree.delete E.layer A k v = .ok A' ∧ Good s' ∧
      FpOwned s'.heap t'.id (footprint s' g' t') ∧ Thresh t' ∧ Healthy t' ∧ t'.id = t.id ∧ Step t.id s s' := by
  obtain ⟨g', A', h1, h2, h3, h4, h5, _, h7⟩ := delete_refines E fuel g s s' t t' k v A hg hown hA h hroot
  have hth' := delete_thresh E fuel g s s' t t' k v A hg hown hth hA h
  exact ⟨g', A', h1, h2, h3, h4, hth', hth'.healthy, h5, h7⟩

/-! ## `t'.root ≠ .nil` is the weakest hypothesis: with a nil root the results differ in the `dirty` field -/

theorem dirty_shrinkLoop (n : Nat) (m : Tree) : (Tree.shrinkLoop n m).dirty = m.dirty :=
  Tree.shrinkLoop_induct (P := fun m' => m'.dirty = m.dirty) (fun _ h _ => h) n m rfl

theorem delete_emptied_disagree (E : Env) (fuel g : Nat) (s s' : PS) (t t' : PTree) (k v : Nat) (A : Tree)
    (hg : Good s) (hown : FpOwned s.heap t.id (footprint s g t))
    (hA : repTree s g t = some A) (h : delete E fuel s t k v = (s', t', .ok)) (hroot : t'.root = .nil) :
    ∀ g' A', repTree s' g' t' = some A' → Tree.delete E.layer A k v ≠ .ok A' := by
  intro g' A' hA' hd
  obtain ⟨x, hx, _, rfl⟩ := repTree_eq_some.mp hA'
  obtain ⟨_, _, r, hD⟩ := delete_ok_core E fuel g s s' t t' k v A hg hown hA h
  rw [tree_delete_ok hD.lookup hD.del] at hd
  injection hd with hd
  have h1 := congrArg Tree.dirty hd
  rw [dirty_shrinkLoop] at h1
  have h2 : (treeRec t' x (rootDirty s'.heap t'.root)).dirty = false := by
    show rootDirty s'.heap t'.root = false
    rw [hroot]; rfl
  rw [h2] at h1
  cases h1

/-! ## when `Tree.delete` succeeds -/

theorem tree_delete_ok_iff (layer : Nat → Nat) (A : Tree) (k v : Nat) :
    (∃ B, Tree.delete layer A k v = .ok B) ↔ Tree.lookup layer A k = some v := by
  constructor
  · rintro ⟨B, hB⟩
    cases hl : Tree.lookup layer A k with
    | none => rw [tree_delete_notpresent hl] at hB; cases hB
    | some v' =>
      by_cases hvv : v' = v
      · rw [hvv]
      · rw [tree_delete_mismatch hl hvv] at hB; cases hB
  · intro hl
    have h1 : (T.del k (A.levels layer k) A.root).isSome = true := T.del_isSome_of_get k _ _ _ hl
    obtain ⟨r, hr⟩ := Option.isSome_iff_exists.mp h1
    exact ⟨_, tree_delete_ok hl hr⟩

end Mast.Ptr
#print axioms Mast.Ptr.delete_refines'
#print axioms Mast.Ptr.delete_other_trees
#print axioms Mast.Ptr.insert_thresh
#print axioms Mast.Ptr.delete_thresh
#print axioms Mast.Ptr.delete_refines_thresh
#print axioms Mast.Ptr.delete_emptied_disagree
