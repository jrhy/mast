import Mastverif.Lemmas.RefDelCommit
import Mastverif.Lemmas.RefDelShrinkAll
import Mastverif.Lemmas.RefNoErr
/-! `Delete` refines `Tree.delete`. -/
namespace Mast.Ptr
open Mast.Heap

/-- the functional tree with the entry removed, before the height reduction -/
def delRec (A : Tree) (r : T) : Tree := { A with root := r, rootP := false, dirty := true, size := A.size - 1 }

theorem tree_delete_ok {layer : Nat → Nat} {m : Tree} {k v : Nat} {r : T} (h : m.lookup layer k = some v)
    (hd : T.del k (m.levels layer k) m.root = some r) :
    Tree.delete layer m k v = .ok (Tree.shrinkLoop (m.height + 1) (delRec m r)) := by
  unfold Tree.delete; rw [h]; simp [hd, delRec]

theorem tree_delete_notpresent {layer : Nat → Nat} {m : Tree} {k v : Nat} (h : m.lookup layer k = none) :
    Tree.delete layer m k v = .err "notpresent" := by
  unfold Tree.delete; rw [h]

theorem tree_delete_mismatch {layer : Nat → Nat} {m : Tree} {k v v' : Nat} (h : m.lookup layer k = some v')
    (hne : v' ≠ v) : Tree.delete layer m k v = .err "valuemismatch" := by
  unfold Tree.delete; rw [h]; simp [hne]

theorem NoErrR.deleteCommit (t : PTree) (p : DelPlan) : NoErrR (deleteCommit t p) := by
  exact deleteCommit_noErr t p

/-- the ways `Delete` ends: the runs of `deletePlan`, `deleteCommit` (which cannot fail) and `shrinkAll` behind each
    result -/
inductive DeleteRun (E : Env) (fuel : Nat) (s : PS) (t : PTree) (k v : Nat) : PS × PTree × Outcome → Prop
  | other {s0 : PS} {t0 : PTree} {o : Outcome} : o ≠ .ok → o ≠ .err → DeleteRun E fuel s t k v (s0, t0, o)
  | planErr {s1 : PS} : deletePlan E t fuel k v s = .err s1 → DeleteRun E fuel s t k v (s1, t, .err)
  | shrunk {p : DelPlan} {s1 s2 s3 : PS} {root : HLink} {t2 : PTree} :
      deletePlan E t fuel k v s = .ok p s1 → deleteCommit t p s1 = .ok root s2 →
      shrinkAll E fuel { t with root := root, size := t.size - 1 } s2 = .ok t2 s3 →
      DeleteRun E fuel s t k v (s3, t2, .ok)
  | shrinkErr {p : DelPlan} {s1 s2 s3 : PS} {root : HLink} :
      deletePlan E t fuel k v s = .ok p s1 → deleteCommit t p s1 = .ok root s2 →
      shrinkAll E fuel { t with root := root, size := t.size - 1 } s2 = .err s3 →
      DeleteRun E fuel s t k v (s3, { t with root := root, size := t.size - 1 }, .err)

theorem delete_run (E : Env) (fuel : Nat) (s : PS) (t : PTree) (k v : Nat) :
    DeleteRun E fuel s t k v (delete E fuel s t k v) := by
  unfold delete
  cases hpl : deletePlan E t fuel k v s with
  | err s1 => exact .planErr hpl
  | panic | stuck | oof => exact .other nofun nofun
  | ok p s1 =>
    dsimp only
    cases hcm : deleteCommit t p s1 with
    | err s2 => exact absurd hcm (NoErrR.deleteCommit t p s1 s2)
    | panic | stuck | oof => exact .other nofun nofun
    | ok root s2 =>
      dsimp only
      unfold afterCommit
      cases hsh : shrinkAll E fuel { t with root := root, size := t.size - 1 } s2 with
      | ok t2 s3 => exact .shrunk hpl hcm hsh
      | err s3 => exact .shrinkErr hpl hcm hsh
      | panic | stuck | oof => exact .other nofun nofun

/-- the state `s2` after plan and commit: the entry is gone, the height is not yet reduced -/
structure DelCommitted (E : Env) (g : Nat) (s s2 : PS) (t : PTree) (k v : Nat) (A : Tree) (a0 g1 : Nat)
    (y : Bool × T × List Nat) : Prop where
  rep : repLink s2.heap s2.store g1 (.ptr a0) = some y
  lookup : Tree.lookup E.layer A k = some v
  del : T.del k (A.levels E.layer k) A.root = some y.2.1
  fp : FpExt s.heap.length (footprint s g t) y.2.2
  dirty : rootDirty s2.heap (.ptr a0) = true
  good : Good s2
  step : Step t.id s s2
  treeRec : treeRec { t with root := .ptr a0, size := t.size - 1 } y true = delRec A y.2.1

theorem delete_committed (E : Env) (fuel g : Nat) (s s1 s2 : PS) (t : PTree) (k v : Nat) (A : Tree) (p : DelPlan)
    (root : HLink) (hg : Good s) (hown : FpOwned s.heap t.id (footprint s g t)) (hA : repTree s g t = some A)
    (hpl : deletePlan E t fuel k v s = .ok p s1) (hcm : deleteCommit t p s1 = .ok root s2) :
    ∃ a0 g1 y, root = .ptr a0 ∧ DelCommitted E g s s2 t k v A a0 g1 y := by
  obtain ⟨x, hx, hxnd, hAeq⟩ := repTree_eq_some.mp hA
  rw [footprint_eq hx] at hown
  obtain ⟨hgr1, hroot, hplan⟩ := (deletePlan_spec E t fuel k v s hg hx hxnd).ok hpl
  have hxrow : T.unmk x.2.1 = x.2.1 := unmk_of_ne_nil (repLink_row_ne_nil hx hroot)
  obtain ⟨hst2, a0, g1, y, rfl, hy, hdel, hfp, hdirty⟩ :=
    (deleteCommit_spec t p k v s s1 x t.height (min (E.layer k) t.height) (hgr1.good hg) hgr1.toStep hown hplan).ok hcm
  refine ⟨a0, g1, y, rfl, hy, ?_, ?_, footprint_eq hx ▸ hfp, hdirty, hst2.good (hgr1.good hg),
    hgr1.toStep.trans hst2, ?_⟩
  · rw [hAeq]
    show T.get k (t.height - min (E.layer k) t.height) (T.unmk x.2.1) = some v
    rw [hxrow]; exact hplan.1
  · rw [hAeq]
    show T.del k (t.height - min (E.layer k) t.height) (T.unmk x.2.1) = some y.2.1
    rw [hxrow]; exact hdel
  · rw [hAeq]
    simp only [Ptr.treeRec, delRec, unmk_of_ne_nil (repLink_row_ne_nil hy (by simp)), repLink_flag_ptr hy]

/-- an `ok` run of `delete`: `y'` is what the new root link denotes, `r` the row with the entry removed; `shape`:
    a top node is left and the record is what the functional shrink loop computes, or the tree was emptied -/
structure DeleteOk (E : Env) (s s' : PS) (t t' : PTree) (k v : Nat) (A : Tree) (g' : Nat)
    (y' : Bool × T × List Nat) (r : T) : Prop where
  lookup : Tree.lookup E.layer A k = some v
  del : T.del k (A.levels E.layer k) A.root = some r
  rep : repLink s'.heap s'.store g' t'.root = some y'
  nodup : y'.2.2.Nodup
  flag : y'.1 = false
  good : Good s'
  owned : FpOwned s'.heap t'.id y'.2.2
  id : t'.id = t.id
  bf : t'.bf = t.bf
  step : Step t.id s s'
  shape : (∃ a', t'.root = .ptr a' ∧ rootDirty s'.heap t'.root = true ∧
        treeRec t' y' true = Tree.shrinkLoop (A.height + 1) (delRec A r)) ∨
     (t'.root = .nil ∧ t'.height < t.height ∧ ¬ (t'.height > 0 ∧ t'.size ≤ t'.shrinkBelow) ∧
        ∃ n, treeRec t' y' true = Tree.shrinkLoop n (delRec A r))

theorem delete_ok_core (E : Env) (fuel g : Nat) (s s' : PS) (t t' : PTree) (k v : Nat) (A : Tree)
    (hg : Good s) (hown : FpOwned s.heap t.id (footprint s g t))
    (hA : repTree s g t = some A) (h : delete E fuel s t k v = (s', t', .ok)) :
    ∃ g' y' r, DeleteOk E s s' t t' k v A g' y' r := by
  have hrun := delete_run E fuel s t k v
  rw [h] at hrun
  cases hrun with
  | other h1 _ => exact absurd rfl h1
  | @shrunk p s1 s2 _ root _ hpl hcm hsh =>
    obtain ⟨a0, g1, y, rfl, hC⟩ := delete_committed E fuel g s s1 s2 t k v A p root hg hown hA hpl hcm
    obtain ⟨hgr3, g3, y3, hy3, hy3f, hid3, hbf3, hsz3, hfp3, hcase⟩ :=
      (shrinkAll_refines E fuel { t with root := .ptr a0, size := t.size - 1 } s2 g1 a0 y hC.good rfl hC.rep hC.fp.1
        hC.dirty).ok hsh
    have hst03 : Step t.id s s' := hC.step.trans hgr3.toStep
    have hfp03 : FpExt s.heap.length (footprint s g t) y3.2.2 := hC.fp.trans hfp3 hC.step.len
    refine ⟨g3, y3, y.2.1, hC.lookup, hC.del, hy3, hfp03.1, hy3f, hgr3.good hC.good, ?_, hid3, hbf3, hst03, ?_⟩
    · rw [hid3]
      exact fpOwned_of_step hst03 hown hfp03 (repLink_fp_unshared _ _ _ hy3)
    · rcases hcase with ⟨a', e1, e2, e3, e4⟩ | ⟨e1, e2, e3, n, e4⟩
      · refine Or.inl ⟨a', e1, by rw [e1]; exact e2, ?_⟩
        rw [hC.treeRec] at e3
        rw [e3] at e4 ⊢
        exact (shrinkLoop_fuel fuel (delRec A y.2.1) e4).symm
      · refine Or.inr ⟨e1, e2, e3, n, ?_⟩
        rw [e4, hC.treeRec]

theorem delete_ok_step (E : Env) (fuel g : Nat) (s s' : PS) (t t' : PTree) (k v : Nat) (A : Tree)
    (hg : Good s) (hown : FpOwned s.heap t.id (footprint s g t))
    (hA : repTree s g t = some A) (h : delete E fuel s t k v = (s', t', .ok)) : Step t.id s s' := by
  obtain ⟨_, _, _, hD⟩ := delete_ok_core E fuel g s s' t t' k v A hg hown hA h
  exact hD.step

/-- when the tree did not shrink to the absent root link; `delete_refines_emptied` is the other case -/
theorem delete_refines (E : Env) (fuel g : Nat) (s s' : PS) (t t' : PTree) (k v : Nat) (A : Tree)
    (hg : Good s) (hown : FpOwned s.heap t.id (footprint s g t))
    (hA : repTree s g t = some A) (h : delete E fuel s t k v = (s', t', .ok)) (hroot : t'.root ≠ .nil) :
    ∃ g' A', repTree s' g' t' = some A' ∧ Tree.delete E.layer A k v = .ok A' ∧ Good s' ∧
      FpOwned s'.heap t'.id (footprint s' g' t') ∧ t'.id = t.id ∧ t'.bf = t.bf ∧ Step t.id s s' := by
  obtain ⟨g', y', r, hD⟩ := delete_ok_core E fuel g s s' t t' k v A hg hown hA h
  rcases hD.shape with ⟨a', e1, e2, e3⟩ | ⟨e1, _⟩
  · refine ⟨g', _, repTree_eq_some.mpr ⟨y', hD.rep, hD.nodup, rfl⟩, ?_, hD.good, ?_, hD.id, hD.bf, hD.step⟩
    · rw [tree_delete_ok hD.lookup hD.del, ← e3, e2]
    · rw [footprint_eq hD.rep]; exact hD.owned
  · exact absurd e1 hroot

/-- the case in which the two models differ: the last entry went and a `shrink` replaced the root link by `nil`.
    The object level reports `IsDirty = false` and stops shrinking (the next `shrink` would return an error);
    the functional model keeps `dirty = true` and shrinks down to height 0. -/
theorem delete_refines_emptied (E : Env) (fuel g : Nat) (s s' : PS) (t t' : PTree) (k v : Nat) (A : Tree)
    (hg : Good s) (hown : FpOwned s.heap t.id (footprint s g t))
    (hA : repTree s g t = some A) (h : delete E fuel s t k v = (s', t', .ok)) (hroot : t'.root = .nil) :
    ∃ g' A', repTree s' g' t' = some A' ∧ A'.root = T.last false T.nil ∧ A'.dirty = false ∧ t'.height < t.height ∧
      ¬ (t'.height > 0 ∧ t'.size ≤ t'.shrinkBelow) ∧
      Tree.delete E.layer A k v = .ok (Tree.shrinkLoop (A'.height + 1) { A' with dirty := true }) ∧
      (t'.height = 0 → Tree.delete E.layer A k v = .ok { A' with dirty := true }) ∧ Good s' ∧
      FpOwned s'.heap t'.id (footprint s' g' t') ∧ t'.id = t.id ∧ t'.bf = t.bf ∧ Step t.id s s' := by
  obtain ⟨g', y', r, hD⟩ := delete_ok_core E fuel g s s' t t' k v A hg hown hA h
  have hy' := hD.rep
  rcases hD.shape with ⟨a', e1, _⟩ | ⟨_, e2, e3, n, e4⟩
  · rw [hroot] at e1; cases e1
  · have hy0 : y' = (false, T.nil, []) := by
      rw [hroot] at hy'; simp at hy'; exact hy'.symm
    have hdirty : rootDirty s'.heap t'.root = false := by rw [hroot]; rfl
    have hrec : ({ treeRec t' y' (rootDirty s'.heap t'.root) with dirty := true } : Tree) = treeRec t' y' true := rfl
    have hmain : Tree.delete E.layer A k v =
        .ok (Tree.shrinkLoop ((treeRec t' y' (rootDirty s'.heap t'.root)).height + 1)
          { treeRec t' y' (rootDirty s'.heap t'.root) with dirty := true }) := by
      rw [tree_delete_ok hD.lookup hD.del, hrec]
      have hh : (treeRec t' y' (rootDirty s'.heap t'.root)).height = (treeRec t' y' true).height := rfl
      rw [hh, e4, ← shrinkLoop_add]
      have hconv : ¬ shrinkCond (Tree.shrinkLoop ((Tree.shrinkLoop n (delRec A r)).height + 1 + n) (delRec A r)) := by
        rw [shrinkLoop_add]
        exact shrinkLoop_conv _ _ (Nat.lt_succ_self _)
      have := shrinkLoop_fuel _ _ hconv
      have hD : (delRec A r).height = A.height := rfl
      rw [hD] at this
      rw [this]
    refine ⟨g', _, repTree_eq_some.mpr ⟨y', hy', hD.nodup, rfl⟩, ?_, hdirty, e2, e3, hmain, ?_, hD.good, ?_, hD.id, hD.bf,
      hD.step⟩
    · rw [hy0]; rfl
    · intro h0
      rw [hmain]
      have hnc : ¬ shrinkCond ({ treeRec t' y' (rootDirty s'.heap t'.root) with dirty := true } : Tree) := by
        intro hc
        have := hc.1
        simp only [treeRec] at this
        omega
      rw [shrinkLoop_of_not_cond hnc]
    · rw [footprint_eq hy']; exact hD.owned

/-- `Delete` ending in an error: either the tree is untouched (the plan failed: key absent, other value, a failed
    load or layer call, a failed merge), or the entry is gone — root replaced, `size` decremented — and only the
    height reduction failed (the recorded finding C12; the returned record is the one before any shrink). -/
theorem delete_err_refines (E : Env) (fuel g : Nat) (s s' : PS) (t t' : PTree) (k v : Nat) (A : Tree)
    (hg : Good s) (hown : FpOwned s.heap t.id (footprint s g t))
    (hA : repTree s g t = some A) (h : delete E fuel s t k v = (s', t', .err)) :
    Good s' ∧ Step t.id s s' ∧ t'.id = t.id ∧
    ((t' = t ∧ repTree s' g t = some A ∧ FpOwned s'.heap t.id (footprint s' g t)) ∨
     (∃ g' r, Tree.lookup E.layer A k = some v ∧ T.del k (A.levels E.layer k) A.root = some r ∧
        repTree s' g' t' = some (delRec A r) ∧ FpOwned s'.heap t'.id (footprint s' g' t'))) := by
  have hrun := delete_run E fuel s t k v
  rw [h] at hrun
  cases hrun with
  | other _ h2 => exact absurd rfl h2
  | planErr hpl =>
    obtain ⟨x, hx, hxnd, _⟩ := repTree_eq_some.mp hA
    have hgr1 := (deletePlan_spec E t fuel k v s hg hx hxnd).err hpl
    refine ⟨hgr1.good hg, hgr1.toStep, rfl, Or.inl ⟨rfl, hgr1.repTree hA, ?_⟩⟩
    rw [footprint_eq hx] at hown
    rw [footprint_eq (hgr1.rep hx)]
    exact fpOwned_of_step hgr1.toStep hown (FpExt.refl hxnd) (repLink_fp_unshared _ _ _ (hgr1.rep hx))
  | @shrinkErr p s1 s2 _ root hpl hcm hsh =>
    obtain ⟨a0, g1, y, rfl, hC⟩ := delete_committed E fuel g s s1 s2 t k v A p root hg hown hA hpl hcm
    have hgr3 : Grow t.id s2 s' :=
      (shrinkAll_refines E fuel { t with root := .ptr a0, size := t.size - 1 } s2 g1 a0 y hC.good rfl hC.rep hC.fp.1
        hC.dirty).err hsh
    have hst03 : Step t.id s s' := hC.step.trans hgr3.toStep
    have hy3 : repLink s'.heap s'.store g1 ({ t with root := .ptr a0, size := t.size - 1 } : PTree).root = some y :=
      hgr3.rep hC.rep
    refine ⟨hgr3.good hC.good, hst03, rfl, Or.inr ⟨g1, y.2.1, hC.lookup, hC.del, ?_, ?_⟩⟩
    · rw [← hC.treeRec]
      exact hgr3.repTree (repTree_eq_some.mpr ⟨y, hC.rep, hC.fp.1, by rw [hC.dirty]⟩)
    · show FpOwned s'.heap t.id (footprint s' g1 { t with root := .ptr a0, size := t.size - 1 })
      rw [footprint_eq hy3]
      exact fpOwned_of_step hst03 hown hC.fp (repLink_fp_unshared _ _ _ hy3)

/-- the object level does not succeed unless the functional lookup finds the key with that value, and a failed
    call then leaves the tree as it was, while `Tree.delete` reports "notpresent" / "valuemismatch" -/
theorem delete_absent (E : Env) (fuel g : Nat) (s s' : PS) (t t' : PTree) (k v : Nat) (A : Tree) (o : Outcome)
    (hg : Good s) (hown : FpOwned s.heap t.id (footprint s g t))
    (hA : repTree s g t = some A) (hne : Tree.lookup E.layer A k ≠ some v) (h : delete E fuel s t k v = (s', t', o)) :
    o ≠ .ok ∧
    (Tree.delete E.layer A k v = .err "notpresent" ∨ Tree.delete E.layer A k v = .err "valuemismatch") ∧
    (o = .err → t' = t ∧ repTree s' g t = some A ∧ Good s' ∧ FpOwned s'.heap t.id (footprint s' g t) ∧
      Step t.id s s') := by
  refine ⟨?_, ?_, ?_⟩
  · intro ho
    subst ho
    obtain ⟨_, _, _, hD⟩ := delete_ok_core E fuel g s s' t t' k v A hg hown hA h
    exact hne hD.lookup
  · cases hl : Tree.lookup E.layer A k with
    | none => exact Or.inl (tree_delete_notpresent hl)
    | some v' =>
      refine Or.inr (tree_delete_mismatch hl ?_)
      intro hvv; subst hvv; exact hne hl
  · intro ho
    subst ho
    obtain ⟨hg', hst, _, hcase⟩ := delete_err_refines E fuel g s s' t t' k v A hg hown hA h
    rcases hcase with ⟨e1, e2, e3⟩ | ⟨_, _, hlook, _⟩
    · exact ⟨e1, e2, hg', e3, hst⟩
    · exact absurd hlook hne

end Mast.Ptr
#print axioms Mast.Ptr.delete_refines
#print axioms Mast.Ptr.delete_refines_emptied
#print axioms Mast.Ptr.delete_err_refines
#print axioms Mast.Ptr.delete_absent
