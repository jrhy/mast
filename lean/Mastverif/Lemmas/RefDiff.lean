import Mastverif.Model.PtrDiff
import Mastverif.Lemmas.Diff
import Mastverif.Lemmas.RefCursor
/-!
# The object-level `diffOne` computes the entry diff

`StackRep s g os L`: the object-level stack `os` (links are node objects or names) denotes the
functional stack `L` (`Model/Diff.lean`): entries are the same, every link is non-nil and denotes
(`repLink`) the row at its position.  One `oStepBody` from stacks that denote `Lo`, `Ln` either ends
the diff (both flat lists empty) or leaves stacks that denote some `Lo'`, `Ln'` with the same
remaining merge: `diffL (flat Lo) (flat Ln) = entries of the events ++ diffL (flat Lo') (flat Ln')`,
a smaller measure, still ascending — whichever side the code chooses to open, and whether two links
are equal as names or as objects.  Loads may fail anywhere (the step then errs having only
allocated).

The branches of `oStepBody` are equations (`oStepBody_*`); those that load are the programs `openOne` and
`openBoth`, each with one specification for any links, which `Lemmas/RefDiffSim.lean` reads on stacks of names.
-/
namespace Mast.Ptr
open Mast.Heap Mast Mast.Diff Mast.T

def StackRep (s : PS) (g : Nat) : List OItem → List Item → Prop
  | [], [] => True
  | OItem.yld k v :: os, Item.yld k' v' :: is => k = k' ∧ v = v' ∧ StackRep s g os is
  | OItem.link l :: os, Item.link p t :: is =>
      l ≠ .nil ∧ (∃ fp, repLink s.heap s.store g l = some (p, t, fp)) ∧ StackRep s g os is
  | _, _ => False

theorem StackRep.of_nil {s : PS} {g : Nat} : ∀ {L : List Item}, StackRep s g [] L → L = []
  | [], _ => rfl
  | _ :: _, h => h.elim

theorem StackRep.of_yld {s : PS} {g k v : Nat} {os : List OItem} : ∀ {L : List Item},
    StackRep s g (OItem.yld k v :: os) L → ∃ Lt, L = Item.yld k v :: Lt ∧ StackRep s g os Lt
  | Item.yld _ _ :: Lt, h => by obtain ⟨rfl, rfl, h⟩ := h; exact ⟨Lt, rfl, h⟩
  | [], h => h.elim
  | Item.link _ _ :: _, h => h.elim

theorem StackRep.of_link {s : PS} {g : Nat} {l : HLink} {os : List OItem} : ∀ {L : List Item},
    StackRep s g (OItem.link l :: os) L → ∃ p t Lt, L = Item.link p t :: Lt ∧
      l ≠ .nil ∧ (∃ fp, repLink s.heap s.store g l = some (p, t, fp)) ∧ StackRep s g os Lt
  | Item.link p t :: Lt, h => ⟨p, t, Lt, rfl, h⟩
  | [], h => h.elim
  | Item.yld _ _ :: _, h => h.elim

theorem StackRep.imp {s s' : PS} {g g' : Nat}
    (hl : ∀ l x, repLink s.heap s.store g l = some x → repLink s'.heap s'.store g' l = some x) :
    ∀ {os : List OItem} {L : List Item}, StackRep s g os L → StackRep s' g' os L
  | [], _, h => by rw [h.of_nil]; trivial
  | OItem.yld _ _ :: _, _, h => by
    obtain ⟨Lt, rfl, ht⟩ := h.of_yld
    exact ⟨rfl, rfl, StackRep.imp hl ht⟩
  | OItem.link _ :: _, _, h => by
    obtain ⟨p, t, Lt, rfl, hne, ⟨fp, hx⟩, ht⟩ := h.of_link
    exact ⟨hne, ⟨fp, hl _ _ hx⟩, StackRep.imp hl ht⟩

theorem StackRep.grow {m : Nat} {s s' : PS} {g : Nat} (gr : Grow m s s') {os : List OItem} {L : List Item}
    (h : StackRep s g os L) : StackRep s' g os L :=
  h.imp fun _ _ => gr.rep

theorem StackRep.mono {s : PS} {g g2 : Nat} (hle : g ≤ g2) {os : List OItem} {L : List Item}
    (h : StackRep s g os L) : StackRep s g2 os L :=
  h.imp fun _ _ hx => repLink_mono_le hx hle

theorem StackRep.append {s : PS} {g : Nat} : ∀ {a : List OItem} {A : List Item} {b : List OItem} {B : List Item},
    StackRep s g a A → StackRep s g b B → StackRep s g (a ++ b) (A ++ B)
  | [], _, _, _, h, hb => by rw [h.of_nil]; exact hb
  | OItem.yld _ _ :: _, _, _, _, h, hb => by
    obtain ⟨Lt, rfl, ht⟩ := h.of_yld
    exact ⟨rfl, rfl, StackRep.append ht hb⟩
  | OItem.link _ :: _, _, _, _, h, hb => by
    obtain ⟨p, t, Lt, rfl, hne, hx, ht⟩ := h.of_link
    exact ⟨hne, hx, StackRep.append ht hb⟩

theorem linkItem_rep {s : PS} {g : Nat} {l : HLink} {c : Bool × T × List Nat}
    (hc : repLink s.heap s.store g l = some c) : StackRep s g (olinkItem l) (linkItem c.1 c.2.1) := by
  by_cases hl : l = .nil
  · subst hl
    rw [repLink_nil] at hc
    cases hc
    trivial
  · have h1 : olinkItem l = [OItem.link l] := by
      cases l with
      | nil => exact absurd rfl hl
      | ptr a => rfl
      | ref n => rfl
    have h2 : linkItem c.1 c.2.1 = [Item.link c.1 c.2.1] := by
      cases hr : c.2.1 with
      | nil => exact absurd hr (repLink_row_ne_nil hc hl)
      | last q d => rfl
      | cons q d k v r => rfl
    rw [h1, h2]
    exact ⟨hl, ⟨c.2.2, hc⟩, trivial⟩

theorem oitems_rep {s : PS} {g : Nat} : ∀ (ks : List Nat) (ls : List HLink) (vs : List Nat)
    (cs : List (Bool × T × List Nat)), ls.length = ks.length + 1 → vs.length = ks.length →
    seqO (ls.map (repLink s.heap s.store g)) = some cs →
    StackRep s g (oitems ls ks vs) (items (mkRow (cs.map fun c => (c.1, c.2.1)) ks vs)) := by
  intro ks
  induction ks with
  | nil =>
    intro ls vs cs hl hv hseq
    match ls, hl with
    | [l], _ =>
      obtain ⟨c, cs', hc, hcs', rfl⟩ := seqO_map_cons.mp hseq
      cases hcs'
      exact linkItem_rep hc
  | cons k ks ih =>
    intro ls vs cs hl hv hseq
    match ls, vs, hl, hv with
    | l :: l2 :: ls', v :: vs', hl, hv =>
      obtain ⟨c, cs', hc, hcs', rfl⟩ := seqO_map_cons.mp hseq
      obtain ⟨c2, cs2, hc2, hcs2, rfl⟩ := seqO_map_cons.mp hcs'
      have := ih (l2 :: ls') vs' (c2 :: cs2) (Nat.succ.inj hl) (Nat.succ.inj hv) hcs'
      exact StackRep.append (linkItem_rep hc) ⟨rfl, rfl, this⟩

/-- what the fields of a node object say about the row `t` it denotes: a pass-through node (one link,
    no entry) stands for `T.last`, any other has a first key and at least two links -/
structure NodeRow (s : PS) (g : Nat) (t : T) (nd : MNode) : Prop where
  items : StackRep s g (oitems nd.links nd.keys nd.vals) (Diff.items t)
  shape : (∃ c q crow fc, nd.links = [c] ∧ nd.keys = [] ∧ t = T.last q crow ∧
      repLink s.heap s.store g c = some (q, crow, fc)) ∨
    (∃ c c2 ls k ks, nd.links = c :: c2 :: ls ∧ nd.keys = k :: ks ∧ isPass t = none ∧ firstKey t = some k)

theorem NodeRow.of_fields {s : PS} {g : Nat} {nd : MNode} {cs : List (Bool × T × List Nat)} (hval : ValidN nd)
    (hseq : seqO (nd.links.map (repLink s.heap s.store g)) = some cs) :
    NodeRow s (g + 1) (mkRow (cs.map fun c => (c.1, c.2.1)) nd.keys nd.vals) nd := by
  refine ⟨(oitems_rep _ _ _ cs hval.1 hval.2 hseq).mono (Nat.le_succ g), ?_⟩
  obtain ⟨hl, hv⟩ := hval
  cases hk : nd.keys with
  | nil =>
    rw [hk] at hl
    match hlk : nd.links, hl with
    | [c], _ =>
      rw [hlk] at hseq
      obtain ⟨c0, cs', hc0, hcs', rfl⟩ := seqO_map_cons.mp hseq
      cases hcs'
      exact Or.inl ⟨c, c0.1, c0.2.1, c0.2.2, rfl, rfl, rfl, repLink_mono _ _ _ hc0⟩
  | cons k ks =>
    rw [hk] at hl hv
    match hlk : nd.links, hvs : nd.vals, hl, hv with
    | c :: c2 :: ls, v :: vs, _, _ =>
      rw [hlk] at hseq
      obtain ⟨c0, cs', _, hcs', rfl⟩ := seqO_map_cons.mp hseq
      obtain ⟨c1, cs2, _, _, rfl⟩ := seqO_map_cons.mp hcs'
      exact Or.inr ⟨c, c2, ls, k, ks, rfl, rfl, rfl, rfl⟩

/-- below a name hang names only (`Good.sflat`: what a name loads is a shared object) -/
theorem load_row {m : Nat} (E : Env) {s : PS} {g : Nat} {l : HLink} {p : Bool} {t : T} {fp : List Nat}
    (hg : Good s) (hx : repLink s.heap s.store g l = some (p, t, fp)) :
    Spec (Grow m) (load E l) s (fun a s' => ∃ nd, s'.heap[a]? = some nd ∧ NodeRow s' g t nd ∧
      (isPtr l = false → ∀ c ∈ nd.links, isPtr c = false)) := by
  cases l with
  | nil => exact Spec.fail
  | ptr b =>
    obtain ⟨g', nd, cs, rfl, hnd, hval, hseq, hxe⟩ := repLink_ptr_some.mp hx
    obtain rfl : t = mkRow (cs.map fun c => (c.1, c.2.1)) nd.keys nd.vals := congrArg (·.2.1) hxe
    exact Spec.pure ⟨nd, hnd, .of_fields hval hseq, fun h => nomatch h⟩
  | ref n =>
    refine (loadRef_spec (m := m) E n s hg).conseq ?_
    rintro a s1 _ hgr ⟨⟨nd, hnd, hsh⟩, hld⟩
    obtain ⟨g', nd', cs, rfl, hnd', hval, hseq, hxe⟩ := repLink_ptr_some.mp (hld g _ hx)
    obtain rfl : nd = nd' := Option.some.inj (hnd.symm.trans hnd')
    obtain rfl : t = mkRow (cs.map fun c => (c.1, c.2.1)) nd.keys nd.vals := congrArg (·.2.1) hxe
    exact ⟨nd, hnd, .of_fields hval hseq, fun _ => (hgr.good hg).sflat a nd hnd hsh⟩

theorem open_link_bind {m : Nat} {β : Type} (E : Env) {s : PS} {g : Nat} {l : HLink} {p : Bool} {t : T} {fp : List Nat}
    (hg : Good s) (hx : repLink s.heap s.store g l = some (p, t, fp)) (k : MNode → M β) (Q : β → PS → Prop)
    (hk : ∀ nd s1, Grow m s s1 → NodeRow s1 g t nd → (isPtr l = false → ∀ c ∈ nd.links, isPtr c = false) →
      Spec (Grow m) (k nd) s1 Q) :
    Spec (Grow m) (do let a ← load E l; let nd ← read a; k nd) s Q := by
  refine Spec.bind (load_row (m := m) E hg hx) ?_
  rintro a s1 _ hgr ⟨nd, hnd, hv, hn⟩
  refine Spec.bind (read_spec a s1) ?_
  rintro nd' s2 _ _ ⟨rfl, hnd'⟩
  obtain rfl : nd = nd' := Option.some.inj (hnd.symm.trans hnd')
  exact hk nd s1 hgr hv hn

theorem open_link_spec {m : Nat} (E : Env) {s : PS} {g : Nat} {l : HLink} {p : Bool} {t : T} {fp : List Nat}
    (hg : Good s) (hx : repLink s.heap s.store g l = some (p, t, fp)) :
    Spec (Grow m) (do let a ← load E l; read a) s (fun nd s' =>
      ∃ g' cs, g = g' + 1 ∧ ValidN nd ∧ seqO (nd.links.map (repLink s'.heap s'.store g')) = some cs ∧
        t = mkRow (cs.map fun c => (c.1, c.2.1)) nd.keys nd.vals) := by
  refine Spec.bind (load_spec (m := m) E l s hg) ?_
  rintro a s1 _ hgr ⟨_, _, hld⟩
  obtain ⟨g', nd, cs, hg', hnd, hval, hseq, hxe⟩ := repLink_ptr_some.mp (hld g _ hx)
  refine (read_spec a s1).conseq ?_
  rintro nd' s2 _ _ ⟨rfl, hnd'⟩
  obtain rfl : nd = nd' := Option.some.inj (hnd.symm.trans hnd')
  exact ⟨g', cs, hg', hval, hseq, congrArg (·.2.1) hxe⟩

/-! ## `alreadyNotified`

Its walk swallows failures with `tryE` (`tryE_spec` in `Lemmas/RefCursor.lean`, `tryE_ok_none` here). -/

def NoFail (E : Env) : Prop := (∀ t, E.failAt t = false) ∧ (∀ t, E.layerFailAt t = false)

theorem loadRef_not_err (E : Env) (hnf : NoFail E) {s : PS} {g n : Nat} {x : Bool × T × List Nat}
    (hx : repLink s.heap s.store g (.ref n) = some x) : ∀ s', loadRef E n s ≠ .err s' := by
  intro s' h
  obtain ⟨_, sn, _, _, hsn, _, _, _⟩ := repLink_ref_some.mp hx
  unfold loadRef at h
  dsimp only at h
  split at h
  · cases h
  · rw [hnf.1] at h
    simp only [Bool.false_eq_true, if_false] at h
    have : (if n = 0 then none else s.store[n - 1]?) = some sn := hsn
    rw [this] at h
    simp only at h
    split at h <;> cases h

theorem tryE_ok_none {α : Type} {x : M α} {s s1 : PS} (h : tryE x s = .ok none s1) : x s = .err s1 := by
  unfold tryE at h
  cases hx : x s with
  | ok a s' => rw [hx] at h; cases h
  | err s' => rw [hx] at h; injection h with _ h2; rw [h2]
  | panic => rw [hx] at h; cases h
  | stuck => rw [hx] at h; cases h
  | oof => rw [hx] at h; cases h

theorem layerM_not_err (E : Env) (hnf : NoFail E) (k : Nat) (s : PS) : ∀ s', layerM E k s ≠ .err s' := by
  intro s' h
  unfold layerM at h
  rw [hnf.2] at h
  simp at h

/-- the frame of `Spec` says that the walk only allocates; the post speaks when nothing can fail -/
theorem ochain_spec {m : Nat} (E : Env) : ∀ (f g : Nat) (l : HLink) (s : PS) (p : Bool) (t : T) (fp : List Nat),
    Good s → repLink s.heap s.store g l = some (p, t, fp) →
    Spec (Grow m) (ochain E f l) s (fun r _ => NoFail E → isPtr l = false → r = (chain E.layer p t).1) := by
  intro f
  induction f with
  | zero => intro g l s p t fp _ _; exact Spec.oof
  | succ f ih =>
    intro g l s p t fp hg hx
    unfold ochain
    refine Spec.bind (tryE_spec (load_row (m := m) E hg hx)) ?_
    intro r s1 heq hgr hq
    cases r with
    | none =>
      -- the load failed: of a nil link, below which `chain` finds nothing; a name cannot fail
      refine Spec.pure fun hnf hnp => ?_
      cases l with
      | nil => rw [repLink_nil] at hx; cases hx; rfl
      | ptr a => cases hnp
      | ref n => exact absurd (tryE_ok_none heq) (loadRef_not_err E hnf hx s1)
    | some a =>
      obtain ⟨nd, hnd, hv, hnm⟩ := hq
      refine Spec.bind (read_spec a s1) ?_
      rintro nd' s2 _ _ ⟨rfl, hnd'⟩
      obtain rfl : nd = nd' := Option.some.inj (hnd.symm.trans hnd')
      rcases hv.shape with ⟨c, q, crow, fc, hl, _, rfl, hc⟩ | ⟨c, c2, ls, k, ks, hl, hk, _, hfk⟩
      · rw [hl]
        exact (ih g c s1 q crow fc (hgr.good hg) hc).conseq fun _ _ _ _ h hnf hnp =>
          h hnf (hnm hnp c (by rw [hl]; exact List.mem_cons_self ..))
      · rw [hl, hk, chain_of_firstKey E.layer hfk]
        refine Spec.bind (tryE_spec (layerM_spec (m := m) E k s1)) ?_
        intro r2 s3 heq2 _ hq2
        cases r2 with
        | none => exact Spec.pure fun hnf _ => absurd (tryE_ok_none heq2) (layerM_not_err E hnf k s1 s3)
        | some lay => exact Spec.pure fun _ _ => congrArg some hq2

theorem onotified_spec {m : Nat} (E : Env) (f : Nat) (memo : OMemo) {s : PS} {g : Nat} {l : HLink} {p : Bool} {t : T}
    {fp : List Nat} (hg : Good s) (hx : repLink s.heap s.store g l = some (p, t, fp)) :
    Spec (Grow m) (onotified E f memo l) s (fun _ _ => True) := by
  unfold onotified
  refine Spec.bind (ochain_spec (m := m) E f g l s p t fp hg hx) ?_
  intro r s1 _ _ _
  cases r with
  | none => exact Spec.pure trivial
  | some h =>
    simp only []
    split <;> exact Spec.pure trivial

/-! ## the branches of `oStepBody` -/

/-- the four branches with a link on top of one stack only; `mk` makes the result -/
def openOne (E : Env) (f : Nat) (memo : OMemo) (l : HLink) (mk : Bool → OMemo → MNode → ODiff × List OEv) :
    M (Option (ODiff × List OEv)) := do
  let (nt, memo') ← onotified E f memo l
  let a ← load E l
  let nd ← read a
  pure (some (mk nt memo' nd))

def openedOld (l : HLink) (os new : List OItem) (mn : OMemo) (nt : Bool) (memo : OMemo) (nd : MNode) :
    ODiff × List OEv :=
  ({ old := oitems nd.links nd.keys nd.vals ++ os, new := new, memoOld := memo, memoNew := mn },
    if nt then [] else [OEv.remLink l])

def openedNew (l : HLink) (old ns : List OItem) (mo : OMemo) (nt : Bool) (memo : OMemo) (nd : MNode) :
    ODiff × List OEv :=
  ({ old := old, new := oitems nd.links nd.keys nd.vals ++ ns, memoOld := mo, memoNew := memo },
    if nt then [] else [OEv.addLink l])

/-- the branch with two different links on top, after both `alreadyNotified` calls -/
def openBoth (E : Env) (la lb : HLink) (os ns : List OItem) (mo mn : OMemo) (evs : List OEv) :
    M (Option (ODiff × List OEv)) := do
  let a ← load E la
  let na ← read a
  match na.links with
  | [c] => pure (some ({ old := olinkItem c ++ os, new := OItem.link lb :: ns, memoOld := mo, memoNew := mn }, evs))
  | _ => do
    let b ← load E lb
    let nb ← read b
    match nb.links with
    | [c] => pure (some ({ old := OItem.link la :: os, new := olinkItem c ++ ns, memoOld := mo, memoNew := mn }, evs))
    | _ =>
      match na.keys, nb.keys with
      | ka :: _, kb :: _ =>
        if ka < kb then
          pure (some ({ old := oitems na.links na.keys na.vals ++ os, new := OItem.link lb :: ns,
                        memoOld := mo, memoNew := mn }, evs))
        else if kb < ka then
          pure (some ({ old := OItem.link la :: os, new := oitems nb.links nb.keys nb.vals ++ ns,
                        memoOld := mo, memoNew := mn }, evs))
        else
          pure (some ({ old := oitems na.links na.keys na.vals ++ os,
                        new := oitems nb.links nb.keys nb.vals ++ ns, memoOld := mo, memoNew := mn }, evs))
      | _, _ => panicE

section equations
variable (E : Env) (f : Nat) (os ns : List OItem) (mo mn : OMemo) (l la lb : HLink)

theorem oStepBody_nil_nil : oStepBody E f { old := [], new := [], memoOld := mo, memoNew := mn } = pure none := rfl

theorem oStepBody_nil_yld (k v : Nat) : oStepBody E f { old := [], new := OItem.yld k v :: ns, memoOld := mo, memoNew := mn } =
    pure (some ({ old := [], new := ns, memoOld := mo, memoNew := mn }, [OEv.add k v])) := rfl

theorem oStepBody_yld_nil (k v : Nat) : oStepBody E f { old := OItem.yld k v :: os, new := [], memoOld := mo, memoNew := mn } =
    pure (some ({ old := os, new := [], memoOld := mo, memoNew := mn }, [OEv.rem k v])) := rfl

theorem oStepBody_yld_yld (k v k' v' : Nat) :
    oStepBody E f { old := OItem.yld k v :: os, new := OItem.yld k' v' :: ns, memoOld := mo, memoNew := mn } =
    if k < k' then
      pure (some ({ old := os, new := OItem.yld k' v' :: ns, memoOld := mo, memoNew := mn }, [OEv.rem k v]))
    else if k = k' then
      pure (some ({ old := os, new := ns, memoOld := mo, memoNew := mn }, if v = v' then [] else [OEv.chg k v v']))
    else pure (some ({ old := OItem.yld k v :: os, new := ns, memoOld := mo, memoNew := mn }, [OEv.add k' v'])) := rfl

theorem oStepBody_nil_link : oStepBody E f { old := [], new := OItem.link l :: ns, memoOld := mo, memoNew := mn } =
    openOne E f mn l (openedNew l [] ns mo) := rfl

theorem oStepBody_yld_link (k v : Nat) :
    oStepBody E f { old := OItem.yld k v :: os, new := OItem.link l :: ns, memoOld := mo, memoNew := mn } =
    openOne E f mn l (openedNew l (OItem.yld k v :: os) ns mo) := rfl

theorem oStepBody_link_nil : oStepBody E f { old := OItem.link l :: os, new := [], memoOld := mo, memoNew := mn } =
    openOne E f mo l (openedOld l os [] mn) := rfl

theorem oStepBody_link_yld (k v : Nat) :
    oStepBody E f { old := OItem.link l :: os, new := OItem.yld k v :: ns, memoOld := mo, memoNew := mn } =
    openOne E f mo l (openedOld l os (OItem.yld k v :: ns) mn) := rfl

/-- the same link (the same name, or the same object) on both stacks is dropped unopened -/
theorem oStepBody_link_same :
    oStepBody E f { old := OItem.link l :: os, new := OItem.link l :: ns, memoOld := mo, memoNew := mn } =
    pure (some ({ old := os, new := ns, memoOld := mo, memoNew := mn }, [])) := if_pos rfl

theorem oStepBody_link_link (h : la ≠ lb) :
    oStepBody E f { old := OItem.link la :: os, new := OItem.link lb :: ns, memoOld := mo, memoNew := mn } = (do
      let (no, memoO) ← onotified E f mo la
      let (nn, memoN) ← onotified E f mn lb
      openBoth E la lb os ns memoO memoN ((if no then [] else [OEv.remLink la]) ++ (if nn then [] else [OEv.addLink lb]))) :=
  if_neg h

end equations

/-! ## stacks of names -/

def isRefItem : OItem → Bool
  | OItem.link (.ref _) => true
  | OItem.yld _ _ => true
  | _ => false

def AllRef (os : List OItem) : Prop := ∀ x ∈ os, isRefItem x = true

theorem AllRef.append {a b : List OItem} (ha : AllRef a) (hb : AllRef b) : AllRef (a ++ b) := by
  intro x hx
  rcases List.mem_append.mp hx with h | h
  · exact ha x h
  · exact hb x h

theorem AllRef.cons {x : OItem} {os : List OItem} (hx : isRefItem x = true) (h : AllRef os) : AllRef (x :: os) := by
  intro y hy
  rcases List.mem_cons.mp hy with rfl | hy
  · exact hx
  · exact h y hy

theorem AllRef.cons_yld {k v : Nat} {os : List OItem} (h : AllRef os) : AllRef (OItem.yld k v :: os) := by
  intro x hx
  rcases List.mem_cons.mp hx with rfl | hx
  · rfl
  · exact h x hx

theorem AllRef.tail {x : OItem} {a : List OItem} (h : AllRef (x :: a)) : AllRef a :=
  fun y hy => h y (List.mem_cons_of_mem _ hy)

theorem AllRef.head {l : HLink} {os : List OItem} (h : AllRef (OItem.link l :: os)) : ∃ n, l = .ref n := by
  have := h (OItem.link l) (List.mem_cons_self ..)
  cases l with
  | nil => cases this
  | ptr a => cases this
  | ref n => exact ⟨n, rfl⟩

theorem allRef_olinkItem {l : HLink} (h : isPtr l = false) : AllRef (olinkItem l) := by
  cases l with
  | nil => exact fun _ hx => nomatch hx
  | ptr a => cases h
  | ref n => exact AllRef.cons rfl fun _ hx => nomatch hx

theorem allRef_oitems : ∀ (ls : List HLink) (ks vs : List Nat), (∀ l ∈ ls, isPtr l = false) → AllRef (oitems ls ks vs)
  | [], _, _, _ => fun _ hx => nomatch hx
  | l :: ls, _ :: ks, _ :: vs, h =>
    (allRef_olinkItem (h l (List.mem_cons_self ..))).append
      (allRef_oitems ls ks vs fun l' hl' => h l' (List.mem_cons_of_mem _ hl')).cons_yld
  | l :: _, [], _, h => allRef_olinkItem (h l (List.mem_cons_self ..))
  | l :: _, _ :: _, [], h => allRef_olinkItem (h l (List.mem_cons_self ..))

/-! ## one step -/

/-- the entry events of an object-level event list -/
def oents : List OEv → List DEv
  | [] => []
  | OEv.add k v :: r => DEv.add k v :: oents r
  | OEv.rem k v :: r => DEv.rem k v :: oents r
  | OEv.chg k a b :: r => DEv.chg k a b :: oents r
  | _ :: r => oents r

theorem oents_append (a b : List OEv) : oents (a ++ b) = oents a ++ oents b := by
  induction a with
  | nil => rfl
  | cons x a ih => cases x <;> simp only [List.cons_append, oents, ih]

theorem oents_rem (c : Bool) (l : HLink) : oents (if c = true then [] else [OEv.remLink l]) = [] := by
  cases c <;> rfl

theorem oents_add (c : Bool) (l : HLink) : oents (if c = true then [] else [OEv.addLink l]) = [] := by
  cases c <;> rfl

theorem oents_both (c1 c2 : Bool) (l1 l2 : HLink) :
    oents ((if c1 = true then [] else [OEv.remLink l1]) ++ (if c2 = true then [] else [OEv.addLink l2])) = [] := by
  cases c1 <;> cases c2 <;> rfl

/-- `Diff.StepOK` for denoted stacks (not the `StepOK` of `Lemmas/PtrSys.lean`) -/
def OStepOK (g : Nat) (Lo Ln : List Item) (r : Option (ODiff × List OEv)) (s' : PS) : Prop :=
  match r with
  | none => flat Lo = [] ∧ flat Ln = []
  | some x => ∃ Lo' Ln', StackRep s' g x.1.old Lo' ∧ StackRep s' g x.1.new Ln' ∧
      diffL (flat Lo) (flat Ln) = oents x.2 ++ diffL (flat Lo') (flat Ln') ∧
      mu Lo' + mu Ln' < mu Lo + mu Ln ∧ Sorted (flat Lo') ∧ Sorted (flat Ln')

theorem ostepOK_same {g : Nat} {Lo Ln Lo' Ln' : List Item} {st' : ODiff} {evs : List OEv} {s' : PS}
    (hro : StackRep s' g st'.old Lo') (hrn : StackRep s' g st'.new Ln') (hev : oents evs = [])
    (hfo : flat Lo' = flat Lo) (hfn : flat Ln' = flat Ln) (hmu : mu Lo' + mu Ln' < mu Lo + mu Ln)
    (hso : Sorted (flat Lo)) (hsn : Sorted (flat Ln)) : OStepOK g Lo Ln (some (st', evs)) s' :=
  ⟨Lo', Ln', hro, hrn, by rw [hev, hfo, hfn]; rfl, hmu, by rw [hfo]; exact hso, by rw [hfn]; exact hsn⟩

/-- `N`: what is known of the result of `alreadyNotified` -/
theorem openOne_spec {m : Nat} (E : Env) (f : Nat) (memo : OMemo) {s : PS} {g : Nat} {l : HLink} {p : Bool} {t : T}
    {fp : List Nat} (hg : Good s) (hx : repLink s.heap s.store g l = some (p, t, fp)) {N : Bool × OMemo → Prop}
    (hN : Spec (Grow m) (onotified E f memo l) s (fun r _ => N r)) (mk : Bool → OMemo → MNode → ODiff × List OEv) :
    Spec (Grow m) (openOne E f memo l mk) s (fun r s' => ∃ nt memo' nd, N (nt, memo') ∧ r = some (mk nt memo' nd) ∧
      StackRep s' g (oitems nd.links nd.keys nd.vals) (items t) ∧
      (isPtr l = false → AllRef (oitems nd.links nd.keys nd.vals))) := by
  refine Spec.bind hN ?_
  rintro ⟨nt, memo'⟩ s1 _ hgr1 hn
  refine open_link_bind (m := m) E (hgr1.good hg) (hgr1.rep hx) _ _ ?_
  intro nd s2 _ hv hnm
  exact Spec.pure ⟨nt, memo', nd, hn, rfl, hv.items, fun h => allRef_oitems _ _ _ (hnm h)⟩

theorem openOld_ok {m : Nat} (E : Env) (f g : Nat) {s : PS} {l : HLink} {os new : List OItem} (mo mn : OMemo)
    {p : Bool} {t : T} {fp : List Nat} {Lot Ln : List Item} (hg : Good s)
    (hx : repLink s.heap s.store g l = some (p, t, fp)) (hro : StackRep s g os Lot) (hrn : StackRep s g new Ln)
    (hso : Sorted (flat (Item.link p t :: Lot))) (hsn : Sorted (flat Ln)) :
    Spec (Grow m) (openOne E f mo l (openedOld l os new mn)) s (OStepOK g (Item.link p t :: Lot) Ln) := by
  refine (openOne_spec E f mo hg hx (onotified_spec (m := m) E f mo hg hx) _).conseq ?_
  rintro r s' _ hgr ⟨nt, memo', nd, _, rfl, hit, _⟩
  exact ostepOK_same (Lo' := items t ++ Lot) (hit.append (hro.grow hgr)) (hrn.grow hgr) (oents_rem _ _)
    (flat_open p t Lot) rfl (Nat.add_lt_add_right (expand_lt p t Lot) _) hso hsn

theorem openNew_ok {m : Nat} (E : Env) (f g : Nat) {s : PS} {l : HLink} {old ns : List OItem} (mo mn : OMemo)
    {p : Bool} {t : T} {fp : List Nat} {Lo Lnt : List Item} (hg : Good s)
    (hx : repLink s.heap s.store g l = some (p, t, fp)) (hro : StackRep s g old Lo) (hrn : StackRep s g ns Lnt)
    (hso : Sorted (flat Lo)) (hsn : Sorted (flat (Item.link p t :: Lnt))) :
    Spec (Grow m) (openOne E f mn l (openedNew l old ns mo)) s (OStepOK g Lo (Item.link p t :: Lnt)) := by
  refine (openOne_spec E f mn hg hx (onotified_spec (m := m) E f mn hg hx) _).conseq ?_
  rintro r s' _ hgr ⟨nt, memo', nd, _, rfl, hit, _⟩
  exact ostepOK_same (Ln' := items t ++ Lnt) (hro.grow hgr) (hit.append (hrn.grow hgr)) (oents_add _ _)
    rfl (flat_open p t Lnt) (Nat.add_lt_add_left (expand_lt p t Lnt) _) hso hsn

/-- for any links the object-level code opens what the functional `step` opens -/
theorem openBoth_spec {m : Nat} (E : Env) {s : PS} {g : Nat} {la lb : HLink} {os ns : List OItem} (mo mn : OMemo)
    (evs : List OEv) {pa pb : Bool} {ta tb : T} {Lot Lnt : List Item} (hg : Good s)
    (hro : StackRep s g (OItem.link la :: os) (Item.link pa ta :: Lot))
    (hrn : StackRep s g (OItem.link lb :: ns) (Item.link pb tb :: Lnt)) :
    Spec (Grow m) (openBoth E la lb os ns mo mn evs) s (fun r s' => ∃ o' n' Lo' Ln',
      r = some ({ old := o', new := n', memoOld := mo, memoNew := mn }, evs) ∧
      StackRep s' g o' Lo' ∧ StackRep s' g n' Ln' ∧ Opened pa ta Lot pb tb Lnt Lo' Ln' ∧
      (AllRef (OItem.link la :: os) → AllRef (OItem.link lb :: ns) → AllRef o' ∧ AllRef n')) := by
  obtain ⟨fa, hxa⟩ := hro.2.1
  obtain ⟨fb, hxb⟩ := hrn.2.1
  refine open_link_bind (m := m) E hg hxa _ _ ?_
  intro na s1 hgr1 va hna
  -- the old stack with the old node opened; a single-link node pushes its one link
  have hA : ∀ {s'}, Grow m s1 s' → StackRep s' g (oitems na.links na.keys na.vals ++ os) (items ta ++ Lot) :=
    fun h => (va.items.grow h).append ((hro.2.2.grow hgr1).grow h)
  have aA : AllRef (OItem.link la :: os) → AllRef (oitems na.links na.keys na.vals ++ os) := fun h => by
    obtain ⟨n, rfl⟩ := h.head; exact (allRef_oitems _ _ _ (hna rfl)).append h.tail
  rcases va.shape with ⟨c, q, crow, fc, hl, hk, hta, _⟩ | ⟨c, c2, ls, ka, kas, hl, hka, hpa, hfa⟩
  · rw [hl, hk] at hA aA
    rw [hl]
    exact Spec.pure ⟨_, _, _, _, rfl, hA (Grow.refl m s1), hrn.grow hgr1, .passOld q crow hta, fun ha hb => ⟨aA ha, hb⟩⟩
  · rw [hl, hka] at hA aA
    rw [hl]
    refine open_link_bind (m := m) E (hgr1.good hg) (hgr1.rep hxb) _ _ ?_
    intro nb s2 hgr2 vb hnb
    have hgr := hgr1.trans hgr2
    have hB : StackRep s2 g (oitems nb.links nb.keys nb.vals ++ ns) (items tb ++ Lnt) :=
      vb.items.append (hrn.2.2.grow hgr)
    have aB : AllRef (OItem.link lb :: ns) → AllRef (oitems nb.links nb.keys nb.vals ++ ns) := fun h => by
      obtain ⟨n, rfl⟩ := h.head; exact (allRef_oitems _ _ _ (hnb rfl)).append h.tail
    rcases vb.shape with ⟨d, q, crow, fc, hl2, hk2, htb, _⟩ | ⟨d, d2, ls2, kb, kbs, hl2, hkb, hpb, hfb⟩
    · rw [hl2, hk2] at hB aB
      rw [hl2]
      exact Spec.pure ⟨_, _, _, _, rfl, hro.grow hgr, hB, .passNew q crow hpa htb, fun ha hb => ⟨ha, aB hb⟩⟩
    · rw [hl2, hkb] at hB aB
      rw [hl2, hka, hkb]
      dsimp only
      by_cases h1 : ka < kb
      · rw [if_pos h1]
        exact Spec.pure ⟨_, _, _, _, rfl, hA hgr2, hrn.grow hgr, .lt ka kb hpa hpb hfa hfb h1, fun ha hb => ⟨aA ha, hb⟩⟩
      · rw [if_neg h1]
        by_cases h2 : kb < ka
        · rw [if_pos h2]
          exact Spec.pure ⟨_, _, _, _, rfl, hro.grow hgr, hB, .gt ka kb hpa hpb hfa hfb h1 h2, fun ha hb => ⟨ha, aB hb⟩⟩
        · rw [if_neg h2]
          exact Spec.pure ⟨_, _, _, _, rfl, hA hgr2, hB, .eq ka kb hpa hpb hfa hfb h1 h2, fun ha hb => ⟨aA ha, aB hb⟩⟩

theorem oStepBody_spec {m : Nat} (E : Env) (f g : Nat) (st : ODiff) (s : PS) (Lo Ln : List Item)
    (hg : Good s) (hro : StackRep s g st.old Lo) (hrn : StackRep s g st.new Ln)
    (hso : Sorted (flat Lo)) (hsn : Sorted (flat Ln)) :
    Spec (Grow m) (oStepBody E f st) s (OStepOK g Lo Ln) := by
  obtain ⟨old, new, mo, mn⟩ := st
  rcases old with _ | ⟨(la | ⟨k, v⟩), os⟩
  · obtain rfl := hro.of_nil
    rcases new with _ | ⟨(l | ⟨k, v⟩), ns⟩
    · obtain rfl := hrn.of_nil
      rw [oStepBody_nil_nil]
      exact Spec.pure ⟨rfl, rfl⟩
    · obtain ⟨p, t, Lnt, rfl, _, ⟨fp, hx⟩, hn⟩ := hrn.of_link
      rw [oStepBody_nil_link]
      exact openNew_ok E f g mo mn hg hx trivial hn hso hsn
    · obtain ⟨Lnt, rfl, hn⟩ := hrn.of_yld
      rw [oStepBody_nil_yld]
      exact Spec.pure ⟨[], Lnt, trivial, hn, diffL_nil_cons k v _, Nat.add_lt_add_left (mu_pop _ Lnt) _, hso,
        sorted_tail hsn⟩
  · obtain ⟨pa, ta, Lot, rfl, hla, ⟨fa, hxa⟩, ho⟩ := hro.of_link
    rcases new with _ | ⟨(lb | ⟨k, v⟩), ns⟩
    · obtain rfl := hrn.of_nil
      rw [oStepBody_link_nil]
      exact openOld_ok E f g mo mn hg hxa ho trivial hso hsn
    · obtain ⟨pb, tb, Lnt, rfl, hlb, ⟨fb, hxb⟩, hn⟩ := hrn.of_link
      by_cases he : la = lb
      · subst he
        rw [oStepBody_link_same]
        obtain rfl : ta = tb := congrArg (·.2.1) (Option.some.inj (hxa.symm.trans hxb))
        exact Spec.pure ⟨Lot, Lnt, ho, hn, (diffL_prefix _ _ _).trans rfl,
          Nat.add_lt_add (mu_pop _ Lot) (mu_pop _ Lnt), (sorted_append hso).2.1, (sorted_append hsn).2.1⟩
      · rw [oStepBody_link_link _ _ _ _ _ _ _ _ he]
        refine Spec.bind (onotified_spec (m := m) E f mo hg hxa) ?_
        rintro ⟨no, memoO⟩ s1 _ hgr1 _
        refine Spec.bind (onotified_spec (m := m) E f mn (hgr1.good hg) (hgr1.rep hxb)) ?_
        rintro ⟨nn, memoN⟩ s2 _ hgr2 _
        have hgr := hgr1.trans hgr2
        refine (openBoth_spec (m := m) E memoO memoN _ (hgr.good hg) (hro.grow hgr) (hrn.grow hgr)).conseq ?_
        rintro r s3 _ _ ⟨o', n', Lo', Ln', rfl, h1, h2, hop, _⟩
        exact ostepOK_same h1 h2 (oents_both _ _ _ _) hop.ok.1 hop.ok.2.1 hop.ok.2.2 hso hsn
    · obtain ⟨Lnt, rfl, hn⟩ := hrn.of_yld
      rw [oStepBody_link_yld]
      exact openOld_ok E f g mo mn hg hxa ho ⟨rfl, rfl, hn⟩ hso hsn
  · obtain ⟨Lot, rfl, ho⟩ := hro.of_yld
    rcases new with _ | ⟨(l | ⟨k', v'⟩), ns⟩
    · obtain rfl := hrn.of_nil
      rw [oStepBody_yld_nil]
      exact Spec.pure ⟨Lot, [], ho, trivial, diffL_cons_nil k v _, Nat.add_lt_add_right (mu_pop _ Lot) _,
        sorted_tail hso, hsn⟩
    · obtain ⟨p, t, Lnt, rfl, _, ⟨fp, hx⟩, hn⟩ := hrn.of_link
      rw [oStepBody_yld_link]
      exact openNew_ok E f g mo mn hg hx ⟨rfl, rfl, ho⟩ hn hso hsn
    · obtain ⟨Lnt, rfl, hn⟩ := hrn.of_yld
      rw [oStepBody_yld_yld]
      have hd := diffL_cons_cons k v (flat Lot) k' v' (flat Lnt)
      by_cases h1 : k < k'
      · rw [if_pos h1] at hd ⊢
        exact Spec.pure ⟨Lot, Item.yld k' v' :: Lnt, ho, ⟨rfl, rfl, hn⟩, hd,
          Nat.add_lt_add_right (mu_pop _ Lot) _, sorted_tail hso, hsn⟩
      · rw [if_neg h1] at hd ⊢
        by_cases h2 : k = k'
        · rw [if_pos h2] at hd ⊢
          refine Spec.pure ⟨Lot, Lnt, ho, hn, ?_, Nat.add_lt_add (mu_pop _ Lot) (mu_pop _ Lnt),
            sorted_tail hso, sorted_tail hsn⟩
          by_cases h3 : v = v'
          · rw [if_pos h3] at hd ⊢; exact hd
          · rw [if_neg h3] at hd ⊢; exact hd
        · rw [if_neg h2] at hd ⊢
          exact Spec.pure ⟨Item.yld k v :: Lot, Lnt, ⟨rfl, rfl, ho⟩, hn, hd,
            Nat.add_lt_add_left (mu_pop _ Lnt) _, hso, sorted_tail hsn⟩

/-- a failed `diffOne` hands back the state it was given -/
theorem oStep_spec {m : Nat} (E : Env) (f : Nat) (st : ODiff) {s : PS} {Q : Option (ODiff × List OEv) → PS → Prop}
    (h : Spec (Grow m) (oStepBody E f st) s Q) :
    Spec (Grow m) (oStep E f st) s (fun r s' => (r.2 = false → Q r.1 s') ∧ (r.2 = true → r.1 = some (st, []))) := by
  unfold oStep
  refine Spec.bind (tryE_spec h) ?_
  intro r s1 _ _ hq
  cases r with
  | none => exact Spec.pure ⟨(fun h => nomatch h), fun _ => rfl⟩
  | some x => exact Spec.pure ⟨fun _ => hq, fun h => nomatch h⟩

theorem oRun_correct {m : Nat} (E : Env) (f g : Nat) : ∀ (n : Nat) (st : ODiff) (s : PS) (Lo Ln : List Item),
    Good s → StackRep s g st.old Lo → StackRep s g st.new Ln → Sorted (flat Lo) → Sorted (flat Ln) →
    mu Lo + mu Ln < n →
    Spec (Grow m) (oRun E f n st) s (fun evs _ => oents evs = diffL (flat Lo) (flat Ln)) := by
  intro n
  induction n with
  | zero => intro st s Lo Ln _ _ _ _ _ h; exact absurd h (Nat.not_lt_zero _)
  | succ n ih =>
    intro st s Lo Ln hg hro hrn hso hsn hmu
    unfold oRun
    refine Spec.bind (oStep_spec E f st (oStepBody_spec (m := m) E f g st s Lo Ln hg hro hrn hso hsn)) ?_
    rintro ⟨r, b⟩ s1 _ hgr hq
    cases b with
    | true => exact Spec.fail
    | false =>
      have hok := hq.1 rfl
      cases r with
      | none =>
        refine Spec.pure ?_
        rw [hok.1, hok.2, diffL_nil_nil]; rfl
      | some x =>
        obtain ⟨Lo', Ln', h1, h2, h3, h4, h5, h6⟩ := hok
        obtain ⟨st', evs⟩ := x
        refine Spec.bind (ih st' s1 Lo' Ln' (hgr.good hg) h1 h2 h5 h6 (Nat.lt_of_lt_of_le h4 (Nat.le_of_lt_succ hmu))) ?_
        intro rest s2 _ _ hrest
        refine Spec.pure ?_
        rw [oents_append, hrest, h3]

/-- `rootItemStack`: an empty stack for a nil root and for an entry-less childless top node -/
theorem orootItems_spec {m : Nat} {s : PS} {g : Nat} {root : HLink} {p : Bool} {t : T} {fp : List Nat}
    (hx : repLink s.heap s.store g root = some (p, t, fp)) :
    Spec (Grow m) (orootItems root) s (fun os s' => s' = s ∧ ∃ L, StackRep s g os L ∧ flat L = toList t ∧ mu L ≤ 1 + W t) := by
  have hlink : root ≠ .nil → ∃ L, StackRep s g [OItem.link root] L ∧ flat L = toList t ∧ mu L ≤ 1 + W t := fun hne =>
    ⟨[Item.link p t], ⟨hne, ⟨fp, hx⟩, trivial⟩, List.append_nil _, Nat.le_of_eq (Nat.add_zero _)⟩
  cases root with
  | nil =>
    rw [repLink_nil] at hx
    cases hx
    exact Spec.pure ⟨rfl, [], trivial, rfl, Nat.zero_le _⟩
  | ref n => exact Spec.pure ⟨rfl, hlink (fun h => nomatch h)⟩
  | ptr a =>
    obtain ⟨g', nd, cs, hg', hnd, hval, hseq, hxe⟩ := repLink_ptr_some.mp hx
    refine Spec.bind (read_spec a s) ?_
    rintro nd' s1 _ _ ⟨rfl, hnd'⟩
    obtain rfl : nd = nd' := Option.some.inj (hnd.symm.trans hnd')
    by_cases he : isEmptyN nd = true
    · rw [if_pos he]
      -- an entry-less childless top node: the row has no entries
      refine Spec.pure ⟨rfl, [], trivial, ?_, Nat.zero_le _⟩
      have hl : nd.links = [HLink.nil] := eq_of_beq he
      rw [hl] at hseq
      obtain ⟨c0, cs', hc0, hcs', rfl⟩ := seqO_map_cons.mp hseq
      cases hcs'
      rw [repLink_nil] at hc0
      cases hc0
      obtain rfl : t = mkRow [(false, T.nil)] nd.keys nd.vals := congrArg (·.2.1) hxe
      rw [mkRow_single]; rfl
    · rw [if_neg he]
      exact Spec.pure ⟨rfl, hlink (fun h => nomatch h)⟩

theorem oRun_same_link (E : Env) (f n : Nat) (l : HLink) (s : PS) :
    oRun E f (n + 2) { old := [OItem.link l], new := [OItem.link l] } s = .ok [] s := by
  simp [oRun, oStep, oStepBody_link_same, oStepBody_nil_nil, tryE, bind, M.bind, pure, M.pure]

/-- the program of `DiffIter` for the entry stream: build the two stacks, run the loop -/
def oDiff (E : Env) (f n : Nat) (oldRoot : Option HLink) (newRoot : HLink) : M (List OEv) := do
  let st ← oDiffInit oldRoot newRoot
  oRun E f n st

/-- the object-level `C06_exact` -/
theorem oDiff_correct {m : Nat} (E : Env) (f g n : Nat) {s : PS} (oldRoot : Option HLink) (old : Option (Bool × T))
    {newRoot : HLink} {pN : Bool} {tN : T} {fN : List Nat} (hg : Good s)
    (hold : match oldRoot, old with
      | none, none => True
      | some r, some pt => ∃ fp, repLink s.heap s.store g r = some (pt.1, pt.2, fp)
      | _, _ => False)
    (hxn : repLink s.heap s.store g newRoot = some (pN, tN, fN))
    (hso : Sorted (oldEntries old)) (hsn : Sorted (toList tN)) (hn : oldWeight old + (1 + W tN) < n) :
    Spec (Grow m) (oDiff E f n oldRoot newRoot) s (fun evs _ => oents evs = diffL (oldEntries old) (toList tN)) := by
  have hO : Spec (Grow m) (match oldRoot with | none => pure [] | some r => orootItems r) s
      (fun os s' => s' = s ∧ ∃ L, StackRep s g os L ∧ flat L = oldEntries old ∧ mu L ≤ oldWeight old) := by
    cases oldRoot with
    | none =>
      cases old with
      | none => exact Spec.pure ⟨rfl, [], trivial, rfl, Nat.le_refl 0⟩
      | some pt => exact hold.elim
    | some r =>
      cases old with
      | none => exact hold.elim
      | some pt => obtain ⟨fp, hx⟩ := hold; exact orootItems_spec hx
  refine Spec.bind (Spec.bind hO ?_) ?_ (Q1 := fun st s' => s' = s ∧ ∃ Lo Ln, StackRep s g st.old Lo ∧
    StackRep s g st.new Ln ∧ flat Lo = oldEntries old ∧ flat Ln = toList tN ∧ mu Lo + mu Ln < n)
  · rintro o s1 _ _ ⟨rfl, Lo, h1, h2, h3⟩
    refine Spec.bind (orootItems_spec (m := m) hxn) ?_
    rintro nw s2 _ _ ⟨rfl, Ln, h4, h5, h6⟩
    exact Spec.pure ⟨rfl, Lo, Ln, h1, h4, h2, h5, Nat.lt_of_le_of_lt (Nat.add_le_add h3 h6) hn⟩
  · rintro st s1 _ _ ⟨rfl, Lo, Ln, h1, h2, h3, h4, h5⟩
    rw [← h3] at hso ⊢
    rw [← h4] at hsn ⊢
    exact oRun_correct (m := m) E f g n st s1 Lo Ln hg h1 h2 hso hsn h5

end Mast.Ptr
