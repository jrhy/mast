import Mastverif.Lemmas.RefDiff
import Mastverif.Lemmas.DiffLinks
/-!
# On persisted versions, the object-level `diffOne` IS the functional `diffOne`

For two versions held by name (every link on the stacks is a name; what hangs below a name in the
store holds names only), a store that never fails and a layer callback that never fails, one
`oStepBody` produces — event by event, link events included — what `Diff.step` produces on the
functional stacks the object-level stacks denote, with the name of a stored node read as
`nameOf (row it denotes)`.  The theorems of `Props/C07.lean` and `Props/C15.lean` about the literal
functional `diffOne` thereby speak about the object-level transcription.

Hypotheses: `NoFail E`; `Naming`: `nameOf` of the row a name denotes is a function `nm` of the name,
and `nm` is injective on the names in play (content addressing without collisions: two different
stored nodes denote different rows and get different names).
-/
namespace Mast.Ptr
open Mast.Heap Mast Mast.Diff Mast.T

/-- `nameOf` agrees with a naming `nm` of store indices, injective -/
structure Naming (nameOf : T → List UInt8) (nm : Nat → List UInt8) (st : List SNode) : Prop where
  agree : ∀ (h : Heap) g n x, repLink h st g (.ref n) = some x → nameOf x.2.1 = nm n
  inj : ∀ n1 n2, nm n1 = nm n2 → n1 = n2

theorem isRef_of_not_ptr {l : HLink} (h : isPtr l = false) : l = .nil ∨ ∃ n, l = .ref n := by
  cases l with
  | nil => exact Or.inl rfl
  | ptr a => simp [isPtr] at h
  | ref n => exact Or.inr ⟨n, rfl⟩

theorem ochain_sim {m : Nat} (E : Env) (hnf : NoFail E) : ∀ (f g : Nat) (l : HLink) (s : PS) (p : Bool) (t : T) (fp : List Nat),
    Good s → repLink s.heap s.store g l = some (p, t, fp) → isPtr l = false →
    Spec (Grow m) (ochain E f l) s (fun r _ => r = (chain E.layer p t).1) :=
  fun f g l s p t fp hg hx hnp => (ochain_spec (m := m) E f g l s p t fp hg hx).conseq fun _ _ _ _ h => h hnf hnp

/-! ## memo tables -/

def lnm (nm : Nat → List UInt8) : HLink → List UInt8
  | .ref n => nm n
  | _ => []

def memoMap (nm : Nat → List UInt8) (mo : OMemo) : Memo := mo.map fun e => (e.1, lnm nm e.2)

def MemoRefs (mo : OMemo) : Prop := ∀ e ∈ mo, ∃ n, e.2 = .ref n

theorem memoGet_map (nm : Nat → List UInt8) (mo : OMemo) (h : Nat) :
    memoGet (memoMap nm mo) h = (omemoGet mo h).map (lnm nm) := by
  unfold memoGet omemoGet memoMap
  induction mo with
  | nil => rfl
  | cons e mo ih =>
    simp only [List.map_cons, List.find?_cons]
    by_cases he : e.1 == h
    · simp [he]
    · simp only [he]
      exact ih

theorem memoSet_map (nm : Nat → List UInt8) (mo : OMemo) (h : Nat) (l : HLink) :
    memoSet (memoMap nm mo) h (lnm nm l) = memoMap nm (omemoSet mo h l) := by
  unfold memoSet omemoSet memoMap
  simp only [List.map_cons, List.filter_map]
  congr 1

theorem omemoGet_mem {mo : OMemo} {h : Nat} {l : HLink} (hg : omemoGet mo h = some l) : ∃ e ∈ mo, e.2 = l := by
  unfold omemoGet at hg
  cases hf : mo.find? (fun e => e.1 == h) with
  | none => rw [hf] at hg; cases hg
  | some e =>
    rw [hf] at hg
    injection hg with hg
    exact ⟨e, List.mem_of_find?_eq_some hf, hg⟩

theorem MemoRefs.set {mo : OMemo} (hm : MemoRefs mo) (h n : Nat) : MemoRefs (omemoSet mo h (.ref n)) := by
  intro e he
  unfold omemoSet at he
  rcases List.mem_cons.mp he with rfl | he
  · exact ⟨n, rfl⟩
  · exact hm e (List.mem_filter.mp he).1

theorem memo_test (nm : Nat → List UInt8) (hinj : ∀ a b, nm a = nm b → a = b) (mo : OMemo) (hm : MemoRefs mo) (h n : Nat) :
    (omemoGet mo h = some (.ref n)) ↔ (memoGet (memoMap nm mo) h == some (nm n)) = true := by
  rw [memoGet_map]
  constructor
  · intro hg; rw [hg]; simp [lnm]
  · intro hg
    cases hgo : omemoGet mo h with
    | none => rw [hgo] at hg; simp at hg
    | some l =>
      rw [hgo] at hg
      obtain ⟨e, hem, rfl⟩ := omemoGet_mem hgo
      obtain ⟨n', hn'⟩ := hm e hem
      rw [hn'] at hg ⊢
      simp only [Option.map_some, lnm, beq_iff_eq, Option.some.injEq] at hg
      rw [hinj n' n hg]

theorem onotified_sim {m : Nat} (E : Env) (hnf : NoFail E) (nameOf : T → List UInt8) (nm : Nat → List UInt8)
    (f g n : Nat) (mo : OMemo) (s : PS) (p : Bool) (t : T) (fp : List Nat)
    (hg : Good s) (hx : repLink s.heap s.store g (.ref n) = some (p, t, fp)) (hname : nameOf t = nm n)
    (hinj : ∀ a b, nm a = nm b → a = b) (hm : MemoRefs mo) :
    Spec (Grow m) (onotified E f mo (.ref n)) s (fun r _ =>
      r.1 = (notified E.layer nameOf (memoMap nm mo) p t).1 ∧
      memoMap nm r.2 = (notified E.layer nameOf (memoMap nm mo) p t).2.1 ∧ MemoRefs r.2) := by
  unfold onotified
  refine Spec.bind (ochain_sim (m := m) E hnf f g (.ref n) s p t fp hg hx rfl) ?_
  intro r s1 _ _ hr
  subst hr
  cases hc : (chain E.layer p t).1 with
  | none =>
    simp only [notified, hc]
    exact Spec.pure ⟨rfl, rfl, hm⟩
  | some h =>
    simp only [notified, hc]
    by_cases ht : omemoGet mo (h % 256) = some (.ref n)
    · have := (memo_test nm hinj mo hm (h % 256) n).mp ht
      simp only [ht, if_true, hname, this]
      exact Spec.pure ⟨rfl, rfl, hm⟩
    · have hn : ¬ ((memoGet (memoMap nm mo) (h % 256) == some (nm n)) = true) := fun h2 => ht ((memo_test nm hinj mo hm (h % 256) n).mpr h2)
      simp only [ht, if_false, hname, hn]
      refine Spec.pure ⟨rfl, ?_, hm.set _ _⟩
      show memoMap nm (omemoSet mo (h % 256) (.ref n)) = memoSet (memoMap nm mo) (h % 256) (nm n)
      rw [← memoSet_map]; rfl

/-! ## the step -/

/-- link events read with names -/
def evMap (nm : Nat → List UInt8) : OEv → DEv
  | .add k v => .add k v
  | .rem k v => .rem k v
  | .chg k a b => .chg k a b
  | .addLink l => .addLink (lnm nm l)
  | .remLink l => .remLink (lnm nm l)

structure StRel (nm : Nat → List UInt8) (s : PS) (g : Nat) (st : ODiff) (S : St) : Prop where
  old : StackRep s g st.old S.old
  new : StackRep s g st.new S.new
  ro : AllRef st.old
  rn : AllRef st.new
  mo : memoMap nm st.memoOld = S.memoOld
  mn : memoMap nm st.memoNew = S.memoNew
  ho : MemoRefs st.memoOld
  hn : MemoRefs st.memoNew

def SimRes (nm : Nat → List UInt8) (g : Nat) (s' : PS) (r : Option (ODiff × List OEv)) (R : Option Out) : Prop :=
  match r, R with
  | none, none => True
  | some x, some o => StRel nm s' g x.1 o.st ∧ x.2.map (evMap nm) = o.evs
  | _, _ => False

theorem ref_flag {s : PS} {g n : Nat} {p : Bool} {t : T} {fp : List Nat}
    (hx : repLink s.heap s.store g (.ref n) = some (p, t, fp)) : p = true := by
  obtain ⟨_, sn, cs, _, _, _, _, hxe⟩ := repLink_ref_some.mp hx
  have := congrArg (fun y => y.1) hxe
  simpa [nodeRep] using this

theorem evMap_rem (nm : Nat → List UInt8) (c : Bool) (n : Nat) :
    (if c then [] else [OEv.remLink (.ref n)]).map (evMap nm) = if c then [] else [DEv.remLink (nm n)] := by
  cases c <;> rfl

theorem evMap_add (nm : Nat → List UInt8) (c : Bool) (n : Nat) :
    (if c then [] else [OEv.addLink (.ref n)]).map (evMap nm) = if c then [] else [DEv.addLink (nm n)] := by
  cases c <;> rfl

section names
variable {m : Nat} (E : Env) (hnf : NoFail E) (nameOf : T → List UInt8) (nm : Nat → List UInt8) (f g : Nat)
  {s : PS} {n : Nat} {p : Bool} {t : T} {fp : List Nat} (mo mn : OMemo) (hg : Good s) (hna : Naming nameOf nm s.store)
  (hx : repLink s.heap s.store g (.ref n) = some (p, t, fp)) (hho : MemoRefs mo) (hhn : MemoRefs mn)
include hnf hg hna hx hho hhn

/-- `lds` is arbitrary: `SimRes` ignores `Out.loads` -/
theorem openOld_sim {os new : List OItem} {Lot Ln : List Item} (lds : List (List UInt8))
    (hro : StackRep s g os Lot) (hrn : StackRep s g new Ln) (hao : AllRef os) (han : AllRef new) :
    Spec (Grow m) (openOne E f mo (.ref n) (openedOld (.ref n) os new mn)) s (fun r s' => SimRes nm g s' r
      (some { st := { old := items t ++ Lot, new := Ln, memoOld := (notified E.layer nameOf (memoMap nm mo) p t).2.1,
                      memoNew := memoMap nm mn },
              evs := if (notified E.layer nameOf (memoMap nm mo) p t).1 then [] else [DEv.remLink (nameOf t)],
              loads := lds })) := by
  have hname : nameOf t = nm n := hna.agree s.heap g n _ hx
  refine (openOne_spec E f mo hg hx (onotified_sim (m := m) E hnf nameOf nm f g n mo s p t fp hg hx hname hna.inj hho) _).conseq ?_
  rintro r s' _ hgr ⟨nt, memo', nd, ⟨h1, h2, h3⟩, rfl, hit, hall⟩
  refine ⟨⟨hit.append (hro.grow hgr), hrn.grow hgr, (hall rfl).append hao, han, h2, rfl, h3, hhn⟩, ?_⟩
  rw [← h1, hname]
  exact evMap_rem nm nt n

theorem openNew_sim {old ns : List OItem} {Lo Lnt : List Item} (lds : List (List UInt8))
    (hro : StackRep s g old Lo) (hrn : StackRep s g ns Lnt) (hao : AllRef old) (han : AllRef ns) :
    Spec (Grow m) (openOne E f mn (.ref n) (openedNew (.ref n) old ns mo)) s (fun r s' => SimRes nm g s' r
      (some { st := { old := Lo, new := items t ++ Lnt, memoOld := memoMap nm mo,
                      memoNew := (notified E.layer nameOf (memoMap nm mn) p t).2.1 },
              evs := if (notified E.layer nameOf (memoMap nm mn) p t).1 then [] else [DEv.addLink (nameOf t)],
              loads := lds })) := by
  have hname : nameOf t = nm n := hna.agree s.heap g n _ hx
  refine (openOne_spec E f mn hg hx (onotified_sim (m := m) E hnf nameOf nm f g n mn s p t fp hg hx hname hna.inj hhn) _).conseq ?_
  rintro r s' _ hgr ⟨nt, memo', nd, ⟨h1, h2, h3⟩, rfl, hit, hall⟩
  refine ⟨⟨hro.grow hgr, hit.append (hrn.grow hgr), hao, (hall rfl).append han, rfl, h2, hho, h3⟩, ?_⟩
  rw [← h1, hname]
  exact evMap_add nm nt n

end names

theorem oStepBody_sim {m : Nat} (E : Env) (hnf : NoFail E) (nameOf : T → List UInt8) (nm : Nat → List UInt8)
    (f g : Nat) (st : ODiff) (S : St) (s : PS) (hg : Good s) (hna : Naming nameOf nm s.store) (hr : StRel nm s g st S) :
    Spec (Grow m) (oStepBody E f st) s (fun r s' => SimRes nm g s' r (step E.layer nameOf S)) := by
  obtain ⟨old, new, mo, mn⟩ := st
  obtain ⟨Lo, Ln, Mo, Mn⟩ := S
  obtain ⟨hro, hrn, hao, han, hmo, hmn, hho, hhn⟩ := hr
  dsimp only at hro hrn hao han hmo hmn hho hhn
  subst hmo hmn
  rcases old with _ | ⟨(la | ⟨k, v⟩), os⟩
  · obtain rfl := hro.of_nil
    rcases new with _ | ⟨(l | ⟨k, v⟩), ns⟩
    · obtain rfl := hrn.of_nil
      rw [oStepBody_nil_nil]
      exact Spec.pure trivial
    · obtain ⟨p, t, Lnt, rfl, _, ⟨fp, hx⟩, hn⟩ := hrn.of_link
      obtain ⟨n, rfl⟩ := han.head
      rw [oStepBody_nil_link]
      exact openNew_sim E hnf nameOf nm f g mo mn hg hna hx hho hhn _ trivial hn hao han.tail
    · obtain ⟨Lnt, rfl, hn⟩ := hrn.of_yld
      rw [oStepBody_nil_yld]
      exact Spec.pure ⟨⟨trivial, hn, hao, han.tail, rfl, rfl, hho, hhn⟩, rfl⟩
  · obtain ⟨pa, ta, Lot, rfl, _, ⟨fa, hxa⟩, ho⟩ := hro.of_link
    obtain ⟨n1, rfl⟩ := hao.head
    rcases new with _ | ⟨(lb | ⟨k, v⟩), ns⟩
    · obtain rfl := hrn.of_nil
      rw [oStepBody_link_nil]
      exact openOld_sim E hnf nameOf nm f g mo mn hg hna hxa hho hhn _ ho trivial hao.tail han
    · obtain ⟨pb, tb, Lnt, rfl, _, ⟨fb, hxb⟩, hn⟩ := hrn.of_link
      obtain ⟨n2, rfl⟩ := han.head
      obtain rfl := ref_flag hxa
      obtain rfl := ref_flag hxb
      have hna1 : nameOf ta = nm n1 := hna.agree s.heap g n1 _ hxa
      have hna2 : nameOf tb = nm n2 := hna.agree s.heap g n2 _ hxb
      by_cases he : n1 = n2
      · subst he
        obtain rfl : ta = tb := congrArg (·.2.1) (Option.some.inj (hxa.symm.trans hxb))
        rw [oStepBody_link_same, step_linkEq _ _ rfl rfl (linkEq_self nameOf ta)]
        exact Spec.pure ⟨⟨ho, hn, hao.tail, han.tail, rfl, rfl, hho, hhn⟩, rfl⟩
      · have hle : linkEq nameOf true ta true tb = false := by
          rw [linkEq, hna1, hna2]
          exact (Bool.and_eq_false_iff ..).mpr (Or.inr (beq_eq_false_iff_ne.mpr fun h => he (hna.inj _ _ h)))
        rw [oStepBody_link_link _ _ _ _ _ _ _ _ fun h => he (HLink.ref.inj h)]
        refine Spec.bind (onotified_sim (m := m) E hnf nameOf nm f g n1 mo s true ta fa hg hxa hna1 hna.inj hho) ?_
        rintro ⟨no, memoO⟩ s1 _ hgr1 ⟨h1a, h1b, h1c⟩
        refine Spec.bind (onotified_sim (m := m) E hnf nameOf nm f g n2 mn s1 true tb fb (hgr1.good hg) (hgr1.rep hxb)
          hna2 hna.inj hhn) ?_
        rintro ⟨nn, memoN⟩ s2 _ hgr2 ⟨h2a, h2b, h2c⟩
        have hgr := hgr1.trans hgr2
        refine (openBoth_spec (m := m) E memoO memoN _ (hgr.good hg) (hro.grow hgr) (hrn.grow hgr)).conseq ?_
        rintro r s3 _ _ ⟨o', n', Lo', Ln', rfl, hs1, hs2, hop, hall⟩
        obtain ⟨lds, hst⟩ := hop.step E.layer nameOf (memoMap nm mo) (memoMap nm mn) hle
        rw [hst]
        refine ⟨⟨hs1, hs2, (hall hao han).1, (hall hao han).2, h1b, h2b, h1c, h2c⟩, ?_⟩
        dsimp only at h1a h2a ⊢
        rw [List.map_append, evMap_rem, evMap_add, h1a, h2a, hna1, hna2]
    · obtain ⟨Lnt, rfl, hn⟩ := hrn.of_yld
      rw [oStepBody_link_yld]
      exact openOld_sim E hnf nameOf nm f g mo mn hg hna hxa hho hhn _ ho ⟨rfl, rfl, hn⟩ hao.tail han
  · obtain ⟨Lot, rfl, ho⟩ := hro.of_yld
    rcases new with _ | ⟨(l | ⟨k', v'⟩), ns⟩
    · obtain rfl := hrn.of_nil
      rw [oStepBody_yld_nil]
      exact Spec.pure ⟨⟨ho, trivial, hao.tail, han, rfl, rfl, hho, hhn⟩, rfl⟩
    · obtain ⟨p, t, Lnt, rfl, _, ⟨fp, hx⟩, hn⟩ := hrn.of_link
      obtain ⟨n, rfl⟩ := han.head
      rw [oStepBody_yld_link]
      exact openNew_sim E hnf nameOf nm f g mo mn hg hna hx hho hhn _ ⟨rfl, rfl, ho⟩ hn hao han.tail
    · obtain ⟨Lnt, rfl, hn⟩ := hrn.of_yld
      rw [oStepBody_yld_yld]
      simp only [step]
      by_cases h1 : k < k'
      · simp only [if_pos h1]
        exact Spec.pure ⟨⟨ho, ⟨rfl, rfl, hn⟩, hao.tail, han, rfl, rfl, hho, hhn⟩, rfl⟩
      · by_cases h2 : k = k'
        · simp only [if_neg h1, if_pos h2]
          refine Spec.pure ⟨⟨ho, hn, hao.tail, han.tail, rfl, rfl, hho, hhn⟩, ?_⟩
          by_cases h3 : v = v'
          · simp only [if_pos h3]; rfl
          · simp only [if_neg h3]; rfl
        · simp only [if_neg h1, if_neg h2]
          exact Spec.pure ⟨⟨⟨rfl, rfl, ho⟩, hn, hao, han.tail, rfl, rfl, hho, hhn⟩, rfl⟩

theorem oRun_sim {m : Nat} (E : Env) (hnf : NoFail E) (nameOf : T → List UInt8) (nm : Nat → List UInt8) (f g : Nat) :
    ∀ (n : Nat) (st : ODiff) (S : St) (s : PS), Good s → Naming nameOf nm s.store → StRel nm s g st S →
    Spec (Grow m) (oRun E f n st) s (fun evs _ => evs.map (evMap nm) = (Diff.run E.layer nameOf n S).1) := by
  intro n
  induction n with
  | zero => intro st S s _ _ _; exact Spec.oof
  | succ n ih =>
    intro st S s hg hna hr
    unfold oRun
    refine Spec.bind (oStep_spec E f st (oStepBody_sim (m := m) E hnf nameOf nm f g st S s hg hna hr)) ?_
    rintro ⟨r, b⟩ s1 _ hgr hq
    cases b with
    | true => exact Spec.fail
    | false =>
      have hsim := hq.1 rfl
      cases hst : step E.layer nameOf S with
      | none =>
        rw [hst] at hsim
        rw [run_none _ _ hst]
        cases r with
        | none => exact Spec.pure rfl
        | some x => exact hsim.elim
      | some o =>
        rw [hst] at hsim
        rw [run_some _ _ hst]
        cases r with
        | none => exact hsim.elim
        | some x =>
          obtain ⟨st', evs⟩ := x
          refine Spec.bind (ih st' o.st s1 (hgr.good hg) (hgr.store ▸ hna) hsim.1) ?_
          intro rest s2 _ _ hrest
          refine Spec.pure ?_
          rw [List.map_append, hsim.2, hrest]

theorem stackRep_root {s : PS} {g k : Nat} {t : T} {fp : List Nat}
    (hx : repLink s.heap s.store g (.ref k) = some (true, t, fp)) (hr : rootItems true t = [Item.link true t]) :
    StackRep s g [OItem.link (.ref k)] (rootItems true t) ∧ AllRef [OItem.link (.ref k)] :=
  ⟨hr ▸ ⟨(fun h => nomatch h), ⟨fp, hx⟩, trivial⟩, AllRef.cons rfl (fun _ h => nomatch h)⟩

theorem oDiff_sim {m : Nat} (E : Env) (hnf : NoFail E) (nameOf : T → List UInt8) (nm : Nat → List UInt8) (f n : Nat)
    {g k1 k2 : Nat} {s : PS} {t1 t2 : T} {f1 f2 : List Nat} (hg : Good s) (hna : Naming nameOf nm s.store)
    (hx1 : repLink s.heap s.store g (.ref k1) = some (true, t1, f1))
    (hx2 : repLink s.heap s.store g (.ref k2) = some (true, t2, f2))
    (hr1 : rootItems true t1 = [Item.link true t1]) (hr2 : rootItems true t2 = [Item.link true t2]) :
    Spec (Grow m) (oDiff E f n (some (.ref k1)) (.ref k2)) s
      (fun evs _ => evs.map (evMap nm) = (Diff.run E.layer nameOf n (init (some (true, t1)) true t2)).1) :=
  oRun_sim (m := m) E hnf nameOf nm f g n { old := [OItem.link (.ref k1)], new := [OItem.link (.ref k2)] } _ s hg hna
    ⟨(stackRep_root hx1 hr1).1, (stackRep_root hx2 hr2).1, (stackRep_root hx1 hr1).2, (stackRep_root hx2 hr2).2,
      rfl, rfl, (fun _ h => nomatch h), (fun _ h => nomatch h)⟩

theorem oDiff_events (E : Env) (hnf : NoFail E) (nameOf : T → List UInt8) (nm : Nat → List UInt8) {f n : Nat}
    {g k1 k2 : Nat} {s s' : PS} {t1 t2 : T} {f1 f2 : List Nat} {evs : List OEv} (hg : Good s)
    (hna : Naming nameOf nm s.store)
    (hx1 : repLink s.heap s.store g (.ref k1) = some (true, t1, f1))
    (hx2 : repLink s.heap s.store g (.ref k2) = some (true, t2, f2))
    (hr1 : rootItems true t1 = [Item.link true t1]) (hr2 : rootItems true t2 = [Item.link true t2])
    (hrun : oDiff E f n (some (.ref k1)) (.ref k2) s = .ok evs s') :
    evs.map (evMap nm) = (Diff.run E.layer nameOf n (init (some (true, t1)) true t2)).1 :=
  ((oDiff_sim (m := 0) E hnf nameOf nm f n hg hna hx1 hx2 hr1 hr2).ok hrun).2

end Mast.Ptr
