import Mastverif.Lemmas.RefInsertTop
import Mastverif.Lemmas.PtrDecEq
/-!
Non-vacuity: a concrete system (load, inserts with growth, flush, reload of the persisted root through the
node cache, more inserts on both trees, a lookup) satisfies `Good`, every tree denotes a functional tree
(`repTree = some _`) whose footprint it owns, and the hypotheses of `insert_refines` hold before the last insert.

Finding (the last example of this file): with a branch factor below 2 the functional `Tree.insert` and the object-level
`Ptr.insert` disagree, because `Tree.insert` bounds its grow loop by `size + 1` iterations.
-/
namespace Mast.Ptr
open Mast.Heap

/-- executable version of `Good` -/
def goodB (s : PS) : Bool :=
  s.cache.all (fun na => match s.heap[na.2]?, storeAt s.store na.1 with
    | some nd, some sn => nd.shared && nd.keys == sn.keys && nd.vals == sn.vals && nd.links == expandLinks sn
    | _, _ => false) &&
  s.heap.all (fun nd => !nd.shared || nd.links.all (fun l => !isPtr l)) &&
  s.store.all (fun sn => sn.links.all (fun l => !isPtr l)) &&
  s.heap.all (fun nd => !nd.dirty || !nd.shared)

theorem goodB_sound {s : PS} (h : goodB s = true) : Good s := by
  unfold goodB at h
  simp only [Bool.and_eq_true, List.all_eq_true] at h
  obtain ⟨⟨⟨h1, h2⟩, h3⟩, h4⟩ := h
  refine ⟨?_, ?_, ?_, ?_⟩
  · intro n a hna
    have := h1 (n, a) hna
    split at this
    · next nd sn hnd hsn =>
      simp only [Bool.and_eq_true, beq_iff_eq] at this
      exact ⟨nd, sn, hnd, this.1.1.1, hsn, this.1.1.2, this.1.2, this.2⟩
    · cases this
  · intro a nd hnd hs l hl
    have := h2 nd (List.mem_of_getElem? hnd)
    simp only [hs, Bool.not_true, Bool.false_or, List.all_eq_true] at this
    simpa using this l hl
  · intro sn hsn l hl
    have := h3 sn hsn
    simpa using this l hl
  · intro a nd hnd hd
    have := h4 nd (List.mem_of_getElem? hnd)
    simpa [hd] using this

/-- executable version of `FpOwned` -/
def fpOwnedB (h : Heap) (m : Nat) (fp : List Nat) : Bool :=
  fp.all (fun y => match h[y]? with
    | some nd => nd.owner == m
    | none => false)

theorem fpOwnedB_sound {h : Heap} {m : Nat} {fp : List Nat} (hb : fpOwnedB h m fp = true) : FpOwned h m fp := by
  intro y hy
  unfold fpOwnedB at hb
  have := List.all_eq_true.mp hb y hy
  split at this
  · next nd hnd => exact ⟨nd, hnd, by simpa using this⟩
  · cases this

instance (t : PTree) : Decidable (Healthy t) := by unfold Healthy; infer_instance

def rxEnv : Env := { layer := fun k => if k % 4 = 0 then 1 else 0, failAt := fun _ => false }

/-- load an empty tree, four inserts (the tree grows once), flush, reload the persisted root into a second tree
    (cache hit), inserts on both trees, a lookup -/
def rxOps : List Op :=
  [.load 0 0 0 2, .ins 0 4 40, .ins 0 8 80, .ins 0 3 30, .ins 0 5 50, .flush 0, .load 3 4 1 2,
   .ins 1 6 60, .ins 0 2 20, .get 1 3]

def rxSys : Sys := (Sys.run rxEnv 10 { ps := { useCache := true } } rxOps).1

/-- The history is evaluated once; the examples here and in `RefDelExample.lean` start from its result. -/
theorem rxSys_eq :
    rxSys =
      { ps := { heap := [
                  ⟨[3, 4, 8], [30, 40, 80], [.nil, .nil, .nil, .nil], true, false, 1, none⟩,
                  ⟨[3], [30], [.nil, .nil], false, true, 1, some 1⟩,
                  ⟨[4, 8], [40, 80], [.ref 1, .ref 2, .nil], false, true, 1, some 3⟩,
                  ⟨[5], [50], [.nil, .nil], false, true, 1, some 2⟩,
                  ⟨[5, 6], [50, 60], [.nil, .nil, .nil], true, false, 2, none⟩,
                  ⟨[4, 8], [40, 80], [.ref 1, .ptr 4, .nil], true, false, 2, none⟩,
                  ⟨[2, 3], [20, 30], [.nil, .nil, .nil], true, false, 1, none⟩,
                  ⟨[4, 8], [40, 80], [.ptr 6, .ref 2, .nil], true, false, 1, none⟩],
                store := [⟨[3], [30], []⟩, ⟨[5], [50], []⟩, ⟨[4, 8], [40, 80], [.ref 1, .ref 2, .nil]⟩],
                cache := [(3, 2), (2, 3), (1, 1)], useCache := true, tick := 0, ltick := 16 },
        trees := [⟨1, .ptr 7, 5, 1, 2, 4, 2⟩, ⟨2, .ptr 5, 5, 1, 2, 4, 2⟩],
        nextId := 3 } := by
  decide +kernel

example : (Sys.run rxEnv 10 { ps := { useCache := true } } rxOps).2 = .ok := by decide +kernel
example : goodB rxSys.ps = true := by rw [rxSys_eq]; decide +kernel
example : Good rxSys.ps := goodB_sound (by rw [rxSys_eq]; decide +kernel)
/-- both trees denote functional trees, and own their footprints -/
example : rxSys.trees.map (fun t => (repTree rxSys.ps 10 t).isSome) = [true, true] := by rw [rxSys_eq]; decide +kernel
example : rxSys.trees.map (fun t => fpOwnedB rxSys.ps.heap t.id (footprint rxSys.ps 10 t)) = [true, true] := by
  rw [rxSys_eq]; decide +kernel
example : rxSys.trees.map (fun t => decide (Healthy t)) = [true, true] := by rw [rxSys_eq]; decide +kernel
/-- the two abstractions agree on the example -/
example : rxSys.trees.map (fun t => repTree rxSys.ps 10 t) = rxSys.trees.map (fun t => absTree rxSys.ps 10 t) := by
  rw [rxSys_eq]; decide +kernel

/-- one more insert on the second tree: the object-level result denotes the functional result (as
    `insert_refines` says it must) -/
example :
    (match rxSys.trees[1]? with
     | none => false
     | some t =>
       let r := insert rxEnv 10 rxSys.ps t 12 120
       match repTree rxSys.ps 10 t with
       | none => false
       | some A =>
         match Tree.insert rxEnv.layer A 12 120 with
         | .ok A' => decide (repTree r.1 10 r.2.1 = some A') && decide (r.2.2 = .ok)
         | _ => false) = true := by rw [rxSys_eq]; decide +kernel

/-! ## finding: branch factor 1 -/

def bfEnv : Env := { layer := fun _ => 5, failAt := fun _ => false }
def bfSys : Sys := (Sys.run bfEnv 20 {} [.load 0 0 0 1, .ins 0 1 10]).1

/-- with `bf = 1` (so `growAfter = 1` for ever) the second insert grows the tree five times at the object
    level (until no key lies above the height), but only `size + 1 = 2` times in `Tree.insert` -/
example :
    (match bfSys.trees[0]? with
     | none => none
     | some t =>
       let r := insert bfEnv 20 bfSys.ps t 2 20
       match repTree bfSys.ps 10 t, repTree r.1 10 r.2.1 with
       | some A, some B =>
         match Tree.insert bfEnv.layer A 2 20 with
         | .ok A' => some (r.2.2, B.height, A'.height)
         | _ => none
       | _, _ => none) = some (.ok, 5, 2) := by decide +kernel

end Mast.Ptr
