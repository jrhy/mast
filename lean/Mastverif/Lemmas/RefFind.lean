import Mastverif.Lemmas.RefPrune
import Mastverif.Lemmas.RefDelRows
/-!
`findNode`, with and without `create`: the path, its context, and what `T.get` / `T.ins` / `T.del` do along it.
-/
namespace Mast.Ptr
open Mast.Heap

theorem take_mid {α : Type} (A B : List α) (x : α) : (A ++ x :: B).take A.length = A := by simp
theorem drop_mid {α : Type} (A B : List α) (x : α) : (A ++ x :: B).drop (A.length + 1) = B := by simp
theorem childAt_mid (A B : List (Bool × T)) (x : Bool × T) : childAt (A ++ x :: B) A.length = x.2 := by
  simp [childAt]

theorem Fr.OK.fits {fr : Fr} {key : Nat} (h : fr.OK key) : fr.Fits := ⟨h.1, h.2.1⟩

theorem Fr.Fits.length_mid {fr : Fr} (hf : fr.Fits) (c : Bool × T) :
    (fr.L.map pr ++ c :: fr.R.map pr).length = fr.ks.length + 1 := by
  rw [List.length_append, List.length_cons, List.length_map, List.length_map, ← hf.1, Nat.add_assoc]

/-- `x` is the row on top of the frames `frs` over the bottom row `b`; a child that is absent in `x` stands for the
    empty node on `b`'s side (`follow` with `create` makes one) -/
def Above : List Fr → T → T → Prop
  | [], x, b => x = b
  | fr :: frs, x, b => ∃ c : Bool × T, x = mkRow (fr.L.map pr ++ c :: fr.R.map pr) fr.ks fr.vs ∧ Above frs (T.unmk c.2) b

theorem Above.get {key : Nat} : ∀ {frs : List Fr} {x b : T}, (∀ fr ∈ frs, fr.OK key) → Above frs x b →
    ∀ sl, T.get key (sl + frs.length) x = T.get key sl b := by
  intro frs
  induction frs with
  | nil => intro x b _ h sl; rw [h]; rfl
  | cons fr frs ih =>
    intro x b hok h sl
    obtain ⟨c, rfl, h'⟩ := h
    have hfr := hok fr (List.mem_cons_self ..)
    have hl : (fr.L.map pr).length = fr.L.length := List.length_map ..
    show T.get key (sl + frs.length + 1) _ = _
    rw [get_mkRow_succ _ _ _ _ _ (hfr.fits.length_mid c) hfr.2.1, hfr.2.2.1, if_neg hfr.2.2.2, ← hl, childAt_mid,
      ← get_unmk]
    exact ih (fun fr' h => hok fr' (List.mem_cons_of_mem _ h)) h' sl

theorem Above.ins {key : Nat} : ∀ {frs : List Fr} {x b : T}, (∀ fr ∈ frs, fr.OK key) → Above frs x b →
    ∀ v sl, T.ins key v (sl + frs.length) x = (T.ins key v sl b).map (plugRow frs) := by
  intro frs
  induction frs with
  | nil => intro x b _ h v sl; rw [h]; exact Option.map_id'.symm
  | cons fr frs ih =>
    intro x b hok h v sl
    obtain ⟨c, rfl, h'⟩ := h
    have hfr := hok fr (List.mem_cons_self ..)
    have hl : (fr.L.map pr).length = fr.L.length := List.length_map ..
    show T.ins key v (sl + frs.length + 1) _ = _
    rw [ins_mkRow_succ _ _ _ _ _ _ (hfr.fits.length_mid c) hfr.2.1, hfr.2.2.1, if_neg hfr.2.2.2, ← hl, childAt_mid,
      take_mid, drop_mid, ← ins_unmk, ih (fun fr' h => hok fr' (List.mem_cons_of_mem _ h)) h' v sl, Option.map_map]
    rfl

theorem Above.del {key : Nat} : ∀ {frs : List Fr} {x b : T}, (∀ fr ∈ frs, fr.OK key) → Above frs x b →
    ∀ sl, T.del key (sl + frs.length) x = (T.del key sl b).map (plugDel frs) := by
  intro frs
  induction frs with
  | nil => intro x b _ h sl; rw [h]; exact Option.map_id'.symm
  | cons fr frs ih =>
    intro x b hok h sl
    obtain ⟨c, rfl, h'⟩ := h
    have hfr := hok fr (List.mem_cons_self ..)
    have hl : (fr.L.map pr).length = fr.L.length := List.length_map ..
    show T.del key (sl + frs.length + 1) _ = _
    rw [del_mkRow_succ _ _ _ _ _ (hfr.fits.length_mid c) hfr.2.1, hfr.2.2.1, if_neg hfr.2.2.2, ← hl, childAt_mid,
      take_mid, drop_mid, ← del_unmk, ih (fun fr' h => hok fr' (List.mem_cons_of_mem _ h)) h' sl, Option.map_map]
    rfl

theorem repLink_emptyNode {h : Heap} {st : List SNode} {b m : Nat} (hb : h[b]? = some (emptyNode m)) :
    repLink h st 1 (.ptr b) = some (false, T.last false T.nil, [b]) := by
  refine repLink_ptr_some.mpr ⟨0, emptyNode m, [(false, T.nil, [])], rfl, hb, ⟨rfl, rfl⟩, ?_, ?_⟩
  · simp [emptyNode, seqO]
  · simp [nodeRep, emptyNode, ownFp, mkRow_single]

theorem follow_any_spec {m : Nat} (E : Env) (a i : Nat) (create : Bool) (s : PS) (hg : Good s) {nd : MNode}
    (hnd : s.heap[a]? = some nd) :
    Spec (Grow m) (follow E m a i create) s (fun c s' => ∃ l, nd.links[i]? = some l ∧
      (l = .nil → if create then c = s.heap.length ∧ s'.heap = s.heap ++ [emptyNode m] else c = a ∧ s' = s) ∧
      (l ≠ .nil → ∀ f x, repLink s.heap s.store f l = some x →
        repLink s'.heap s'.store f (.ptr c) = some (false, x.2.1, x.2.2))) := by
  unfold follow
  refine Spec.bind (read_spec a s) ?_
  rintro nd' s1 _ _ ⟨rfl, hnd'⟩
  rw [hnd] at hnd'; injection hnd' with hnd'; subst hnd'
  split
  · exact Spec.panic
  · next hl =>
    cases create with
    | false => exact Spec.pure ⟨.nil, hl, fun _ => ⟨rfl, rfl⟩, fun h => absurd rfl h⟩
    | true =>
      refine (alloc_spec (m := m) (emptyNode m) s (Or.inr rfl) (fun _ => rfl)).conseq ?_
      rintro c s' _ _ ⟨rfl, rfl⟩
      exact ⟨.nil, hl, fun _ => ⟨rfl, rfl⟩, fun h => absurd rfl h⟩
  · next l hne hl =>
    refine (load_spec (m := m) E l s hg).conseq ?_
    intro c s' _ _ h
    exact ⟨l, hl, fun h0 => absurd h0 h.1, fun _ => h.2.2⟩

/-- at an absent link `follow` without `create` returns the node itself: the search ends where it is -/
theorem findNode_stays {m : Nat} (E : Env) (key target : Nat) {a : Nat} {nd : MNode} {s : PS} (hg : Good s)
    (hnd : s.heap[a]? = some nd) (hl : nd.links[keyIdx nd.keys key]? = some .nil) :
    ∀ (f cur : Nat) (path : List (Nat × Nat)),
    Spec (Grow m) (findNode E m key target false f a cur path) s (fun fd s' =>
      s' = s ∧ fd.node = a ∧ fd.idx = keyIdx nd.keys key) := by
  intro f
  induction f with
  | zero => intro cur path; exact Spec.oof
  | succ f ih =>
    intro cur path
    unfold findNode
    refine Spec.bind (read_spec a s) ?_
    rintro nd' s1 _ _ ⟨rfl, hnd'⟩
    rw [hnd] at hnd'; injection hnd' with hnd'; subst hnd'
    refine Spec.ite (fun _ => Spec.panic) (fun _ => Spec.ite (fun _ => Spec.pure ⟨rfl, rfl, rfl⟩) (fun _ => ?_))
    refine Spec.bind (follow_any_spec (m := m) E a _ false s hg hnd) ?_
    rintro c s1 _ _ ⟨l, hl', hnil, _⟩
    rw [hl] at hl'; injection hl' with hl'
    obtain ⟨rfl, rfl⟩ := hnil hl'.symm
    exact ih _ _

/-- `findNode` ended in a node it reached through links that are present (or created): `p` is the path it added,
    `frs` the frames above the last node, which denotes `bx`; `x` is what the start node denoted at heap size `n` -/
structure FindPath (key target cur : Nat) (path : List (Nat × Nat)) (n : Nat) (x : Bool × T × List Nat) (fd : Found)
    (h : Heap) (st : List SNode) (p : List (Nat × Nat)) (frs : List Fr) (g' : Nat) (bx : Bool × T × List Nat) :
    Prop where
  path : fd.path = path ++ p
  last : p.getLast? = some (fd.node, fd.idx)
  depth : fd.cur + frs.length = cur
  target_le : target ≤ fd.cur
  ctx : Ctx h st p frs
  oks : ∀ fr ∈ frs, fr.OK key
  rep : repLink h st g' (.ptr fd.node) = some bx
  fp : FpExt n x.2.2 (plug frs bx).2.2
  above : Above frs x.2.1 bx.2.1

/-- With `create` the search always ends on such a path.  Without, it may get stuck above an absent link; then it
    ends in a node that does not hold the key. -/
theorem findNode_spec {m : Nat} (E : Env) (key target : Nat) (create : Bool) :
    ∀ (f a cur : Nat) (path : List (Nat × Nat)) (s : PS) (g : Nat) (x : Bool × T × List Nat),
    Good s → target ≤ cur → repLink s.heap s.store g (.ptr a) = some x → x.2.2.Nodup →
    Spec (Grow m) (findNode E m key target create f a cur path) s (fun fd s' =>
      ∃ nd, s'.heap[fd.node]? = some nd ∧ fd.idx = keyIdx nd.keys key ∧
        (create = true ∨ nd.keys[fd.idx]? = some key →
          (nd.keys[fd.idx]? = some key ∨ fd.cur = target) ∧
          ∃ p frs g' bx, FindPath key target cur path s.heap.length x fd s'.heap s'.store p frs g' bx)) := by
  intro f
  induction f with
  | zero => intro a cur path s g x _ _ _ _; exact Spec.oof
  | succ f ih =>
    intro a cur path s g x hg htc hx hnd
    unfold findNode
    refine Spec.bind (read_spec a s) ?_
    rintro nd s1 _ _ ⟨rfl, hnda⟩
    obtain ⟨g', cs, rfl, hv, h1, hcl, rfl⟩ := repLink_ptr_inv hx hnda
    refine Spec.ite (fun _ => Spec.panic) (fun _ => ?_)
    dsimp only
    generalize hi : keyIdx nd.keys key = i
    refine Spec.ite (fun hstop => ?_) (fun hcont => ?_)
    · exact Spec.pure ⟨nd, hnda, hi.symm, fun _ => ⟨hstop, [(a, i)], [], g' + 1, _, rfl, rfl, rfl, htc, trivial,
        fun _ h => (List.not_mem_nil h).elim, hx, FpExt.refl hnd, rfl⟩⟩
    · have hk : nd.keys[i]? ≠ some key := fun h => hcont (Or.inl h)
      have hct : cur ≠ target := fun h => hcont (Or.inr h)
      refine Spec.bind (follow_any_spec (m := m) E a i create s hg hnda) ?_
      rintro b s1 _ hgr1 ⟨l, hl, hnil, hnn⟩
      by_cases hstuck : l = .nil ∧ create = false
      · -- absent link, no `create`: the search stays in this node and does not find the key
        obtain ⟨rfl, rfl⟩ := hstuck
        obtain ⟨rfl, rfl⟩ := hnil rfl
        refine (findNode_stays (m := m) E key target hg hnda (by rw [hi]; exact hl) f (cur - 1)
          (path ++ [(b, i)])).conseq ?_
        rintro fd s' _ _ ⟨rfl, hnode, hidx⟩
        refine ⟨nd, by rw [hnode]; exact hnda, hidx, fun hkey => ?_⟩
        rcases hkey with hkey | hkey
        · cases hkey
        · rw [hidx, hi] at hkey
          exact absurd hkey hk
      · obtain ⟨c, hc1, hc2⟩ := seqO_map_getElem? h1 hl
        have hilt : i < nd.links.length := (List.getElem?_eq_some_iff.mp hl).1
        have hcs := take_append_getElem_drop hc2
        have hLlen : (cs.take i).length = i := by
          rw [List.length_take, hcl, ← hv.1]; exact Nat.min_eq_left (Nat.le_of_lt hilt)
        have hcur1 : cur - 1 + 1 = cur :=
          Nat.sub_add_cancel (Nat.lt_of_le_of_lt (Nat.zero_le _) (Nat.lt_of_le_of_ne htc (Ne.symm hct)))
        let fr : Fr := { own := ownFp nd a, ks := nd.keys, vs := nd.vals, L := cs.take i, R := cs.drop (i + 1) }
        have hfrok : fr.OK key := by
          refine ⟨?_, hv.2, ?_, ?_⟩
          · show (cs.take i).length + (cs.drop (i + 1)).length = nd.keys.length
            rw [hLlen, List.length_drop, hcl, Nat.add_sub_add_right]
            exact Nat.add_sub_cancel' (Nat.le_of_lt_succ (show i < nd.keys.length + 1 from hv.1 ▸ hilt))
          · show keyIdx nd.keys key = (cs.take i).length
            rw [hLlen]; exact hi
          · show nd.keys[(cs.take i).length]? ≠ some key
            rw [hLlen]; exact hk
        have hfp : (nodeRep false (ownFp nd a) nd.keys nd.vals cs).2.2 =
            (ownFp nd a ++ fps (cs.take i)) ++ c.2.2 ++ fps (cs.drop (i + 1)) := by
          rw [nodeRep_fp]; conv => lhs; rw [hcs]
          simp [List.append_assoc]
        have hltn : ∀ y ∈ (nodeRep false (ownFp nd a) nd.keys nd.vals cs).2.2, y < s.heap.length :=
          repLink_fp_lt' hx
        rw [hfp] at hnd hltn
        have hchild : ∃ gc xc, repLink s1.heap s1.store gc (.ptr b) = some xc ∧ xc.2.2.Nodup ∧
            xc.2.1 = T.unmk c.2.1 ∧
            (∀ new, FpExt s1.heap.length xc.2.2 new → FpExt s.heap.length c.2.2 new) := by
          by_cases hl0 : l = .nil
          · cases create with
            | false => exact absurd ⟨hl0, rfl⟩ hstuck
            | true =>
              obtain ⟨rfl, hheap⟩ := hnil hl0
              subst hl0
              rw [repLink_nil] at hc1; injection hc1 with hc1; subst hc1
              have hb : s1.heap[s.heap.length]? = some (emptyNode m) := by
                rw [hheap]; exact getElem?_append_self _ _
              refine ⟨1, _, repLink_emptyNode hb, List.nodup_cons.mpr ⟨List.not_mem_nil, List.nodup_nil⟩, rfl, fun new hnew => ?_⟩
              refine ⟨hnew.1, fun y hy => Or.inr ?_⟩
              rcases hnew.2 y hy with h | h
              · rw [List.mem_singleton.mp h]; exact Nat.le_refl _
              · exact Nat.le_trans hgr1.length h
          · exact ⟨g', _, hnn hl0 g' c hc1, (List.nodup_append.mp (List.nodup_append.mp hnd).1).2.1,
              (unmk_of_ne_nil (repLink_row_ne_nil hc1 hl0)).symm, fun new hnew => hnew.n_mono hgr1.length⟩
        obtain ⟨gc, xc, hxc, hxcnd, hxcrow, hxcfp⟩ := hchild
        refine (ih b (cur - 1) (path ++ [(a, i)]) s1 gc xc (hgr1.good hg)
          (Nat.le_sub_one_of_lt (Nat.lt_of_le_of_ne htc (Ne.symm hct))) hxc hxcnd).conseq ?_
        rintro fd s' _ hgr' ⟨bnd, hbnd, hidx, himp⟩
        refine ⟨bnd, hbnd, hidx, fun hkey => ?_⟩
        obtain ⟨hstop, p', frs', gb, bx, hF⟩ := himp hkey
        have hgr := hgr1.trans hgr'
        refine ⟨hstop, (a, i) :: p', fr :: frs', gb, bx, ?_, ?_, ?_, hF.target_le, ?_, ?_, hF.rep, ?_, pr c, ?_,
          hxcrow ▸ hF.above⟩
        · rw [hF.path, List.append_assoc, List.singleton_append]
        · exact getLast?_cons_of_some hF.last
        · show fd.cur + (frs'.length + 1) = cur
          rw [← Nat.add_assoc, hF.depth, hcur1]
        · exact hF.ctx.cons ⟨nd, g', hgr.alloc a nd hnda, hv, rfl, rfl, rfl, hLlen.symm, hilt,
            seqO_map_congr (seqO_map_take h1 i) (fun l _ c hc => hgr.rep hc),
            seqO_map_congr (seqO_map_drop h1 (i + 1)) (fun l _ c hc => hgr.rep hc)⟩
        · intro fr' hfr'
          rcases List.mem_cons.mp hfr' with h | h
          · rw [h]; exact hfrok
          · exact hF.oks fr' h
        · rw [hfp]
          show FpExt _ _ (fr.plug (plug frs' bx)).2.2
          rw [Fr.plug_fp]
          exact FpExt.ctx _ _ hnd
            (fun y hy => hltn y (List.mem_append.mpr (Or.inl (List.mem_append.mpr (Or.inl hy)))))
            (fun y hy => hltn y (List.mem_append.mpr (Or.inr hy))) (hxcfp _ hF.fp)
        · rw [nodeRep_row]
          conv => lhs; rw [hcs]
          rw [List.map_append, List.map_cons]

end Mast.Ptr
