import Mastverif.Lemmas.RefFlushCommit
/-! `flush` / `MakeRoot` refines "every present link becomes a name" (`flushedTree`). -/
namespace Mast.Ptr
open Mast.Heap

/-! ## inverting a run of `>>=` / `read` / `pure`; programs that never return an error -/

theorem bind_ok {α β : Type} {x : M α} {f : α → M β} {s s' : PS} {b : β} (h : (x >>= f) s = .ok b s') :
    ∃ a s1, x s = .ok a s1 ∧ f a s1 = .ok b s' := by
  change M.bind x f s = .ok b s' at h
  unfold M.bind at h
  cases hx : x s with
  | ok a s1 => rw [hx] at h; exact ⟨a, s1, rfl, h⟩
  | err s1 => rw [hx] at h; cases h
  | panic => rw [hx] at h; cases h
  | stuck => rw [hx] at h; cases h
  | oof => rw [hx] at h; cases h

theorem bind_err {α β : Type} {x : M α} {f : α → M β} {s s' : PS} (h : (x >>= f) s = .err s') :
    x s = .err s' ∨ ∃ a s1, x s = .ok a s1 ∧ f a s1 = .err s' := by
  change M.bind x f s = .err s' at h
  unfold M.bind at h
  cases hx : x s with
  | ok a s1 => rw [hx] at h; exact Or.inr ⟨a, s1, rfl, h⟩
  | err s1 => rw [hx] at h; exact Or.inl (by simpa using h)
  | panic => rw [hx] at h; cases h
  | stuck => rw [hx] at h; cases h
  | oof => rw [hx] at h; cases h

theorem read_ok {a : Nat} {s s' : PS} {nd : MNode} (h : read a s = .ok nd s') : s = s' ∧ s.heap[a]? = some nd :=
  ((read_spec (R := Grow 0) a s).ok h).2

theorem pure_ok {α : Type} {a b : α} {s s' : PS} (h : (Pure.pure a : M α) s = .ok b s') : a = b ∧ s = s' := by
  cases h; exact ⟨rfl, rfl⟩

theorem NoErrR.publish (m a : Nat) (links : List HLink) : NoErrR (publish m a links) := by
  intro s s' h; unfold Ptr.publish at h; split at h <;> cases h
theorem NoErrR.cacheAdd (n a : Nat) : NoErrR (cacheAdd n a) := by
  intro s s' h; cases h
theorem NoErrR.intern (sn : SNode) : NoErrR (intern sn) := by
  intro s s' h; unfold Ptr.intern at h; split at h <;> cases h
theorem NoErrR.oof {α : Type} : NoErrR (oofE : M α) := NoErr.oof

theorem NoErrR.storeLinks (g : Nat → M (Nat × List (Nat × List HLink × Nat))) (hg : ∀ c, NoErrR (g c)) :
    ∀ ls, NoErrR (storeLinks g ls) := by
  intro ls
  induction ls with
  | nil => unfold Ptr.storeLinks; exact NoErrR.pure _
  | cons l ls ih =>
    cases l with
    | nil => unfold Ptr.storeLinks; exact NoErrR.bind ih (fun r => NoErrR.pure _)
    | ref k => unfold Ptr.storeLinks; exact NoErrR.bind ih (fun r => NoErrR.pure _)
    | ptr c =>
      unfold Ptr.storeLinks
      exact NoErrR.bind (hg c) (fun r => NoErrR.bind ih (fun r2 => NoErrR.pure _))

theorem NoErrR.storeNode : ∀ (f a : Nat), NoErrR (storeNode f a) := by
  intro f
  induction f with
  | zero => intro a; exact NoErrR.oof
  | succ f ih =>
    intro a
    unfold Ptr.storeNode
    refine NoErrR.bind (NoErrR.read a) (fun nd => ?_)
    split
    · exact NoErrR.pure _
    · exact NoErrR.bind (NoErrR.storeLinks _ ih _) (fun r => NoErrR.bind (NoErrR.intern _) (fun n => NoErrR.pure _))

theorem NoErrR.commitAll (m : Nat) : ∀ cms, NoErrR (commitAll m cms) := by
  intro cms
  induction cms with
  | nil => unfold Ptr.commitAll; exact NoErrR.pure _
  | cons c rest ih =>
    obtain ⟨a, links, n⟩ := c
    unfold Ptr.commitAll
    refine NoErrR.bind (NoErrR.read a) (fun nd => NoErrR.bind ?_ (fun _ => NoErrR.bind (NoErrR.cacheAdd n a) (fun _ => ih)))
    split
    · exact NoErrR.pure _
    · exact NoErrR.bind (NoErrR.write _ _ _) (fun _ => NoErrR.publish _ _ _)

theorem StoreR.toW {m : Nat} {s s' : PS} (r : StoreR s s') : WStep m s s' :=
  ⟨by rw [r.heap]; exact Nat.le_refl _, r.store,
   fun a nd hl hnd => by rw [r.heap] at hnd; exact absurd (List.getElem?_eq_some_iff.mp hnd).1 (Nat.not_lt.mpr hl),
   fun a nd hnd => ⟨nd, by rw [r.heap]; exact hnd, rfl, fun h => h, fun _ => rfl⟩⟩

theorem CommitR.toW {m : Nat} {s s' : PS} (r : CommitR m s s') : WStep m s s' :=
  ⟨by rw [r.len]; exact Nat.le_refl _, ⟨[], by simp [r.store]⟩,
   fun a nd hl hnd => by have := (List.getElem?_eq_some_iff.mp hnd).1; rw [r.len] at this; exact absurd this (Nat.not_lt.mpr hl),
   fun a nd hnd => by
    obtain ⟨nd', h1, h2, _, _, h5, h6⟩ := r.keep a nd hnd
    refine ⟨nd', h1, h2, ?_, ?_⟩
    · intro hs
      cases hn : nd.shared with
      | false => rfl
      | true => rw [h5 hn] at hs; rw [hn] at hs; cases hs
    · rintro (h | h)
      · exact h5 h
      · exact h6 h⟩

/-- the functional tree after a flush of a non-empty tree: every present link is a name, the tree is clean -/
def flushedTree (A : Tree) : Tree := { A with root := persistT A.root, rootP := true, dirty := false }

theorem flushedTree_toList (A : Tree) : (flushedTree A).toList = A.toList := persistT_toList _

/-- relation to `Tree.makeRoot` of the functional model (dirty, non-empty case): equal up to the flags on absent links -/
theorem flushedTree_makeRoot (e : Enc) (A : Tree) (hd : A.dirty = true) (hne : Tree.isEmptyTop A.root = false) :
    (Tree.makeRoot e A).2.2 = { flushedTree A with root := T.persistAll A.root } ∧
    normFlags (T.persistAll A.root) = (flushedTree A).root := by
  refine ⟨?_, (persistT_eq_normFlags _).symm⟩
  simp [Tree.makeRoot, hne, hd, flushedTree]

def FlushOK (t : PTree) (g : Nat) (A : Tree) (t' : PTree) (n : Nat) (s' : PS) : Prop :=
  (n = 0 ∧ Tree.isEmptyTop A.root = true ∧ t' = t ∧ repTree s' g t = some { A with dirty := false } ∧
      FpOwned s'.heap t.id (footprint s' g t)) ∨
  (n ≠ 0 ∧ Tree.isEmptyTop A.root = false ∧ t' = { t with root := .ref n } ∧
      repTree s' g t' = some (flushedTree A) ∧ footprint s' g t' = [] ∧
      repLink s'.heap s'.store g (.ref n) = some (true, persistT A.root, []))

/-- three phases with three relations (`Grow` for the load, `StoreR` for `node.store`, `CommitR` for the commits): no
    one relation goes through `Spec.bind`, so the run is taken apart (`bind_ok`) and the steps composed as `WStep`s -/
theorem flush_refines (E : Env) (t t' : PTree) (fuel g n : Nat) (s s' : PS) (A : Tree)
    (hg : Good s) (hsrc : SourceOK s) (hsd : StoreDen s.store) (hown : FpOwned s.heap t.id (footprint s g t))
    (hA : repTree s g t = some A) (h : flush E t fuel s = .ok (t', n) s') :
    Good s' ∧ SourceOK s' ∧ StoreDen s'.store ∧ WStep t.id s s' ∧ FlushOK t g A t' n s' := by
  obtain ⟨x, hx, hxnd, hAeq⟩ := repTree_eq_some.mp hA
  rw [footprint_eq hx] at hown
  unfold flush at h
  by_cases hr : t.root = .nil
  · rw [if_pos hr] at h
    obtain ⟨h1, rfl⟩ := pure_ok h
    injection h1 with h1 h2
    subst h1; subst h2
    refine ⟨hg, hsrc, hsd, (Step.refl _ _).toW, Or.inl ⟨rfl, ?_, rfl, ?_, by rw [footprint_eq hx]; exact hown⟩⟩
    · rw [hr] at hx; simp at hx; subst hx; rw [hAeq]; rfl
    · rw [hA, hAeq]; simp only [treeRec, hr, rootDirty]
  · rw [if_neg hr] at h
    obtain ⟨a, s1, hld, h⟩ := bind_ok h
    obtain ⟨hgr1, _, hptr, hldx⟩ := (load_spec (m := t.id) E t.root s hg).ok hld
    have hxa := hldx g x hx
    have hx1 : repLink s1.heap s1.store g t.root = some x := hgr1.rep hx
    have hg1 := hgr1.good hg
    have hsrc1 : SourceOK s1 := (load_src E t.root).ok hld hsrc
    have hsd1 : StoreDen s1.store := by rw [hgr1.store]; exact hsd
    have hrow : T.unmk x.2.1 = x.2.1 := unmk_of_ne_nil (repLink_row_ne_nil hx hr)
    obtain ⟨nd, s1', hrd, h⟩ := bind_ok h
    obtain ⟨rfl, hnd⟩ := read_ok hrd
    have hempty : Tree.isEmptyTop x.2.1 = isEmptyN nd :=
      isEmptyTop_of_isEmptyN (x := (false, x.2.1, x.2.2)) hxa hnd
    have hdirty : rootDirty s.heap t.root = nd.dirty := (load_root_dirty hg hld hnd).symm
    by_cases hemp : isEmptyN nd = true
    · rw [if_pos hemp] at h
      obtain ⟨_, s2, hw, h⟩ := bind_ok h
      obtain ⟨h1, rfl⟩ := pure_ok h
      injection h1 with h1 h2
      subst h1; subst h2
      have hAroot : Tree.isEmptyTop A.root = true := by rw [hAeq]; simp only [treeRec, hrow, hempty, hemp]
      by_cases hd : nd.dirty = true
      · rw [if_pos hd] at hw
        obtain ⟨hst2, old, hold, _, hos, _, _, _, rfl⟩ := (write_spec (m := t.id) a { nd with dirty := false } s1).ok hw
        cases hnd.symm.trans hold
        have hlt : a < s1.heap.length := (List.getElem?_eq_some_iff.mp hnd).1
        have hshape : Shape s1.heap (s1.heap.set a { nd with dirty := false }) := shape_set hnd rfl rfl rfl rfl rfl
        have hx2 : repLink (s1.heap.set a { nd with dirty := false }) s1.store g t.root = some x :=
          repLink_shape hshape g _ _ hx1
        have hsrc2 := hsrc1.set (nd := { nd with dirty := false }) hnd hos hos (Or.inr rfl)
        refine ⟨hst2.good hg1, hsrc2, hsd1, hgr1.toStep.toW.trans hst2.toW, Or.inl ⟨rfl, hAroot, rfl, ?_, ?_⟩⟩
        · refine repTree_eq_some.mpr ⟨x, hx2, hxnd, ?_⟩
          have hd2 : rootDirty (s1.heap.set a { nd with dirty := false }) t.root = false := by
            cases hroot : t.root with
            | nil => rfl
            | ref k => rfl
            | ptr b =>
              obtain ⟨rfl, _⟩ := hptr b hroot
              simp only [rootDirty, List.getElem?_set_self hlt, Option.map_some, Option.getD_some]
          rw [hAeq]
          simp only [treeRec, hd2]
        · rw [footprint_eq (s := { s1 with heap := s1.heap.set a { nd with dirty := false } }) hx2]
          exact ((hown.allocOnly hgr1.alloc).shape hshape)
      · rw [if_neg hd] at hw
        obtain ⟨_, rfl⟩ := pure_ok hw
        have hd' : nd.dirty = false := by simpa using hd
        refine ⟨hg1, hsrc1, hsd1, hgr1.toStep.toW, Or.inl ⟨rfl, hAroot, rfl, ?_, ?_⟩⟩
        · rw [hgr1.repTree hA, hAeq]
          simp only [treeRec, hdirty, hd']
        · rw [footprint_eq hx1]; exact hown.allocOnly hgr1.alloc
    · rw [if_neg hemp] at h
      have hemp' : isEmptyN nd = false := by simpa using hemp
      obtain ⟨⟨n0, cms⟩, s2, hsn, h⟩ := bind_ok h
      dsimp only at h
      obtain ⟨_, s3, hcm, h⟩ := bind_ok h
      obtain ⟨h1, rfl⟩ := pure_ok h
      injection h1 with h1 h2
      subst h1; subst h2
      obtain ⟨hr2, hn, hcms⟩ := (storeNode_spec fuel a s1 g _ hg1 hsrc1 hxa hxnd).ok hsn
      dsimp only at hn hcms
      have hg2 := hr2.good hg1
      have hsrc2 := hr2.source hsrc1
      have hsd2 := hr2.den hg1.flat hsd1
      obtain ⟨hr3, hg3, hsrc3⟩ := (commitAll_spec t.id cms s2 hg2 hsrc2
        (fun c hc => by rw [hr2.heap]; exact (hcms.1 c hc).1) (by rw [hr2.heap]; exact hcms.2)).ok hcm
      have hne : x.2.1 ≠ T.nil := repLink_row_ne_nil hx hr
      have hflag := not_isNil hne
      have hAroot : A.root = x.2.1 := by rw [hAeq]; exact hrow
      have hn3 : repLink s3.heap s3.store g (.ref n0) = some (true, persistT A.root, []) := by
        rw [hr3.store, hAroot]
        have := repLink_flat_heap (h' := s3.heap) hg2.flat _ _ _ rfl hn
        rw [this]; simp only [pchild, hflag]
      have hpn : persistT A.root ≠ T.nil := by
        intro h0
        have h1 := isNil_persistT A.root
        rw [h0, hAroot] at h1
        rw [← h1] at hflag
        cases hflag
      refine ⟨hg3, hsrc3, by rw [hr3.store]; exact hsd2, (hgr1.toStep.toW.trans hr2.toW).trans hr3.toW,
        Or.inr ⟨?_, ?_, rfl, ?_, ?_, hn3⟩⟩
      · intro h0
        subst h0
        obtain ⟨_, sn, _, _, hsn0, _⟩ := repLink_ref_some.mp hn3
        simp [storeAt] at hsn0
      · rw [hAroot, hempty, hemp']
      · refine repTree_eq_some.mpr ⟨_, hn3, by simp, ?_⟩
        have hpn' : T.unmk (persistT x.2.1) = persistT x.2.1 := by rw [← hAroot]; exact unmk_of_ne_nil hpn
        rw [hAeq]
        simp only [treeRec, flushedTree, rootDirty, hrow, hpn']
      · exact footprint_eq (t := { t with root := .ref n0 }) hn3

/-- a flush can only fail in the load of its root: nothing but counters / the loaded object changed -/
theorem flush_err (E : Env) (t : PTree) (fuel : Nat) (s s' : PS) (hg : Good s) (hsrc : SourceOK s)
    (h : flush E t fuel s = .err s') : Grow t.id s s' ∧ SourceOK s' := by
  unfold flush at h
  by_cases hr : t.root = .nil
  · rw [if_pos hr] at h; cases h
  · rw [if_neg hr] at h
    rcases bind_err h with h | ⟨a, s1, hld, h⟩
    · exact ⟨(load_spec (m := t.id) E t.root s hg).err h, (load_src E t.root).err h hsrc⟩
    · exfalso
      rcases bind_err h with h | ⟨nd, s2, _, h⟩
      · exact NoErrR.read a _ _ h
      · by_cases hemp : isEmptyN nd = true
        · rw [if_pos hemp] at h
          rcases bind_err h with h | ⟨_, s3, _, h⟩
          · split at h
            · exact NoErrR.write _ _ _ _ _ h
            · cases h
          · cases h
        · rw [if_neg hemp] at h
          rcases bind_err h with h | ⟨r, s3, _, h⟩
          · exact NoErrR.storeNode _ _ _ _ h
          · obtain ⟨n0, cms⟩ := r
            dsimp only at h
            rcases bind_err h with h | ⟨_, s4, _, h⟩
            · exact NoErrR.commitAll _ _ _ _ h
            · cases h

end Mast.Ptr
