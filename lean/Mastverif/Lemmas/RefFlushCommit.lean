import Mastverif.Lemmas.RefFlushStore
/-!
The commit closures of `flush` (`commitAll`): every justified commit turns its object into the shared decoding of
the stored node of its name; `Good` (cache invariant included) and `SourceOK` are re-established.
-/
namespace Mast.Ptr
open Mast.Heap

/-- what the commits do to the state: objects of `m` may be published (entries and owner kept), nothing else -/
structure CommitR (m : Nat) (s s' : PS) : Prop where
  store : s'.store = s.store
  useCache : s'.useCache = s.useCache
  len : s'.heap.length = s.heap.length
  keep : ∀ (a : Nat) (nd : MNode), s.heap[a]? = some nd → ∃ nd', s'.heap[a]? = some nd' ∧ nd'.owner = nd.owner ∧
    nd'.keys = nd.keys ∧ nd'.vals = nd.vals ∧ (nd.shared = true → nd' = nd) ∧ (nd.owner ≠ m → nd' = nd)

instance (m : Nat) : PreR (CommitR m) where
  refl := fun s => ⟨rfl, rfl, rfl, fun a nd h => ⟨nd, h, rfl, rfl, rfl, fun _ => rfl, fun _ => rfl⟩⟩
  trans := fun {a b c} x y => ⟨by rw [y.store, x.store], by rw [y.useCache, x.useCache], by rw [y.len, x.len], by
    intro p nd hnd
    obtain ⟨nd2, h2, e1, e2, e3, e4, e5⟩ := x.keep p nd hnd
    obtain ⟨nd3, h3, f1, f2, f3, f4, f5⟩ := y.keep p nd2 h2
    refine ⟨nd3, h3, f1.trans e1, f2.trans e2, f3.trans e3, ?_, ?_⟩
    · intro hs; have := e4 hs; subst this; exact f4 hs
    · intro ho; have := e5 ho; subst this; exact f5 ho⟩

def pubNode (nd : MNode) (links : List HLink) (n : Nat) : MNode :=
  { nd with source := some n, links := links, dirty := false, shared := true }

/-- the fact sits in the relation slot of `Spec` (postcondition `True`): it relates the two states, and
    `commitAll_spec` weakens it to `CommitR` with `Spec.mono` -/
theorem write_publish_spec {m a n : Nat} {nd : MNode} {links : List HLink} {s : PS} (hnd : s.heap[a]? = some nd) :
    Spec (fun s s' => nd.owner = m ∧ nd.shared = false ∧ s' = { s with heap := s.heap.set a (pubNode nd links n) })
      (do write m a { nd with source := some n }; publish m a links) s (fun _ _ => True) := by
  have hlt : a < s.heap.length := (List.getElem?_eq_some_iff.mp hnd).1
  show Spec _ (M.bind (write m a { nd with source := some n }) (fun _ => publish m a links)) s _
  unfold Spec M.bind write
  simp only [applyAct, hnd]
  by_cases hc : nd.owner = m ∧ nd.shared = false ∧ ({ nd with source := some n } : MNode).owner = m ∧
      ({ nd with source := some n } : MNode).shared = false ∧
      ({ nd with source := some n } : MNode).links.all (linkOK s.heap m) = true ∧ m ≠ 0
  · rw [if_pos hc]
    simp only []
    unfold publish
    simp only [applyAct, List.getElem?_set_self hlt]
    by_cases hc2 : nd.owner = m ∧ nd.shared = false ∧ (links.all fun l => !isPtr l) = true ∧ m ≠ 0
    · rw [if_pos hc2]
      simp only []
      refine ⟨⟨hc.1, hc.2.1, ?_⟩, trivial⟩
      simp only [List.set_set, pubNode]
    · rw [if_neg hc2]; trivial
  · rw [if_neg hc]; trivial

theorem cacheAdd_spec (m n a : Nat) (s : PS) :
    Spec (CommitR m) (cacheAdd n a) s (fun _ s' => s'.heap = s.heap ∧ s'.store = s.store ∧
      ∀ k b, (k, b) ∈ s'.cache → (k, b) = (n, a) ∨ (k, b) ∈ s.cache) := by
  unfold Spec cacheAdd
  cases huc : s.useCache with
  | true =>
    exact ⟨⟨rfl, huc.symm, rfl, fun b x hx => ⟨x, hx, rfl, rfl, rfl, fun _ => rfl, fun _ => rfl⟩⟩, rfl, rfl,
      fun k b h => List.mem_cons.mp h⟩
  | false => exact ⟨PreR.refl s, rfl, rfl, fun k b h => Or.inr h⟩

theorem good_cacheAdd {s s' : PS} {n a : Nat} {nd : MNode} {sn : SNode} (hg : Good s) (hh : s'.heap = s.heap)
    (hst : s'.store = s.store) (hc : ∀ k b, (k, b) ∈ s'.cache → (k, b) = (n, a) ∨ (k, b) ∈ s.cache)
    (hnd : s.heap[a]? = some nd) (hs : nd.shared = true) (hsn : storeAt s.store n = some sn) (hk : nd.keys = sn.keys)
    (hv : nd.vals = sn.vals) (hl : nd.links = expandLinks sn) : Good s' := by
  refine ⟨?_, by rw [hh]; exact hg.sflat, by rw [hst]; exact hg.flat, by rw [hh]; exact hg.du⟩
  intro k b hkb
  rw [hh, hst]
  rcases hc k b hkb with h | h
  · cases h; exact ⟨nd, sn, hnd, hs, hsn, hk, hv, hl⟩
  · exact hg.cache k b h

theorem good_publish {s : PS} {a n : Nat} {nd : MNode} {sn : SNode} {links : List HLink} (hg : Good s) (hsrc : SourceOK s)
    (hnd : s.heap[a]? = some nd) (hs : nd.shared = false) (hsn : storeAt s.store n = some sn)
    (hk : nd.keys = sn.keys) (hv : nd.vals = sn.vals) (hl : links = expandLinks sn) :
    Good { s with heap := s.heap.set a (pubNode nd links n) } ∧
    SourceOK { s with heap := s.heap.set a (pubNode nd links n) } := by
  have hflat : ∀ l ∈ links, isPtr l = false := by
    rw [hl]; exact expandLinks_flat (hg.flat sn (storeAt_mem hsn))
  refine ⟨⟨?_, ?_, hg.flat, ?_⟩, ⟨?_, ?_⟩⟩
  · intro k b hkb
    obtain ⟨x, sx, h1, h2, h3⟩ := hg.cache k b hkb
    have hba : b ≠ a := by
      intro h; subst h; rw [hnd] at h1; injection h1 with h1; subst h1; rw [hs] at h2; cases h2
    exact ⟨x, sx, by show (s.heap.set a _)[b]? = some x; rw [List.getElem?_set_ne (Ne.symm hba)]; exact h1, h2, h3⟩
  · intro b x hx hsx l hlx
    rcases getElem?_set_cases hx with ⟨_, rfl⟩ | ⟨_, hx⟩
    · exact hflat l hlx
    · exact hg.sflat b x hx hsx l hlx
  · exact du_set hg.du (fun h => by simp [pubNode] at h)
  · intro b x hx hsx
    rcases getElem?_set_cases hx with ⟨_, rfl⟩ | ⟨_, hx⟩
    · simp [pubNode] at hsx
    · exact hsrc.unsh b x hx hsx
  · intro b x k hx hsx hso
    rcases getElem?_set_cases hx with ⟨_, rfl⟩ | ⟨_, hx⟩
    · simp only [pubNode, Option.some.injEq] at hso
      subst hso
      exact ⟨sn, hsn, hk, hv, hl⟩
    · exact hsrc.sh b x k hx hsx hso

theorem sharedA_set_pub {h : Heap} {a b n : Nat} {nd : MNode} {links : List HLink} (hnd : h[a]? = some nd)
    (hb : SharedA h b) : SharedA (h.set a (pubNode nd links n)) b :=
  shared_set hnd (fun _ => rfl) hb

theorem commitAll_spec (m : Nat) : ∀ (cms : List (Nat × List HLink × Nat)) (s : PS), Good s → SourceOK s →
    (∀ c ∈ cms, CmOK s.heap s.store c) → CmsDistinct s.heap cms →
    Spec (CommitR m) (commitAll m cms) s (fun _ s' => Good s' ∧ SourceOK s') := by
  intro cms
  induction cms with
  | nil => intro s hg hsrc _ _; unfold commitAll; exact Spec.pure ⟨hg, hsrc⟩
  | cons c rest ih =>
    intro s hg hsrc hcm hdist
    obtain ⟨a, links, n⟩ := c
    obtain ⟨nd0, sn, hnd0, hsn, hk, hv, hl, hshl⟩ := hcm (a, links, n) (by simp)
    dsimp only at hnd0 hsn hl hshl
    unfold CmsDistinct at hdist
    rw [List.pairwise_cons] at hdist
    obtain ⟨hhead, htail⟩ := hdist
    unfold commitAll
    refine Spec.bind (read_spec a s) ?_
    rintro nd s0 _ _ ⟨rfl, hnd⟩
    rw [hnd0] at hnd; injection hnd with hnd; subst hnd
    refine Spec.bind (Q1 := fun _ s1 => Good s1 ∧ SourceOK s1 ∧ (∀ c ∈ rest, CmOK s1.heap s1.store c) ∧
      CmsDistinct s1.heap rest ∧ ∃ nd1, s1.heap[a]? = some nd1 ∧ nd1.shared = true ∧ storeAt s1.store n = some sn ∧
        nd1.keys = sn.keys ∧ nd1.vals = sn.vals ∧ nd1.links = expandLinks sn) ?_ ?_
    · by_cases hsh : nd0.shared = true
      · rw [if_pos hsh]
        exact Spec.pure ⟨hg, hsrc, fun c hc => hcm c (List.mem_cons_of_mem _ hc), htail,
          nd0, hnd0, hsh, hsn, hk, hv, by rw [hshl hsh, hl]⟩
      · rw [if_neg hsh]
        have hsh' : nd0.shared = false := by simpa using hsh
        refine ((write_publish_spec (m := m) (n := n) (links := links) hnd0).conseq
          (Q' := fun _ s1 => nd0.owner = m ∧ s1 = { s with heap := s.heap.set a (pubNode nd0 links n) })
          (fun _ _ _ hr _ => ⟨hr.1, hr.2.2⟩)).mono ?_ |>.conseq ?_
        · rintro s1 ⟨ho, _, rfl⟩
          have hlt : a < s.heap.length := (List.getElem?_eq_some_iff.mp hnd0).1
          refine ⟨rfl, rfl, by simp, ?_⟩
          intro b x hx
          by_cases hba : b = a
          · subst hba
            rw [hnd0] at hx; injection hx with hx; subst hx
            refine ⟨_, List.getElem?_set_self hlt, rfl, rfl, rfl, ?_, ?_⟩
            · intro h; rw [hsh'] at h; cases h
            · intro h; exact absurd ho h
          · exact ⟨x, by show (s.heap.set a _)[b]? = some x; rw [List.getElem?_set_ne (Ne.symm hba)]; exact hx,
              rfl, rfl, rfl, fun _ => rfl, fun _ => rfl⟩
        · rintro _ s1 _ _ ⟨_, rfl⟩
          have hlt : a < s.heap.length := (List.getElem?_eq_some_iff.mp hnd0).1
          obtain ⟨hg1, hs1⟩ := good_publish (links := links) hg hsrc hnd0 hsh' hsn hk hv hl
          refine ⟨hg1, hs1, ?_, ?_, pubNode nd0 links n, List.getElem?_set_self hlt, rfl, hsn, hk, hv, hl⟩
          · intro c hc
            obtain ⟨x, sx, h1, h2⟩ := hcm c (List.mem_cons_of_mem _ hc)
            have hca : c.1 ≠ a := by
              intro h
              obtain ⟨y, hy, hys⟩ := hhead c hc h.symm
              rw [hnd0] at hy; injection hy with hy; subst hy
              rw [hsh'] at hys; cases hys
            exact ⟨x, sx, by show (s.heap.set a _)[c.1]? = some x; rw [List.getElem?_set_ne (Ne.symm hca)]; exact h1, h2⟩
          · exact htail.imp (fun h1 h2 => sharedA_set_pub hnd0 (h1 h2))
    · rintro _ s1 _ _ ⟨hg1, hs1, hcm1, hd1, nd1, hnd1, hsh1, hsn1, hk1, hv1, hl1⟩
      refine Spec.bind (cacheAdd_spec m n a s1) ?_
      rintro _ s2 _ _ ⟨hh2, hst2, hc2⟩
      exact ih s2 (good_cacheAdd hg1 hh2 hst2 hc2 hnd1 hsh1 hsn1 hk1 hv1 hl1) (hs1.of_eq hh2 hst2)
        (by rw [hh2, hst2]; exact hcm1) (by rw [hh2]; exact hd1)

end Mast.Ptr
