import Mastverif.Lemmas.RefFp
import Mastverif.Model.Store
/-!
Rows that are entirely in the store: `persistT` (what `flush` does to a row), and what a link without pointers denotes
(`repLink_flat`: a fixed point of `persistT`, nothing in memory, the same in every heap) — the loads need the latter as
much as `flush` does.  At the end: a node object is the empty top node exactly when its row is (`Tree.isEmptyTop`).
-/
namespace Mast.Ptr
open Mast.Heap

def FlatL (ls : List HLink) : Prop := ∀ l ∈ ls, isPtr l = false

theorem storeAt_mem {st : List SNode} {n : Nat} {sn : SNode} (h : storeAt st n = some sn) : sn ∈ st := by
  unfold storeAt at h
  split at h
  · cases h
  · exact List.mem_of_getElem? h

theorem expandLinks_flat {sn : SNode} (h : FlatL sn.links) : FlatL (expandLinks sn) := by
  intro l hl
  unfold expandLinks at hl
  split at hl
  · rw [List.mem_replicate] at hl; rw [hl.2]; rfl
  · exact h l hl

theorem fps_eq_nil {cs : List (Bool × T × List Nat)} (h : ∀ c ∈ cs, c.2.2 = []) : fps cs = [] := by
  induction cs with
  | nil => rfl
  | cons c cs ih =>
    rw [fps_cons, h c (by simp), ih (fun c' hc' => h c' (List.mem_cons_of_mem _ hc'))]; rfl

theorem seqO_map_mem_inv {α β : Type} {F : α → Option β} {ls : List α} {cs : List β}
    (h : seqO (ls.map F) = some cs) {c : β} (hc : c ∈ cs) : ∃ l ∈ ls, F l = some c := by
  obtain ⟨i, hi⟩ := List.getElem?_of_mem hc
  have hlt : i < ls.length := by rw [← seqO_map_length h]; exact (List.getElem?_eq_some_iff.mp hi).1
  obtain ⟨c', hc1, hc2⟩ := seqO_map_getElem? h (List.getElem?_eq_getElem hlt)
  cases hi.symm.trans hc2
  exact ⟨ls[i], List.getElem_mem hlt, hc1⟩

/-- the row after a flush: a link is a name iff it is present -/
def persistT : T → T
  | .nil => .nil
  | .last _ c => .last (!c.isNil) (persistT c)
  | .cons _ c k v r => .cons (!c.isNil) (persistT c) k v (persistT r)

theorem not_isNil {t : T} (h : t ≠ T.nil) : (!t.isNil) = true := by
  cases t with
  | nil => exact absurd rfl h
  | last _ _ => rfl
  | cons _ _ _ _ _ => rfl

theorem isNil_persistT (t : T) : (persistT t).isNil = t.isNil := by cases t <;> rfl

theorem isNil_normFlags (t : T) : (normFlags t).isNil = t.isNil := by cases t <;> rfl

theorem persistT_eq_normFlags : ∀ t : T, persistT t = normFlags (T.persistAll t)
  | .nil => rfl
  | .last p c => by
    simp only [persistT, T.persistAll, normFlags, Bool.true_and, persistT_eq_normFlags c]
    congr 1
    cases c <;> rfl
  | .cons p c k v r => by
    simp only [persistT, T.persistAll, normFlags, Bool.true_and, persistT_eq_normFlags c, persistT_eq_normFlags r]
    congr 1
    cases c <;> rfl

theorem persistT_toList : ∀ t : T, (persistT t).toList = t.toList
  | .nil => rfl
  | .last p c => by simp only [persistT, T.toList, persistT_toList c]
  | .cons p c k v r => by simp only [persistT, T.toList, persistT_toList c, persistT_toList r]

theorem persistT_idem : ∀ t : T, persistT (persistT t) = persistT t
  | .nil => rfl
  | .last p c => by simp only [persistT, isNil_persistT, persistT_idem c]
  | .cons p c k v r => by simp only [persistT, isNil_persistT, persistT_idem c, persistT_idem r]

/-- the child result after a flush -/
def pchild (c : Bool × T × List Nat) : Bool × T × List Nat := (!c.2.1.isNil, persistT c.2.1, [])

/-- clause by clause along `mkRow` (no validity needed) -/
theorem persistT_mkRow : ∀ (cs : List (Bool × T × List Nat)) (ks vs : List Nat),
    persistT (mkRow (cs.map pr) ks vs) = mkRow ((cs.map pchild).map pr) ks vs
  | [], _, _ => rfl
  | [_], _, _ => rfl
  | _ :: _ :: _, [], _ => rfl
  | _ :: _ :: _, _ :: _, [] => rfl
  | c :: x :: ls, k :: ks, v :: vs => by
    show persistT (mkRow ((c.1, c.2.1) :: pr x :: ls.map pr) (k :: ks) (v :: vs)) =
      mkRow ((!c.2.1.isNil, persistT c.2.1) :: pr (pchild x) :: (ls.map pchild).map pr) (k :: ks) (v :: vs)
    rw [mkRow_cons, mkRow_cons, persistT]
    exact congrArg _ (persistT_mkRow (x :: ls) ks vs)

theorem fps_map_pchild (cs : List (Bool × T × List Nat)) : fps (cs.map pchild) = [] :=
  fps_eq_nil (fun c hc => by
    obtain ⟨c0, _, rfl⟩ := List.mem_map.mp hc
    rfl)

/-- a child result that is already "persisted" -/
def IsP (c : Bool × T × List Nat) : Prop := pchild c = c

theorem map_pchild_of_isP {cs : List (Bool × T × List Nat)} (h : ∀ c ∈ cs, IsP c) : cs.map pchild = cs := by
  induction cs with
  | nil => rfl
  | cons c cs ih =>
    rw [List.map_cons, h c (by simp), ih (fun c' hc' => h c' (List.mem_cons_of_mem _ hc'))]

theorem pchild_nodeRep (flag : Bool) (own : List Nat) {ks : List Nat} (vs : List Nat) {cs : List (Bool × T × List Nat)}
    (hl : cs.length = ks.length + 1) :
    pchild (nodeRep flag own ks vs cs) = nodeRep true [] ks vs (cs.map pchild) := by
  have hne : mkRow (cs.map pr) ks vs ≠ T.nil := by
    apply mkRow_ne_nil
    intro h0
    have h2 := congrArg List.length h0
    rw [List.length_map, hl] at h2; cases h2
  show (!(mkRow (cs.map pr) ks vs).isNil, persistT (mkRow (cs.map pr) ks vs), []) =
    (true, mkRow ((cs.map pchild).map pr) ks vs, [] ++ fps (cs.map pchild))
  rw [not_isNil hne, persistT_mkRow cs ks vs, fps_map_pchild]; rfl

theorem isP_nodeRep {ks : List Nat} (vs : List Nat) {cs : List (Bool × T × List Nat)} (hl : cs.length = ks.length + 1)
    (h : ∀ c ∈ cs, IsP c) : IsP (nodeRep true [] ks vs cs) := by
  unfold IsP
  rw [pchild_nodeRep true [] vs hl, map_pchild_of_isP h]

theorem IsP.fp {c : Bool × T × List Nat} (h : IsP c) : c.2.2 = [] := (congrArg (·.2.2) h).symm

/-- the store holds no pointers, so below a name the heap is never read -/
theorem repLink_flat {h : Heap} {st : List SNode} (hf : StoreFlat st) :
    ∀ (f : Nat) (l : HLink) (x : Bool × T × List Nat), isPtr l = false → repLink h st f l = some x →
      IsP x ∧ ∀ h', repLink h' st f l = some x := by
  intro f
  induction f with
  | zero =>
    intro l x hl hx
    cases l with
    | nil => rw [repLink_nil] at hx; cases hx; exact ⟨rfl, fun h' => repLink_nil h' st 0⟩
    | ptr a => cases hx
    | ref n => cases hx
  | succ f ih =>
    intro l x hl hx
    cases l with
    | nil => rw [repLink_nil] at hx; cases hx; exact ⟨rfl, fun h' => repLink_nil h' st (f + 1)⟩
    | ptr a => cases hl
    | ref n =>
      obtain ⟨f', sn, cs, hf', hsn, hv, h1, rfl⟩ := repLink_ref_some.mp hx
      cases hf'
      have hch : ∀ l ∈ expandLinks sn, ∀ c, repLink h st f l = some c → IsP c ∧ ∀ h', repLink h' st f l = some c :=
        fun l hl c hc => ih l c (expandLinks_flat (hf sn (storeAt_mem hsn)) l hl) hc
      refine ⟨isP_nodeRep _ (by rw [seqO_map_length h1]; exact hv.1) ?_, fun h' =>
        repLink_ref_some.mpr ⟨f, sn, cs, rfl, hsn, hv, seqO_map_congr h1 (fun l hl c hc => (hch l hl c hc).2 h'), rfl⟩⟩
      intro c hc
      obtain ⟨l, hl, hlc⟩ := seqO_map_mem_inv h1 hc
      exact (hch l hl c hlc).1

theorem repLink_flat_isP {h : Heap} {st : List SNode} (hf : StoreFlat st) (f : Nat) (l : HLink)
    (x : Bool × T × List Nat) (hl : isPtr l = false) (hx : repLink h st f l = some x) : IsP x :=
  (repLink_flat hf f l x hl hx).1

theorem repLink_flat_fp {h : Heap} {st : List SNode} (hf : StoreFlat st) (f : Nat) (l : HLink)
    (x : Bool × T × List Nat) (hl : isPtr l = false) (hx : repLink h st f l = some x) : x.2.2 = [] :=
  (repLink_flat hf f l x hl hx).1.fp

theorem repLink_flat_heap {h h' : Heap} {st : List SNode} (hf : StoreFlat st) (f : Nat) (l : HLink)
    (x : Bool × T × List Nat) (hl : isPtr l = false) (hx : repLink h st f l = some x) : repLink h' st f l = some x :=
  (repLink_flat hf f l x hl hx).2 h'

theorem isEmptyTop_of_isEmptyN {h : Heap} {st : List SNode} {g a : Nat} {nd : MNode} {x : Bool × T × List Nat}
    (hx : repLink h st g (.ptr a) = some x) (hnd : h[a]? = some nd) :
    Tree.isEmptyTop x.2.1 = isEmptyN nd := by
  obtain ⟨g', cs, rfl, ⟨hv1, hv2⟩, h1, hcl, rfl⟩ := repLink_ptr_inv hx hnd
  rw [nodeRep_row]
  unfold isEmptyN
  -- by the length of the link list: one link (no entry), or at least two (an entry)
  cases hl : nd.links with
  | nil => rw [hl] at hv1; cases hv1
  | cons l ls =>
    rw [hl] at h1
    obtain ⟨c, cs', hc, hcs', rfl⟩ := seqO_map_cons.mp h1
    cases ls with
    | nil =>
      cases hcs'
      show Tree.isEmptyTop (mkRow [(c.1, c.2.1)] nd.keys nd.vals) = ([l] == [HLink.nil])
      rw [mkRow_single]
      cases l with
      | nil => rw [repLink_nil] at hc; cases hc; rfl
      | ptr b =>
        have := repLink_row_ne_nil hc HLink.noConfusion
        cases hr : c.2.1 with
        | nil => exact absurd hr this
        | last _ _ => rfl
        | cons _ _ _ _ _ => rfl
      | ref n =>
        have := repLink_row_ne_nil hc HLink.noConfusion
        cases hr : c.2.1 with
        | nil => exact absurd hr this
        | last _ _ => rfl
        | cons _ _ _ _ _ => rfl
    | cons l2 ls =>
      obtain ⟨c2, cs'', _, _, rfl⟩ := seqO_map_cons.mp hcs'
      rw [hl] at hv1
      cases hk : nd.keys with
      | nil => rw [hk] at hv1; cases hv1
      | cons k ks =>
        cases hvs : nd.vals with
        | nil => rw [hk, hvs] at hv2; cases hv2
        | cons v vs =>
          show Tree.isEmptyTop (mkRow ((c.1, c.2.1) :: pr c2 :: cs''.map pr) (k :: ks) (v :: vs)) = _
          rw [mkRow_cons]
          cases l <;> rfl

end Mast.Ptr
