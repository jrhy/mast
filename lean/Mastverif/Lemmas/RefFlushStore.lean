import Mastverif.Lemmas.RefSysInv
/-!
`node.store` (`storeNode` / `storeLinks` / `intern`): the heap is not touched, the store grows, the returned name
denotes the persisted row of the node, and every commit of the returned list is justified (`CmOK`).
-/
namespace Mast.Ptr
open Mast.Heap

/-- a step that only extends the store -/
structure StoreR (s s' : PS) : Prop where
  heap : s'.heap = s.heap
  cache : s'.cache = s.cache
  useCache : s'.useCache = s.useCache
  store : ∃ ext, s'.store = s.store ++ ext
  flat : StoreFlat s.store → StoreFlat s'.store
  den : StoreFlat s.store → StoreDen s.store → StoreDen s'.store

instance : PreR StoreR where
  refl := fun s => ⟨rfl, rfl, rfl, ⟨[], by simp⟩, fun h => h, fun _ h => h⟩
  trans := fun {a b c} x y => ⟨by rw [y.heap, x.heap], by rw [y.cache, x.cache], by rw [y.useCache, x.useCache], by
    obtain ⟨e1, h1⟩ := x.store
    obtain ⟨e2, h2⟩ := y.store
    exact ⟨e1 ++ e2, by rw [h2, h1, List.append_assoc]⟩, fun h => y.flat (x.flat h), fun h1 h2 => y.den (x.flat h1) (x.den h1 h2)⟩

theorem repLink_store_append {h : Heap} {st : List SNode} (ext : List SNode) {f : Nat} {l : HLink}
    {x : Bool × T × List Nat} (hx : repLink h st f l = some x) : repLink h (st ++ ext) f l = some x :=
  repLink_frame (h := h) (h' := h) (st := st) ext (fun _ => False) (fun _ _ hnd _ => hnd) (fun _ _ _ hw => hw.elim)
    f l x hx (fun _ _ hw => hw)

theorem StoreR.rep {s s' : PS} (r : StoreR s s') {f : Nat} {l : HLink} {x : Bool × T × List Nat}
    (hx : repLink s.heap s.store f l = some x) : repLink s'.heap s'.store f l = some x := by
  obtain ⟨ext, he⟩ := r.store
  rw [r.heap, he]; exact repLink_store_append ext hx

theorem StoreR.good {s s' : PS} (r : StoreR s s') (hg : Good s) : Good s' := by
  obtain ⟨ext, he⟩ := r.store
  exact hg.step (fun a nd h _ => by rw [r.heap]; exact h) (by rw [r.heap]; exact hg.sflat) (by rw [r.heap]; exact hg.du)
    ext he (r.flat hg.flat) r.cache

theorem StoreR.source {s s' : PS} (r : StoreR s s') (h : SourceOK s) : SourceOK s' := by
  obtain ⟨ext, he⟩ := r.store
  refine ⟨fun a nd hnd => h.unsh a nd (by rw [← r.heap]; exact hnd), fun a nd n hnd hs hso => ?_⟩
  obtain ⟨sn, h1, h2⟩ := h.sh a nd n (by rw [← r.heap]; exact hnd) hs hso
  exact ⟨sn, by rw [he]; exact storeAt_append h1 ext, h2⟩

theorem internIdx_some {sn : SNode} : ∀ {st : List SNode} {i j : Nat}, internIdx sn st i = some j →
    ∃ k, j = i + k ∧ st[k]? = some sn := by
  intro st
  induction st with
  | nil => intro i j h; cases h
  | cons x xs ih =>
    intro i j h
    unfold internIdx at h
    split at h
    · next hx => cases h; exact ⟨0, rfl, congrArg some hx⟩
    · obtain ⟨k, hk, h2⟩ := ih h
      exact ⟨k + 1, by rw [hk, Nat.add_assoc, Nat.add_comm 1], h2⟩

/-- children that denote separately denote together (with one fuel) -/
theorem seqO_uniform {h : Heap} {st : List SNode} : ∀ (ls : List HLink),
    (∀ l ∈ ls, ∃ g x, repLink h st g l = some x) → ∃ g cs, seqO (ls.map (repLink h st g)) = some cs := by
  intro ls
  induction ls with
  | nil => intro _; exact ⟨0, [], rfl⟩
  | cons l ls ih =>
    intro hh
    obtain ⟨g1, x, hx⟩ := hh l (by simp)
    obtain ⟨g2, cs, hcs⟩ := ih (fun l' hl' => hh l' (List.mem_cons_of_mem _ hl'))
    refine ⟨max g1 g2, x :: cs, seqO_map_cons.mpr ⟨x, cs, repLink_mono_le hx (Nat.le_max_left _ _), ?_, rfl⟩⟩
    exact seqO_map_congr hcs (fun l' _ c hc => repLink_mono_le hc (Nat.le_max_right _ _))

theorem intern_spec (sn : SNode) (s : PS) (hflat : FlatL sn.links) (hv : ValidS sn)
    (hch : ∃ g cs, seqO ((expandLinks sn).map (repLink [] s.store g)) = some cs) :
    Spec StoreR (intern sn) s (fun n s' => storeAt s'.store n = some sn) := by
  unfold Spec intern
  cases hi : internIdx sn s.store 0 with
  | some i =>
    obtain ⟨k, hk, h2⟩ := internIdx_some hi
    rw [Nat.zero_add] at hk; subst hk
    exact ⟨PreR.refl s, h2⟩
  | none =>
    refine ⟨⟨rfl, rfl, rfl, ⟨[sn], rfl⟩, ?_, ?_⟩, List.getElem?_concat_length⟩
    · intro hf x hx
      rcases List.mem_append.mp hx with h | h
      · exact hf x h
      · cases List.mem_singleton.mp h; exact hflat
    · intro hf hd n' sn' hsn'
      cases n' with
      | zero => cases hsn'
      | succ k =>
        -- an old name keeps its row; the new name denotes the row built from its children
        rcases getElem?_append_single (h := s.store) hsn' with h | ⟨_, h2⟩
        · obtain ⟨g, x, hx⟩ := hd (k + 1) sn' h
          exact ⟨g, x, repLink_store_append [sn] hx⟩
        · subst h2
          obtain ⟨g, cs, hcs⟩ := hch
          refine ⟨g + 1, _, repLink_ref_some.mpr ⟨g, sn', cs, rfl, hsn', hv, ?_, rfl⟩⟩
          exact seqO_map_congr hcs (fun l _ c hc => repLink_store_append [sn'] hc)

/-- a commit `(object, links, name)` is justified: the stored node of that name has the entries of the object, and the
    links are its (expanded) links -/
def CmOK (h : Heap) (st : List SNode) (c : Nat × List HLink × Nat) : Prop :=
  ∃ nd sn, h[c.1]? = some nd ∧ storeAt st c.2.2 = some sn ∧ nd.keys = sn.keys ∧ nd.vals = sn.vals ∧
    c.2.1 = expandLinks sn ∧ (nd.shared = true → nd.links = c.2.1)

/-- two commits of the same object: only if it is shared already (then the commit writes nothing) -/
def CmsDistinct (h : Heap) (cms : List (Nat × List HLink × Nat)) : Prop :=
  cms.Pairwise (fun c d => c.1 = d.1 → SharedA h c.1)

def CmsOK (h : Heap) (st : List SNode) (fp : List Nat) (cms : List (Nat × List HLink × Nat)) : Prop :=
  (∀ c ∈ cms, CmOK h st c ∧ (¬ SharedA h c.1 → c.1 ∈ fp)) ∧ CmsDistinct h cms

theorem CmOK.mono {h : Heap} {st : List SNode} {c : Nat × List HLink × Nat} (hc : CmOK h st c)
    (ext : List SNode) : CmOK h (st ++ ext) c := by
  obtain ⟨nd, sn, h1, h2, h3⟩ := hc
  exact ⟨nd, sn, h1, storeAt_append h2 ext, h3⟩

theorem CmsOK.nil (h : Heap) (st : List SNode) (fp : List Nat) : CmsOK h st fp [] :=
  ⟨fun c hc => by simp at hc, List.Pairwise.nil⟩

theorem CmsOK.mono {h : Heap} {st : List SNode} {fp fp' : List Nat} {cms : List (Nat × List HLink × Nat)}
    (hc : CmsOK h st fp cms) (ext : List SNode) (hfp : ∀ a ∈ fp, a ∈ fp') : CmsOK h (st ++ ext) fp' cms :=
  ⟨fun c hcm => ⟨(hc.1 c hcm).1.mono ext, fun hs => hfp _ ((hc.1 c hcm).2 hs)⟩, hc.2⟩

theorem CmsOK.append {h : Heap} {st : List SNode} {fp1 fp2 : List Nat} {cm1 cm2 : List (Nat × List HLink × Nat)}
    (h1 : CmsOK h st fp1 cm1) (h2 : CmsOK h st fp2 cm2) (hdisj : ∀ a, a ∈ fp1 → a ∈ fp2 → False) :
    CmsOK h st (fp1 ++ fp2) (cm1 ++ cm2) := by
  refine ⟨?_, ?_⟩
  · intro c hc
    rcases List.mem_append.mp hc with hc | hc
    · exact ⟨(h1.1 c hc).1, fun hs => List.mem_append.mpr (Or.inl ((h1.1 c hc).2 hs))⟩
    · exact ⟨(h2.1 c hc).1, fun hs => List.mem_append.mpr (Or.inr ((h2.1 c hc).2 hs))⟩
  · unfold CmsDistinct
    rw [List.pairwise_append]
    refine ⟨h1.2, h2.2, ?_⟩
    intro c hc d hd hcd
    by_cases hs : SharedA h c.1
    · exact hs
    · exfalso
      have m1 := (h1.1 c hc).2 hs
      have m2 := (h2.1 d hd).2 (by rw [← hcd]; exact hs)
      rw [← hcd] at m2
      exact hdisj _ m1 m2

/-- the name returned for a node that denotes `x` denotes the persisted `x`; the commits are justified -/
def StoreNodeOK (h : Heap) (st : List SNode) (g : Nat) (x : Bool × T × List Nat)
    (r : Nat × List (Nat × List HLink × Nat)) : Prop :=
  repLink h st g (.ref r.1) = some (pchild x) ∧ CmsOK h st x.2.2 r.2

def StoreLinksOK (h : Heap) (st : List SNode) (g : Nat) (cs : List (Bool × T × List Nat)) (ls : List HLink)
    (r : List HLink × List (Nat × List HLink × Nat)) : Prop :=
  seqO (r.1.map (repLink h st g)) = some (cs.map pchild) ∧ FlatL r.1 ∧ (FlatL ls → r.1 = ls) ∧
    CmsOK h st (fps cs) r.2

theorem storeLinks_spec {g : Nat} (G : Nat → M (Nat × List (Nat × List HLink × Nat)))
    (hG : ∀ c s x, Good s → SourceOK s → repLink s.heap s.store g (.ptr c) = some x → x.2.2.Nodup →
      Spec StoreR (G c) s (fun r s' => StoreNodeOK s.heap s'.store g x r)) :
    ∀ (ls : List HLink) (s : PS) (cs : List (Bool × T × List Nat)), Good s → SourceOK s →
      seqO (ls.map (repLink s.heap s.store g)) = some cs → (fps cs).Nodup →
      Spec StoreR (storeLinks G ls) s (fun r s' => StoreLinksOK s.heap s'.store g cs ls r) := by
  intro ls
  induction ls with
  | nil =>
    intro s cs _ _ hcs _
    unfold storeLinks
    simp [seqO] at hcs; subst hcs
    exact Spec.pure ⟨rfl, fun l hl => by simp at hl, fun _ => rfl, CmsOK.nil _ _ _⟩
  | cons l ls ih =>
    intro s cs hg hsrc hcs hnd
    obtain ⟨c0, cs0, hc0, hcs0, rfl⟩ := seqO_map_cons.mp hcs
    rw [fps_cons, List.nodup_append] at hnd
    obtain ⟨hnd0, hnds, hdisj⟩ := hnd
    -- a head that is not a pointer stays
    have flatHead : isPtr l = false →
        Spec StoreR (do let (ls', cm') ← storeLinks G ls; pure (l :: ls', cm')) s
          (fun r s' => StoreLinksOK s.heap s'.store g (c0 :: cs0) (l :: ls) r) := by
      intro hl
      have hp : pchild c0 = c0 := repLink_flat_isP hg.flat _ _ _ hl hc0
      have hfp0 : c0.2.2 = [] := repLink_flat_fp hg.flat _ _ _ hl hc0
      refine Spec.bind (ih s cs0 hg hsrc hcs0 hnds) ?_
      rintro ⟨ls', cm'⟩ s1 _ hr1 ⟨h1, h2, h3, h4⟩
      dsimp only at h1 h2 h3 h4
      refine Spec.pure ⟨?_, ?_, ?_, ?_⟩
      · refine seqO_map_cons.mpr ⟨c0, cs0.map pchild, ?_, h1, by rw [List.map_cons, hp]⟩
        have := hr1.rep hc0
        rw [hr1.heap] at this; exact this
      · intro x hx
        rcases List.mem_cons.mp hx with h | h
        · rw [h]; exact hl
        · exact h2 x h
      · intro hf
        show l :: ls' = l :: ls
        rw [h3 (fun x hx => hf x (List.mem_cons_of_mem _ hx))]
      · rw [fps_cons, hfp0, List.nil_append]; exact h4
    cases l with
    | nil => unfold storeLinks; exact flatHead rfl
    | ref k => unfold storeLinks; exact flatHead rfl
    | ptr c =>
      unfold storeLinks
      refine Spec.bind (hG c s c0 hg hsrc hc0 hnd0) ?_
      rintro ⟨n, cm⟩ s1 _ hr1 ⟨hn, hcm⟩
      have hcs1 : seqO (ls.map (repLink s1.heap s1.store g)) = some cs0 :=
        seqO_map_congr hcs0 (fun l _ c hc => hr1.rep hc)
      refine Spec.bind (ih s1 cs0 (hr1.good hg) (hr1.source hsrc) hcs1 hnds) ?_
      rintro ⟨ls', cm'⟩ s2 _ hr2 ⟨h1, h2, _, h4⟩
      dsimp only at hn hcm h1 h2 h4
      rw [hr1.heap] at h1 h4
      obtain ⟨ext2, he2⟩ := hr2.store
      refine Spec.pure ⟨?_, ?_, ?_, ?_⟩
      · refine seqO_map_cons.mpr ⟨pchild c0, cs0.map pchild, ?_, h1, by rw [List.map_cons]⟩
        rw [he2]; exact repLink_store_append ext2 hn
      · intro x hx
        rcases List.mem_cons.mp hx with h | h
        · rw [h]; rfl
        · exact h2 x h
      · intro hf
        have := hf (.ptr c) (by simp)
        cases this
      · rw [fps_cons]
        refine CmsOK.append ?_ h4 (fun a h1 h2 => hdisj a h1 a h2 rfl)
        rw [he2]
        exact hcm.mono ext2 (fun _ h => h)

theorem expandLinks_trim {ks vs : List Nat} {links : List HLink} (hl : links.length = ks.length + 1) :
    expandLinks { keys := ks, vals := vs, links := if links.all (· == .nil) then [] else links } = links := by
  unfold expandLinks
  by_cases hall : links.all (· == .nil) = true
  · simp only [hall, if_true, List.isEmpty_nil]
    apply List.ext_getElem
    · simp [hl]
    · intro i h1 h2
      simp only [List.getElem_replicate]
      have := List.all_eq_true.mp hall links[i] (List.getElem_mem h2)
      have h3 : links[i] = HLink.nil := by simpa using this
      exact h3.symm
  · simp only [hall, if_false, Bool.false_eq_true]
    have : links.isEmpty = false := by
      cases links with
      | nil => simp at hall
      | cons _ _ => rfl
    simp [this]

theorem storeNode_spec : ∀ (f a : Nat) (s : PS) (g : Nat) (x : Bool × T × List Nat), Good s → SourceOK s →
    repLink s.heap s.store g (.ptr a) = some x → x.2.2.Nodup →
    Spec StoreR (storeNode f a) s (fun r s' => StoreNodeOK s.heap s'.store g x r) := by
  intro f
  induction f with
  | zero => intro a s g x _ _ _ _; exact Spec.oof
  | succ f ih =>
    intro a s g x hg hsrc hx hxnd
    unfold storeNode
    refine Spec.bind (read_spec a s) ?_
    rintro nd s0 _ _ ⟨rfl, hnd⟩
    obtain ⟨g', cs, rfl, hv, h1, hcl, rfl⟩ := repLink_ptr_inv hx hnd
    split
    · next n hd hso =>
      -- a clean node with a source name: it is a shared decoding of that stored node
      have hsh : nd.shared = true := by
        cases hs : nd.shared with
        | true => rfl
        | false => have := hsrc.unsh a nd hnd hs; rw [hso] at this; cases this
      obtain ⟨sn, hsn, hk, hvl, hln⟩ := hsrc.sh a nd n hnd hsh hso
      have hfp0 := repLink_shared_fp hg.sflat hg.flat hnd hsh hx
      have href : repLink s.heap s.store (g' + 1) (.ref n) = some (nodeRep true [] nd.keys nd.vals cs) := by
        refine repLink_ref_some.mpr ⟨g', sn, cs, rfl, hsn, ?_, by rw [← hln]; exact h1, by rw [hk, hvl]⟩
        unfold ValidS; rw [← hln, ← hk, ← hvl]; exact hv
      have hisp : IsP (nodeRep true [] nd.keys nd.vals cs) := repLink_flat_isP hg.flat _ _ _ rfl href
      refine Spec.pure ⟨?_, CmsOK.nil _ _ _⟩
      show repLink s.heap s.store (g' + 1) (.ref n) = some (pchild (nodeRep false (ownFp nd a) nd.keys nd.vals cs))
      rw [href, ← hisp]; rfl
    · next hno =>
      rw [nodeRep_fp, List.nodup_append] at hxnd
      obtain ⟨_, hnds, hdisj⟩ := hxnd
      refine Spec.bind (storeLinks_spec (g := g') _ (fun c s x hg hs hx hn => ih c s g' x hg hs hx hn) nd.links s cs
        hg hsrc h1 hnds) ?_
      rintro ⟨links', cms⟩ s1 _ hr1 ⟨hl1, hl2, hl3, hl4⟩
      dsimp only at hl1 hl2 hl3 hl4 ⊢
      have hlen : links'.length = nd.keys.length + 1 := by
        have := seqO_map_length hl1
        rw [List.length_map, hcl] at this
        exact this.symm
      have hexp := expandLinks_trim (ks := nd.keys) (vs := nd.vals) hlen
      have hflat : FlatL (if links'.all (· == .nil) then [] else links') := by
        intro l hl
        split at hl
        · simp at hl
        · exact hl2 l hl
      refine Spec.bind (intern_spec _ s1 hflat ⟨by rw [hexp]; exact hlen, hv.2⟩ ⟨g', cs.map pchild, ?_⟩) ?_
      · rw [hexp]
        exact seqO_map_congr hl1 (fun l hl c hc => repLink_flat_heap (hr1.flat hg.flat) _ _ _ (hl2 l hl) hc)
      · rintro n s2 _ hr2 hn
        obtain ⟨ext2, he2⟩ := hr2.store
        refine Spec.pure ⟨?_, ?_⟩
        · show repLink s.heap s2.store (g' + 1) (.ref n) = some (pchild (nodeRep false (ownFp nd a) nd.keys nd.vals cs))
          refine repLink_ref_some.mpr ⟨g', _, cs.map pchild, rfl, hn, ⟨by rw [hexp]; exact hlen, hv.2⟩, ?_,
            pchild_nodeRep false _ _ hcl⟩
          rw [hexp, he2]
          exact seqO_map_congr hl1 (fun l _ c hc => repLink_store_append ext2 hc)
        · show CmsOK s.heap s2.store (nodeRep false (ownFp nd a) nd.keys nd.vals cs).2.2 (cms ++ [(a, links', n)])
          rw [nodeRep_fp]
          have hlast : CmsOK s.heap s2.store (ownFp nd a) [(a, links', n)] := by
            refine ⟨?_, List.pairwise_singleton _ _⟩
            intro c hc
            simp at hc; subst hc
            refine ⟨⟨nd, _, hnd, hn, rfl, rfl, hexp.symm, ?_⟩, ?_⟩
            · intro hsh
              exact (hl3 (hg.sflat a nd hnd hsh)).symm
            · intro hns
              refine mem_ownFp.mpr ⟨?_, rfl⟩
              cases hs : nd.shared with
              | false => rfl
              | true => exact absurd ⟨nd, hnd, hs⟩ hns
          have hall := CmsOK.append (by rw [he2]; exact hl4.mono ext2 (fun _ h => h)) hlast
            (fun b h1 h2 => hdisj b h2 b h1 rfl)
          exact ⟨fun c hc => ⟨(hall.1 c hc).1, fun hs => by
            rcases List.mem_append.mp ((hall.1 c hc).2 hs) with h | h
            · exact List.mem_append.mpr (Or.inr h)
            · exact List.mem_append.mpr (Or.inl h)⟩, hall.2⟩

end Mast.Ptr
