import Mastverif.Lemmas.RefBase
/-! Footprints: `FpExt n old new` (no duplicates; old elements and addresses `≥ n`), `FpStep` (a step between two heap
sizes: what it allocates is newer than everything else in the list, so steps on segments chain, `FpStep.then`), and
`FpOwned`. -/
namespace Mast.Ptr
open Mast.Heap

def FpExt (n : Nat) (old new : List Nat) : Prop := new.Nodup ∧ ∀ y ∈ new, y ∈ old ∨ n ≤ y

theorem FpExt.refl {n : Nat} {l : List Nat} (h : l.Nodup) : FpExt n l l := ⟨h, fun _ hy => Or.inl hy⟩

theorem FpExt.trans {n n' : Nat} {a b c : List Nat} (h1 : FpExt n a b) (h2 : FpExt n' b c) (hn : n ≤ n') :
    FpExt n a c := by
  refine ⟨h2.1, fun y hy => ?_⟩
  rcases h2.2 y hy with h | h
  · exact h1.2 y h
  · exact Or.inr (Nat.le_trans hn h)

theorem FpExt.old_mono {n : Nat} {a a' b : List Nat} (h : FpExt n a b) (hs : ∀ y ∈ a, y ∈ a') : FpExt n a' b :=
  ⟨h.1, fun y hy => (h.2 y hy).imp (hs y) id⟩

theorem FpExt.n_mono {n n' : Nat} {a b : List Nat} (h : FpExt n a b) (hn : n' ≤ n) : FpExt n' a b :=
  ⟨h.1, fun y hy => (h.2 y hy).imp id (Nat.le_trans hn)⟩

theorem FpExt.ctx {n : Nat} {old new : List Nat} (A B : List Nat) (hnd : (A ++ old ++ B).Nodup)
    (hA : ∀ y ∈ A, y < n) (hB : ∀ y ∈ B, y < n) (h : FpExt n old new) :
    FpExt n (A ++ old ++ B) (A ++ new ++ B) := by
  have hnd' := hnd
  simp only [List.nodup_append, List.mem_append] at hnd'
  obtain ⟨⟨hAn, hOn, hAO⟩, hBn, hAOB⟩ := hnd'
  refine ⟨?_, ?_⟩
  · simp only [List.nodup_append, List.mem_append]
    refine ⟨⟨hAn, h.1, ?_⟩, hBn, ?_⟩
    · intro a ha b hb
      rcases h.2 b hb with h1 | h1
      · exact hAO a ha b h1
      · exact fun e => Nat.lt_irrefl _ (Nat.lt_of_lt_of_le (e ▸ hA a ha) h1)
    · intro a ha b hb
      rcases ha with ha | ha
      · exact hAOB a (Or.inl ha) b hb
      · rcases h.2 a ha with h1 | h1
        · exact hAOB a (Or.inr h1) b hb
        · exact fun e => Nat.lt_irrefl _ (Nat.lt_of_lt_of_le (e ▸ hB b hb) h1)
  · intro y hy
    simp only [List.mem_append] at hy ⊢
    rcases hy with (hy | hy) | hy
    · exact Or.inl (Or.inl (Or.inl hy))
    · rcases h.2 y hy with h1 | h1
      · exact Or.inl (Or.inl (Or.inr h1))
      · exact Or.inr h1
    · exact Or.inl (Or.inr hy)

theorem FpExt.cons_fresh {n z : Nat} {old Q : List Nat} (h : FpExt n old Q) (hz : n ≤ z) (hQ : z ∉ Q) :
    FpExt n old (z :: Q) :=
  ⟨List.nodup_cons.mpr ⟨hQ, h.1⟩, fun y hy => (List.mem_cons.mp hy).elim (fun e => Or.inr (e ▸ hz)) (h.2 y)⟩

theorem FpExt.nodup {n : Nat} {old new : List Nat} (h : FpExt n old new) : new.Nodup := h.1

theorem FpExt.old_of_lt {n y : Nat} {old new : List Nat} (h : FpExt n old new) (hy : y ∈ new) (hlt : y < n) : y ∈ old := by
  rcases h.2 y hy with h1 | h1
  · exact h1
  · exact absurd hlt (Nat.not_lt.mpr h1)

/-- a footprint step between two heap sizes: the fresh addresses lie in `[n, n')` -/
structure FpStep (n n' : Nat) (old new : List Nat) : Prop where
  ext : FpExt n old new
  lt : ∀ y ∈ new, y < n'
  le : n ≤ n'

theorem FpStep.refl {n : Nat} {l : List Nat} (hnd : l.Nodup) (hlt : ∀ y ∈ l, y < n) : FpStep n n l l :=
  ⟨FpExt.refl hnd, hlt, Nat.le_refl _⟩

theorem FpStep.mono {n n' m m' : Nat} {a b : List Nat} (h : FpStep n n' a b) (h0 : m ≤ n) (h1 : n' ≤ m') :
    FpStep m m' a b :=
  ⟨h.ext.n_mono h0, fun y hy => Nat.lt_of_lt_of_le (h.lt y hy) h1, Nat.le_trans h0 (Nat.le_trans h.le h1)⟩

theorem FpStep.old_mono {n n' : Nat} {a a' b : List Nat} (h : FpStep n n' a b) (hs : ∀ y ∈ a, y ∈ a') :
    FpStep n n' a' b := ⟨h.ext.old_mono hs, h.lt, h.le⟩

/-- a later step on a segment: everything around it is older than what the step allocates -/
theorem FpStep.then {n n' n'' : Nat} {S A old new B : List Nat} (h1 : FpStep n n' S (A ++ (old ++ B)))
    (h2 : FpStep n' n'' old new) : FpStep n n'' S (A ++ (new ++ B)) := by
  have hlt := h1.lt
  have hnd := h1.ext.1
  rw [← List.append_assoc] at hnd ⊢
  refine ⟨h1.ext.trans ?_ h1.le, ?_, Nat.le_trans h1.le h2.le⟩
  · rw [← List.append_assoc]
    exact FpExt.ctx A B hnd (fun y hy => hlt y (List.mem_append_left _ hy))
      (fun y hy => hlt y (List.mem_append_right _ (List.mem_append_right _ hy))) h2.ext
  · intro y hy
    rcases List.mem_append.mp hy with hy | hy
    · rcases List.mem_append.mp hy with hy | hy
      · exact Nat.lt_of_lt_of_le (hlt y (List.mem_append_left _ hy)) h2.le
      · exact h2.lt y hy
    · exact Nat.lt_of_lt_of_le (hlt y (List.mem_append_right _ (List.mem_append_right _ hy))) h2.le

theorem FpStep.then_end {n n' n'' : Nat} {S A old new : List Nat} (h1 : FpStep n n' S (A ++ old))
    (h2 : FpStep n' n'' old new) : FpStep n n'' S (A ++ new) := by
  have := FpStep.then (B := []) (by rw [List.append_nil]; exact h1) h2
  rw [List.append_nil] at this
  exact this

theorem FpStep.append {n n' n'' : Nat} {a a' b b' : List Nat} (h1 : FpStep n n' a a') (h2 : FpStep n' n'' b b')
    (hnd : (a ++ b).Nodup) (hlt : ∀ y ∈ a ++ b, y < n) : FpStep n n'' (a ++ b) (a' ++ b') :=
  FpStep.then_end (A := a') (FpStep.then (A := []) (FpStep.refl hnd hlt) h1) h2

theorem FpStep.cons {n n' : Nat} {S L : List Nat} (h : FpStep n n' S L) : FpStep n (n' + 1) S (n' :: L) :=
  ⟨h.ext.cons_fresh h.le (fun hm => Nat.lt_irrefl _ (h.lt _ hm)),
   fun y hy => by
    rcases List.mem_cons.mp hy with rfl | hy
    · exact Nat.lt_succ_self _
    · exact Nat.lt_succ_of_lt (h.lt y hy),
   Nat.le_succ_of_le h.le⟩

/-- every address of the footprint `fp` holds an object of owner `m`: what a tree must own before it may be written -/
def FpOwned (h : Heap) (m : Nat) (fp : List Nat) : Prop := ∀ y ∈ fp, ∃ nd, h[y]? = some nd ∧ nd.owner = m

theorem FpOwned.owner {h : Heap} {m a : Nat} {fp : List Nat} {nd : MNode} (ho : FpOwned h m fp) (ha : a ∈ fp)
    (hnd : h[a]? = some nd) : nd.owner = m := by
  obtain ⟨nd2, h2, ho2⟩ := ho a ha
  exact Option.some.inj (h2.symm.trans hnd) ▸ ho2

end Mast.Ptr
