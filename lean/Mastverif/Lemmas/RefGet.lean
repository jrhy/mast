import Mastverif.Lemmas.RefGood
import Mastverif.Lemmas.RefRows
/-! `follow`, `findNode` and `get` against `T.get`: `get` refines `Tree.lookup` (`get_grow`, `get_refines`). -/
namespace Mast.Ptr
open Mast.Heap

theorem follow_spec {m : Nat} (E : Env) (a i : Nat) (s : PS) (hg : Good s) {nd : MNode} (hnd : s.heap[a]? = some nd) :
    Spec (Grow m) (follow E m a i false) s (fun c s' => ∃ l, nd.links[i]? = some l ∧
      (l = .nil → c = a ∧ s = s') ∧
      (l ≠ .nil → ∀ f x, repLink s.heap s.store f l = some x →
        repLink s'.heap s'.store f (.ptr c) = some (false, x.2.1, x.2.2))) := by
  unfold follow
  refine Spec.bind (read_spec a s) ?_
  rintro nd' s1 _ _ ⟨rfl, hnd'⟩
  rw [hnd] at hnd'; cases hnd'
  split
  · exact Spec.panic
  · next hl =>
    simp only [Bool.false_eq_true, if_false]
    exact Spec.pure ⟨.nil, hl, fun _ => ⟨rfl, rfl⟩, fun h => absurd rfl h⟩
  · next l hne hl =>
    refine (load_spec (m := m) E l s hg).conseq ?_
    intro c s' _ _ h
    exact ⟨l, hl, fun h0 => absurd h0 h.1, fun _ => h.2.2⟩

/-- the answer `get` computes from what `findNode` returned -/
def getAns (nd : MNode) (fd : Found) (target key : Nat) : Option Nat :=
  if fd.idx ≥ nd.keys.length ∨ target ≠ fd.cur then none
  else if nd.keys[fd.idx]? ≠ some key then none
  else nd.vals[fd.idx]?

theorem pure_getAns (nd : MNode) (fd : Found) (target key : Nat) :
    (if fd.idx ≥ nd.keys.length ∨ target ≠ fd.cur then pure none
      else if nd.keys[fd.idx]? ≠ some key then pure none else pure nd.vals[fd.idx]? : M (Option Nat)) =
      pure (getAns nd fd target key) := by
  unfold getAns
  rw [apply_ite (pure : Option Nat → M (Option Nat)), apply_ite (pure : Option Nat → M (Option Nat))]

theorem sub_eq_pred_sub_succ {a b : Nat} (h : b < a) : a - b = a - 1 - b + 1 := by
  rw [Nat.sub_right_comm, Nat.sub_add_cancel (Nat.sub_pos_of_lt h)]

theorem getAns_stop {nd : MNode} {cs : List (Bool × T)} (hcl : cs.length = nd.keys.length + 1)
    (hv : nd.vals.length = nd.keys.length) {key target cur : Nat} (a : Nat) (path : List (Nat × Nat))
    (htc : target ≤ cur) (hstop : nd.keys[keyIdx nd.keys key]? = some key ∨ cur = target) :
    getAns nd { node := a, idx := keyIdx nd.keys key, cur := cur, path := path } target key =
      T.get key (cur - target) (mkRow cs nd.keys nd.vals) := by
  unfold getAns
  dsimp only
  by_cases hct : cur = target
  · subst hct
    rw [Nat.sub_self, get_mkRow_zero nd.keys cs nd.vals key hcl hv]
    by_cases hk : nd.keys[keyIdx nd.keys key]? = some key
    · have hlt : ¬ (keyIdx nd.keys key ≥ nd.keys.length ∨ cur ≠ cur) := fun h =>
        h.elim (Nat.not_le.mpr (List.getElem?_eq_some_iff.mp hk).1) fun h => h rfl
      rw [if_neg hlt, if_neg (fun h => h hk), if_pos hk]
    · rw [if_neg hk, if_pos hk, ite_self]
  · rw [sub_eq_pred_sub_succ (Nat.lt_of_le_of_ne htc (Ne.symm hct)),
      get_mkRow_succ nd.keys cs nd.vals key _ hcl hv, if_pos (hstop.resolve_right hct),
      if_pos (Or.inr (Ne.symm hct))]

theorem findNode_get {m : Nat} (E : Env) (key target : Nat) :
    ∀ (f a cur : Nat) (path : List (Nat × Nat)) (s : PS) (g : Nat) (x : Bool × T × List Nat),
    Good s → target ≤ cur → repLink s.heap s.store g (.ptr a) = some x →
    Spec (Grow m) (findNode E m key target false f a cur path) s (fun fd s' =>
      ∃ nd, s'.heap[fd.node]? = some nd ∧ getAns nd fd target key = T.get key (cur - target) x.2.1) := by
  intro f
  induction f with
  | zero => intro a cur path s g x _ _ _; exact Spec.oof
  | succ f ih =>
    intro a cur path s g x hg htc hx
    unfold findNode
    refine Spec.bind (read_spec a s) ?_
    rintro nd s1 _ _ ⟨rfl, hnd⟩
    obtain ⟨g', cs, rfl, hv, h1, hcl, rfl⟩ := repLink_ptr_inv hx hnd
    have hcl' : (cs.map pr).length = nd.keys.length + 1 := by rw [List.length_map]; exact hcl
    rw [if_neg fun h => h hv.1]
    dsimp only
    refine Spec.ite (fun hstop => Spec.pure ⟨nd, hnd, getAns_stop hcl' hv.2 a _ htc hstop⟩) fun hstop => ?_
    · have hk : nd.keys[keyIdx nd.keys key]? ≠ some key := fun h => hstop (Or.inl h)
      have hlt : target < cur := Nat.lt_of_le_of_ne htc fun h => hstop (Or.inr h.symm)
      have htc' : target ≤ cur - 1 := Nat.le_sub_one_of_lt hlt
      refine Spec.bind (follow_spec (m := m) E a _ s hg hnd) ?_
      rintro c s1 _ hgr ⟨l, hl, hnil, hnn⟩
      obtain ⟨cl, hcl1, hcl2⟩ := seqO_map_getElem? h1 hl
      by_cases hl0 : l = .nil
      · -- the link is absent: `follow` stays in this node, and neither here nor below is anything found
        obtain ⟨rfl, rfl⟩ := hnil hl0
        subst hl0
        rw [repLink_nil] at hcl1
        cases hcl1
        have hcn : childAt (cs.map pr) (keyIdx nd.keys key) = T.nil := childAt_map_pr hcl2
        refine (ih c (cur - 1) _ s (g' + 1) _ hg htc' hx).conseq ?_
        rintro fd s' _ _ ⟨nd', hnd', hans⟩
        refine ⟨nd', hnd', hans.trans ?_⟩
        rw [nodeRep_row, get_mkRow_absent nd.keys _ nd.vals key _ hcl' hv.2 hk hcn,
          get_mkRow_absent nd.keys _ nd.vals key _ hcl' hv.2 hk hcn]
      · refine (ih c (cur - 1) _ s1 g' _ (hgr.good hg) htc' (hnn hl0 g' cl hcl1)).conseq ?_
        rintro fd s' _ _ ⟨nd', hnd', hans⟩
        refine ⟨nd', hnd', hans.trans ?_⟩
        rw [nodeRep_row, sub_eq_pred_sub_succ hlt, get_mkRow_succ nd.keys _ nd.vals key _ hcl' hv.2, if_neg hk,
          childAt_map_pr hcl2]

theorem get_grow (E : Env) (t : PTree) (fuel key g : Nat) (s : PS) (A : Tree)
    (hg : Good s) (hA : repTree s g t = some A) :
    Spec (Grow t.id) (get E t fuel key) s (fun r _ => r = Tree.lookup E.layer A key) := by
  obtain ⟨x, hx, _, rfl⟩ := repTree_eq_some.mp hA
  show Spec (Grow t.id) (get E t fuel key) s fun r _ =>
    r = T.get key (t.height - min (E.layer key) t.height) (T.unmk x.2.1)
  rw [get_unmk]
  unfold get
  refine Spec.ite (fun hr => ?_) fun hr => ?_
  · rw [hr, repLink_nil] at hx
    cases hx
    exact Spec.pure (T.get_nil key _).symm
  · refine Spec.bind (load_spec (m := t.id) E t.root s hg) ?_
    rintro a s1 _ hgr1 ⟨_, _, hld⟩
    refine Spec.bind (layerM_spec (m := t.id) E key s1) ?_
    rintro lay s2 _ hgr2 rfl
    refine Spec.bind (findNode_get (m := t.id) E key (min (E.layer key) t.height) fuel a t.height []
      s2 g _ (hgr2.good (hgr1.good hg)) (Nat.min_le_right _ _) (hgr2.rep (hld g _ hx))) ?_
    rintro fd s3 _ _ ⟨nd, hnd, hans⟩
    refine Spec.bind (read_spec fd.node s3) ?_
    rintro nd' s4 _ _ ⟨rfl, hnd'⟩
    cases hnd.symm.trans hnd'
    rw [pure_getAns]
    exact Spec.pure hans

theorem get_refines (E : Env) (t : PTree) (fuel key g : Nat) (s : PS) (A : Tree)
    (hg : Good s) (hA : repTree s g t = some A) :
    match get E t fuel key s with
    | .ok r s' => r = Tree.lookup E.layer A key ∧ repTree s' g t = some A ∧ Good s'
    | .err s' => repTree s' g t = some A ∧ Good s'
    | _ => True := by
  have hs := get_grow E t fuel key g s A hg hA
  cases hr : get E t fuel key s with
  | ok r s' => exact ⟨(hs.ok hr).2, (hs.ok hr).1.repTree hA, (hs.ok hr).1.good hg⟩
  | err s' => exact ⟨(hs.err hr).repTree hA, (hs.err hr).good hg⟩
  | stuck => trivial
  | panic => trivial
  | oof => trivial

end Mast.Ptr
