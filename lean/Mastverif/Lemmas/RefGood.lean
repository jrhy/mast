import Mastverif.Lemmas.RefBase
/-!
The state invariant `Good`, the relation `Grow` (allocation-only steps), a small Hoare triple
`Spec` with the start state explicit, and the specifications of the primitives and of the loads.
`StoreFlat`, `DirtyUnshared`, `SharedA`, `AllocOnly` are those of Lemmas/PtrBase, `applyAct` and `linkOK` those of Model/Heap.
-/
namespace Mast.Ptr
open Mast.Heap

/-- cache invariant: a cached object is a shared decoding of the stored node of that name -/
def CacheInv (s : PS) : Prop :=
  ∀ n a, (n, a) ∈ s.cache → ∃ nd sn, s.heap[a]? = some nd ∧ nd.shared = true ∧ storeAt s.store n = some sn ∧
    nd.keys = sn.keys ∧ nd.vals = sn.vals ∧ nd.links = expandLinks sn

/-- a shared object has no pointer links -/
def SharedFlat (h : Heap) : Prop :=
  ∀ (a : Nat) (nd : MNode), h[a]? = some nd → nd.shared = true → ∀ l ∈ nd.links, isPtr l = false

structure Good (s : PS) : Prop where
  cache : CacheInv s
  sflat : SharedFlat s.heap
  flat : StoreFlat s.store
  du : DirtyUnshared s.heap

theorem allocOnly_length {h h' : Heap} (ha : AllocOnly h h') : h.length ≤ h'.length :=
  length_le_of_getElem? fun a nd hnd => ⟨nd, ha a nd hnd⟩

/-- general preservation of `Good`: shared objects kept, the new heap is shared-flat, the store grows -/
theorem Good.step {s s' : PS} (hg : Good s)
    (hsh : ∀ (a : Nat) (nd : MNode), s.heap[a]? = some nd → nd.shared = true → s'.heap[a]? = some nd)
    (hfl : SharedFlat s'.heap) (hdu : DirtyUnshared s'.heap) (ext : List SNode) (hst : s'.store = s.store ++ ext)
    (hfs : StoreFlat s'.store) (hc : s'.cache = s.cache) : Good s' := by
  refine ⟨?_, hfl, hfs, hdu⟩
  intro n a hna
  rw [hc] at hna
  obtain ⟨nd, sn, h1, h2, h3, h4⟩ := hg.cache n a hna
  exact ⟨nd, sn, hsh a nd h1 h2, h2, by rw [hst]; exact storeAt_append h3 ext, h4⟩

theorem sharedFlat_append {h : Heap} {nd : MNode} (hf : SharedFlat h)
    (hn : nd.shared = true → ∀ l ∈ nd.links, isPtr l = false) : SharedFlat (h ++ [nd]) := by
  intro a x hx
  rcases getElem?_append_single hx with hx | ⟨_, rfl⟩
  · exact hf a x hx
  · exact hn

theorem sharedFlat_set {h : Heap} {a : Nat} {nd : MNode} (hf : SharedFlat h) (hn : nd.shared = false) :
    SharedFlat (h.set a nd) := by
  intro b x hx hs
  rcases getElem?_set_cases hx with ⟨_, rfl⟩ | ⟨_, hx⟩
  · rw [hn] at hs; cases hs
  · exact hf b x hx hs

/-! ## allocation-only steps performed for tree `m` -/

structure Grow (m : Nat) (s s' : PS) : Prop where
  alloc : AllocOnly s.heap s'.heap
  store : s'.store = s.store
  /-- kept as an implication, so that the relation composes without `Good` of the states in between -/
  good : Good s → Good s'
  /-- what was allocated is shared or belongs to `m` -/
  fresh : ∀ a nd, s.heap.length ≤ a → s'.heap[a]? = some nd → nd.shared = true ∨ nd.owner = m

theorem Grow.refl (m : Nat) (s : PS) : Grow m s s :=
  ⟨AllocOnly.refl _, rfl, fun h => h, fun _ _ hl hnd =>
    absurd (List.getElem?_eq_some_iff.mp hnd).1 (Nat.not_lt.mpr hl)⟩

theorem Grow.trans {m : Nat} {s1 s2 s3 : PS} (a : Grow m s1 s2) (b : Grow m s2 s3) : Grow m s1 s3 := by
  refine ⟨a.alloc.trans b.alloc, by rw [b.store, a.store], fun h => b.good (a.good h), ?_⟩
  intro x nd hl hnd
  by_cases hx : s2.heap.length ≤ x
  · exact b.fresh x nd hx hnd
  · have hlt : x < s2.heap.length := Nat.lt_of_not_le hx
    have h2 := b.alloc x _ (List.getElem?_eq_getElem hlt)
    rw [hnd] at h2; injection h2 with h2
    rw [h2]
    exact a.fresh x _ hl (List.getElem?_eq_getElem hlt)

theorem Grow.length {m : Nat} {s s' : PS} (g : Grow m s s') : s.heap.length ≤ s'.heap.length :=
  allocOnly_length g.alloc

theorem Grow.rep {m : Nat} {s s' : PS} (g : Grow m s s') {f : Nat} {l : HLink} {x : Bool × T × List Nat}
    (hx : repLink s.heap s.store f l = some x) : repLink s'.heap s'.store f l = some x := by
  rw [g.store]; exact repLink_allocOnly g.alloc hx

theorem Grow.repTree {m : Nat} {s s' : PS} (gr : Grow m s s') {g : Nat} {t : PTree} {A : Tree}
    (h : repTree s g t = some A) : repTree s' g t = some A := by
  obtain ⟨x, hx, hnd, rfl⟩ := repTree_eq_some.mp h
  refine repTree_eq_some.mpr ⟨x, gr.rep hx, hnd, ?_⟩
  have hd : rootDirty s'.heap t.root = rootDirty s.heap t.root := by
    cases hr : t.root with
    | nil => rfl
    | ref n => rfl
    | ptr a =>
      rw [hr] at hx
      obtain ⟨_, nd, _, _, hnd, _⟩ := repLink_ptr_some.mp hx
      simp only [rootDirty, hnd, gr.alloc a nd hnd]
  rw [hd]

theorem Grow.kids {m : Nat} {s s' : PS} (hgr : Grow m s s') {g g' : Nat} {ls : List HLink}
    {cs : List (Bool × T × List Nat)} (h : seqO (ls.map (repLink s.heap s.store g)) = some cs) (hle : g ≤ g') :
    seqO (ls.map (repLink s'.heap s'.store g')) = some cs :=
  seqO_map_congr h (fun _ _ _ hc => repLink_mono_le (hgr.rep hc) hle)

theorem kids_mid {m : Nat} {s s' : PS} (hgr : Grow m s s') {g g' : Nat} {L R : List HLink} {l : HLink}
    {csL csR : List (Bool × T × List Nat)} {x : Bool × T × List Nat}
    (hL : seqO (L.map (repLink s.heap s.store g)) = some csL) (hR : seqO (R.map (repLink s.heap s.store g)) = some csR)
    (hl : repLink s'.heap s'.store g' l = some x) :
    seqO ((L ++ l :: R).map (repLink s'.heap s'.store (max g g'))) = some (csL ++ x :: csR) :=
  seqO_map_append.mpr ⟨csL, x :: csR, hgr.kids hL (Nat.le_max_left _ _),
    seqO_map_cons.mpr ⟨x, csR, repLink_mono_le hl (Nat.le_max_right _ _), hgr.kids hR (Nat.le_max_left _ _), rfl⟩, rfl⟩

/-- only counters changed -/
theorem Grow.of_eq {m : Nat} {s s' : PS} (hh : s'.heap = s.heap) (hs : s'.store = s.store) (hc : s'.cache = s.cache) :
    Grow m s s' := by
  refine ⟨by rw [hh]; exact AllocOnly.refl _, hs, ?_, ?_⟩
  · intro hg
    exact hg.step (fun a nd h _ => by rw [hh]; exact h) (by rw [hh]; exact hg.sflat) (by rw [hh]; exact hg.du) [] (by simp [hs])
      (by rw [hs]; exact hg.flat) hc
  · intro a nd hl hnd
    rw [hh] at hnd
    exact absurd (List.getElem?_eq_some_iff.mp hnd).1 (Nat.not_lt.mpr hl)

/-! ## a Hoare triple with the start state explicit -/

/-- Partial correctness of the run of `x` from `s`: a result satisfies `Q` and the final state is `R`-related to `s`,
    an error still leaves an `R`-related state; `panic`, `stuck` and `oof` satisfy every triple (that they do not
    occur is what the `Sat` triples of Lemmas/PtrBase say). -/
def Spec {α : Type} (R : PS → PS → Prop) (x : M α) (s : PS) (Q : α → PS → Prop) : Prop :=
  match x s with
  | .ok a s' => R s s' ∧ Q a s'
  | .err s' => R s s'
  | _ => True

class PreR (R : PS → PS → Prop) : Prop where
  refl : ∀ s, R s s
  trans : ∀ {a b c}, R a b → R b c → R a c

instance (m : Nat) : PreR (Grow m) := ⟨Grow.refl m, Grow.trans⟩

theorem Spec.ok {α : Type} {R : PS → PS → Prop} {x : M α} {s s' : PS} {a : α} {Q : α → PS → Prop}
    (hx : Spec R x s Q) (h : x s = .ok a s') : R s s' ∧ Q a s' := by
  unfold Spec at hx; rw [h] at hx; exact hx

theorem Spec.err {α : Type} {R : PS → PS → Prop} {x : M α} {s s' : PS} {Q : α → PS → Prop}
    (hx : Spec R x s Q) (h : x s = .err s') : R s s' := by
  unfold Spec at hx; rw [h] at hx; exact hx

theorem Spec.imp {α : Type} {R R' : PS → PS → Prop} {x : M α} {s : PS} {Q Q' : α → PS → Prop}
    (hx : Spec R x s Q) (hr : ∀ s', R s s' → R' s s')
    (hq : ∀ a s', x s = .ok a s' → R s s' → Q a s' → Q' a s') : Spec R' x s Q' := by
  unfold Spec
  cases hxs : x s with
  | ok a s1 => exact ⟨hr _ (hx.ok hxs).1, hq a s1 hxs (hx.ok hxs).1 (hx.ok hxs).2⟩
  | err s1 => exact hr _ (hx.err hxs)
  | stuck => trivial
  | panic => trivial
  | oof => trivial

theorem Spec.conseq {α : Type} {R : PS → PS → Prop} {x : M α} {s : PS} {Q Q' : α → PS → Prop}
    (hx : Spec R x s Q) (hq : ∀ a s', x s = .ok a s' → R s s' → Q a s' → Q' a s') : Spec R x s Q' :=
  hx.imp (fun _ h => h) hq

theorem Spec.mono {α : Type} {R R' : PS → PS → Prop} {x : M α} {s : PS} {Q : α → PS → Prop}
    (hx : Spec R x s Q) (hr : ∀ s', R s s' → R' s s') : Spec R' x s Q :=
  hx.imp hr fun _ _ _ _ h => h

theorem Spec.bind {α β : Type} {R : PS → PS → Prop} [PreR R] {x : M α} {f : α → M β} {s : PS}
    {Q1 : α → PS → Prop} {Q : β → PS → Prop}
    (hx : Spec R x s Q1)
    (hf : ∀ a s1, x s = .ok a s1 → R s s1 → Q1 a s1 → Spec R (f a) s1 Q) :
    Spec R (x >>= f) s Q := by
  show Spec R (M.bind x f) s Q
  unfold Spec M.bind
  cases hxs : x s with
  | ok a s1 =>
    obtain ⟨hr, hq⟩ := hx.ok hxs
    -- what is left is the triple of `f a` from `s1`, with the relation taken from `s`
    exact (hf a s1 hxs hr hq).mono (R' := fun _ t => R s t) fun _ h => PreR.trans hr h
  | err s1 => exact hx.err hxs
  | stuck => trivial
  | panic => trivial
  | oof => trivial

theorem Spec.and {α : Type} {R : PS → PS → Prop} {x : M α} {s : PS} {Q1 Q2 : α → PS → Prop}
    (h1 : Spec R x s Q1) (h2 : Spec R x s Q2) : Spec R x s (fun a s' => Q1 a s' ∧ Q2 a s') :=
  h1.imp (fun _ h => h) fun _ _ hxs _ hq1 => ⟨hq1, (h2.ok hxs).2⟩

/-- a conditional, without looking for it in the goal (`split` is slow on a long monadic program) -/
theorem Spec.ite {α : Type} {R : PS → PS → Prop} {c : Prop} [Decidable c] {x y : M α} {s : PS} {Q : α → PS → Prop}
    (hx : c → Spec R x s Q) (hy : ¬ c → Spec R y s Q) : Spec R (if c then x else y) s Q := by
  by_cases h : c
  · rw [if_pos h]; exact hx h
  · rw [if_neg h]; exact hy h

theorem Spec.pure {α : Type} {R : PS → PS → Prop} [PreR R] {a : α} {s : PS} {Q : α → PS → Prop} (h : Q a s) :
    Spec R (Pure.pure a : M α) s Q := ⟨PreR.refl s, h⟩

theorem Spec.panic {α : Type} {R : PS → PS → Prop} {s : PS} {Q : α → PS → Prop} : Spec R (panicE : M α) s Q := trivial
theorem Spec.oof {α : Type} {R : PS → PS → Prop} {s : PS} {Q : α → PS → Prop} : Spec R (oofE : M α) s Q := trivial
theorem Spec.fail {α : Type} {R : PS → PS → Prop} [PreR R] {s : PS} {Q : α → PS → Prop} : Spec R (failE : M α) s Q :=
  PreR.refl s

/-! ## primitives -/

theorem read_spec {R : PS → PS → Prop} [PreR R] (a : Nat) (s : PS) :
    Spec R (read a) s (fun nd s' => s = s' ∧ s.heap[a]? = some nd) := by
  unfold Spec read
  cases h : s.heap[a]? with
  | none => trivial
  | some nd => exact ⟨PreR.refl s, rfl, rfl⟩

theorem alloc_grow {m : Nat} {s : PS} {nd : MNode} (hg : applyAct s.heap (.alloc nd) = some (s.heap ++ [nd]))
    (ho : nd.shared = true ∨ nd.owner = m) (hd : nd.dirty = true → nd.shared = false) :
    Grow m s { s with heap := s.heap ++ [nd] } := by
  have hsf : nd.shared = true → ∀ l ∈ nd.links, isPtr l = false := fun hs l hl => by
    rw [applyAct] at hg
    have := List.all_eq_true.mp ((Option.ite_none_right_eq_some.mp hg).1.2 hs) l hl
    simpa using this
  refine ⟨allocOnly_append _ _, rfl, ?_, ?_⟩
  · intro hgd
    exact hgd.step (s' := { s with heap := s.heap ++ [nd] }) (fun a x hx _ => allocOnly_append _ _ a x hx)
      (sharedFlat_append hgd.sflat hsf) (du_append hgd.du hd) [] (by simp) hgd.flat rfl
  · intro a x hl hx
    rcases getElem?_append_single hx with hx | ⟨_, rfl⟩
    · exact absurd (List.getElem?_eq_some_iff.mp hx).1 (Nat.not_lt.mpr hl)
    · exact ho

theorem applyAct_alloc_some {h h' : Heap} {nd : MNode} (hg : applyAct h (.alloc nd) = some h') : h' = h ++ [nd] := by
  rw [applyAct] at hg
  exact (Option.some.inj (Option.ite_none_right_eq_some.mp hg).2).symm

theorem alloc_spec {m : Nat} (nd : MNode) (s : PS) (ho : nd.shared = true ∨ nd.owner = m)
    (hd : nd.dirty = true → nd.shared = false) :
    Spec (Grow m) (alloc nd) s (fun a s' => a = s.heap.length ∧ s' = { s with heap := s.heap ++ [nd] }) := by
  unfold Spec alloc
  cases hg : applyAct s.heap (.alloc nd) with
  | none => trivial
  | some h' =>
    have := applyAct_alloc_some hg; subst this
    exact ⟨alloc_grow hg ho hd, rfl, rfl⟩

/-! ## loads -/

theorem layerM_spec {m : Nat} (E : Env) (k : Nat) (s : PS) :
    Spec (Grow m) (layerM E k) s (fun r _ => r = E.layer k) := by
  unfold Spec layerM
  cases hf : E.layerFailAt s.ltick with
  | true => simp only [if_true]; exact Grow.of_eq rfl rfl rfl
  | false => simp only [Bool.false_eq_true, if_false]; exact ⟨Grow.of_eq rfl rfl rfl, trivial⟩

/-- the decoded object of a stored node -/
def decode (sn : SNode) (n : Nat) : MNode :=
  { keys := sn.keys, vals := sn.vals, links := expandLinks sn, dirty := false, shared := true, owner := 0,
    source := some n }

/-- the four ways `loadRef` ends: a cache hit; a failed load, counted; a load that allocates the decoded node
    (and hands it to the cache); a refused allocation -/
theorem loadRef_cases (E : Env) (n : Nat) (s : PS) :
    (∃ a, s.useCache = true ∧ (n, a) ∈ s.cache ∧ loadRef E n s = .ok a s) ∨
    loadRef E n s = .err { s with tick := s.tick + 1 } ∨
    (∃ sn, storeAt s.store n = some sn ∧
      applyAct s.heap (.alloc (decode sn n)) = some (s.heap ++ [decode sn n]) ∧
      loadRef E n s = .ok s.heap.length
        { s with tick := s.tick + 1, heap := s.heap ++ [decode sn n]
                 cache := if s.useCache then (n, s.heap.length) :: s.cache else s.cache }) ∨
    loadRef E n s = .stuck := by
  unfold loadRef
  cases hc : (if s.useCache = true then lookupCache n s.cache else none) with
  | some a =>
    by_cases hu : s.useCache = true
    · rw [if_pos hu] at hc; exact Or.inl ⟨a, hu, lookupCache_mem hc, rfl⟩
    · rw [if_neg hu] at hc; cases hc
  | none =>
    dsimp only
    cases E.failAt s.tick with
    | true => exact Or.inr (Or.inl rfl)
    | false =>
      cases hsn : (if n = 0 then none else s.store[n - 1]?) with
      | none => exact Or.inr (Or.inl rfl)
      | some sn =>
        have hdec : decode sn n =
            { keys := sn.keys, vals := sn.vals,
              links := (if sn.links.isEmpty = true then List.replicate (sn.keys.length + 1) HLink.nil else sn.links),
              dirty := false, shared := true, owner := 0, source := some n } := rfl
        dsimp only
        rw [if_neg Bool.false_ne_true, ← hdec]
        cases hal : applyAct s.heap (.alloc (decode sn n)) with
        | none => exact Or.inr (Or.inr (Or.inr rfl))
        | some h' =>
          cases applyAct_alloc_some hal
          exact Or.inr (Or.inr (Or.inl ⟨sn, hsn, hal, rfl⟩))

/-- a shared object with the contents of the stored node `n` denotes what the name `n` denotes -/
theorem repLink_shared_copy {h : Heap} {st : List SNode} {a n : Nat} {nd : MNode} {sn : SNode}
    (hnd : h[a]? = some nd) (hs : nd.shared = true) (hsn : storeAt st n = some sn)
    (hk : nd.keys = sn.keys) (hv : nd.vals = sn.vals) (hl : nd.links = expandLinks sn)
    {f : Nat} {x : Bool × T × List Nat} (hx : repLink h st f (.ref n) = some x) :
    repLink h st f (.ptr a) = some (false, x.2.1, x.2.2) := by
  obtain ⟨f', sn', cs, hf, hsn', hval, h1, rfl⟩ := repLink_ref_some.mp hx
  rw [hsn] at hsn'; cases hsn'
  refine repLink_ptr_some.mpr ⟨f', nd, cs, hf, hnd, ?_, by rw [hl]; exact h1, ?_⟩
  · unfold ValidN; rw [hk, hv, hl]; exact hval
  · simp only [nodeRep, ownFp, hs, hk, hv, if_true]

theorem loadRef_spec {m : Nat} (E : Env) (n : Nat) (s : PS) (hg : Good s) :
    Spec (Grow m) (loadRef E n) s (fun a s' => SharedA s'.heap a ∧
      ∀ f x, repLink s.heap s.store f (.ref n) = some x →
        repLink s'.heap s'.store f (.ptr a) = some (false, x.2.1, x.2.2)) := by
  unfold Spec
  rcases loadRef_cases E n s with ⟨a, _, hmem, h⟩ | h | ⟨sn, hsn, hal, h⟩ | h
  · rw [h]
    obtain ⟨nd, sn, h1, h2, h3, h4, h5, h6⟩ := hg.cache n a hmem
    exact ⟨Grow.refl m s, ⟨nd, h1, h2⟩, fun f x hx => repLink_shared_copy h1 h2 h3 h4 h5 h6 hx⟩
  · rw [h]
    exact Grow.of_eq rfl rfl rfl
  · rw [h]
    have hgr : Grow m s { s with heap := s.heap ++ [decode sn n] } :=
      alloc_grow hal (Or.inl rfl) (fun h => nomatch h)
    have hself : (s.heap ++ [decode sn n])[s.heap.length]? = some (decode sn n) := getElem?_append_self _ _
    refine ⟨⟨hgr.alloc, rfl, fun _ => ?_, hgr.fresh⟩, ⟨_, hself, rfl⟩, fun f x hx =>
      repLink_shared_copy (nd := decode sn n) hself rfl hsn rfl rfl rfl (hgr.rep hx)⟩
    have hg2 := hgr.good hg
    refine ⟨fun k b hkb => ?_, hg2.sflat, hg2.flat, hg2.du⟩
    -- the new cache entry is the decoded node
    have hold : (k, b) ∈ s.cache → _ := hg2.cache k b
    dsimp only at hkb
    by_cases hu : s.useCache = true
    · rw [if_pos hu] at hkb
      rcases List.mem_cons.mp hkb with h | h
      · cases h
        exact ⟨decode sn n, sn, hself, rfl, hsn, rfl, rfl, rfl⟩
      · exact hold h
    · rw [if_neg hu] at hkb
      exact hold hkb
  · rw [h]
    trivial

theorem load_err {E : Env} {l : HLink} {s s' : PS} (h : load E l s = .err s') :
    s'.heap = s.heap ∧ s'.store = s.store ∧ s'.cache = s.cache ∧ s'.useCache = s.useCache := by
  cases l with
  | nil => cases h; exact ⟨rfl, rfl, rfl, rfl⟩
  | ptr a => cases h
  | ref n =>
    have h : loadRef E n s = .err s' := h
    rcases loadRef_cases E n s with ⟨a, _, _, h'⟩ | h' | ⟨sn, _, _, h'⟩ | h'
    · rw [h'] at h; cases h
    · rw [h'] at h; cases h; exact ⟨rfl, rfl, rfl, rfl⟩
    · rw [h'] at h; cases h
    · rw [h'] at h; cases h

/-- `load`: the loaded object denotes what the link denoted; a name becomes a pointer (flag `false`) -/
theorem load_spec {m : Nat} (E : Env) (l : HLink) (s : PS) (hg : Good s) :
    Spec (Grow m) (load E l) s (fun a s' => l ≠ .nil ∧ (∀ b, l = .ptr b → a = b ∧ s' = s) ∧
      ∀ f x, repLink s.heap s.store f l = some x →
        repLink s'.heap s'.store f (.ptr a) = some (false, x.2.1, x.2.2)) := by
  cases l with
  | nil => exact Spec.fail
  | ptr b =>
    refine Spec.pure ⟨by simp, fun b' hb => by injection hb with hb; exact ⟨hb, rfl⟩, ?_⟩
    intro f x hx
    obtain ⟨f', nd, cs, _, _, _, _, rfl⟩ := repLink_ptr_some.mp hx
    exact hx
  | ref n =>
    refine (loadRef_spec (m := m) E n s hg).conseq ?_
    intro a s' _ _ h
    exact ⟨by simp, fun b hb => (by cases hb), h.2⟩

end Mast.Ptr
