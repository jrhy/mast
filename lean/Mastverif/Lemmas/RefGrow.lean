import Mastverif.Lemmas.RefSplit
import Mastverif.Lemmas.RefRowsGrow
import Mastverif.Lemmas.RefStep
/-! `grow`: its loop over the entries of the top node (`Ptr.growLoop`, not the functional `Tree.growLoop`) refines `T.grow`. -/
namespace Mast.Ptr
open Mast.Heap

/-! ## lists -/

theorem zip_drop_cons {ks vs : List Nat} {i k v : Nat} {rest : List (Nat × Nat)}
    (h : (ks.zip vs).drop i = (k, v) :: rest) :
    ks[i]? = some k ∧ vs[i]? = some v ∧ rest = (ks.zip vs).drop (i + 1) := by
  have h0 : ((ks.zip vs).drop i)[0]? = some (k, v) := by rw [h]; rfl
  rw [List.getElem?_drop] at h0
  have := List.getElem?_zip_eq_some.mp h0
  refine ⟨this.1, this.2, ?_⟩
  rw [← List.tail_drop, h]; rfl

theorem zip_drop_nil {ks vs : List Nat} {i : Nat} (h : (ks.zip vs).drop i = []) (hl : vs.length = ks.length) :
    ks.length ≤ i := by
  have := List.drop_eq_nil_iff.mp h
  rw [List.length_zip, hl, Nat.min_self] at this
  exact this

theorem drop_eq_take_drop_append {α : Type} (l : List α) {s i : Nat} (h : s ≤ i) :
    l.drop s = (l.take i).drop s ++ l.drop i := by
  have h2 : l.drop i = (l.drop s).drop (i - s) := by rw [List.drop_drop, Nat.add_sub_cancel' h]
  rw [List.drop_take, h2, List.take_append_drop]

theorem drop_eq_seg_cons {α : Type} {l : List α} {s i : Nat} {x : α} (h : s ≤ i) (hx : l[i]? = some x) :
    l.drop s = (l.take i).drop s ++ x :: l.drop (i + 1) := by
  obtain ⟨hlt, hxe⟩ := List.getElem?_eq_some_iff.mp hx
  rw [drop_eq_take_drop_append l h, List.drop_eq_getElem_cons hlt, hxe]

theorem mem_seg {α : Type} {l : List α} {s i : Nat} {x : α} (h : x ∈ (l.take i).drop s) :
    ∃ j, s ≤ j ∧ j < i ∧ l[j]? = some x := by
  obtain ⟨n, hn⟩ := List.getElem?_of_mem h
  rw [List.getElem?_drop, List.getElem?_take] at hn
  split at hn
  · next hlt => exact ⟨s + n, Nat.le_add_right _ _, hlt, hn⟩
  · cases hn

/-- a result with the absent row comes from the absent link: its flag is `false` -/
theorem repLink_flagOK {h : Heap} {st : List SNode} {g : Nat} {l : HLink} {c : Bool × T × List Nat}
    (hc : repLink h st g l = some c) (hr : c.2.1 = T.nil) : c.1 = false := by
  by_cases hl : l = .nil
  · subst hl; rw [repLink_nil] at hc; cases hc; rfl
  · exact absurd hr (repLink_row_ne_nil hc hl)

theorem flagOK_of_seqO {h : Heap} {st : List SNode} {g : Nat} {ls : List HLink} {cs : List (Bool × T × List Nat)}
    (hcs : seqO (ls.map (repLink h st g)) = some cs) : FlagOK (cs.map pr) := by
  intro c hc hr
  obtain ⟨c0, hc0, rfl⟩ := List.mem_map.mp hc
  exact seqO_map_forall (P := fun c => c.2.1 = T.nil → c.1 = false) hcs (fun _ _ _ h => repLink_flagOK h) c0 hc0 hr

/-- the node `extract` builds from entries `frm … to-1` and links `frm … to` -/
def segNode (m : Nat) (nd : MNode) (frm to : Nat) : MNode :=
  { keys := (nd.keys.take to).drop frm, vals := (nd.vals.take to).drop frm,
    links := (nd.links.take (to + 1)).drop frm, dirty := true, shared := false, owner := m, source := none }

theorem segNode_valid {m : Nat} {nd : MNode} {frm to : Nat} (hv : ValidN nd) (hft : frm ≤ to) (hto : to ≤ nd.keys.length) :
    ValidN (segNode m nd frm to) := by
  unfold ValidN segNode
  rw [List.length_drop, List.length_drop, List.length_drop, List.length_take_of_le hto,
    List.length_take_of_le (by rw [hv.1]; exact Nat.add_le_add_right hto 1),
    List.length_take_of_le (by rw [hv.2]; exact hto)]
  exact ⟨Nat.sub_add_comm hft, rfl⟩

theorem extractLink_step {m : Nat} (nd : MNode) (frm to : Nat) (s : PS) (g : Nat) (cs : List (Bool × T × List Nat))
    (hv : ValidN nd) (hkids : seqO (nd.links.map (repLink s.heap s.store g)) = some cs)
    (hft : frm ≤ to) (hto : to ≤ nd.keys.length) (hnd : (fps ((cs.take (to + 1)).drop frm)).Nodup) :
    Spec (Grow m) (extractLink m nd frm to) s (fun l s' => ∃ x, repLink s'.heap s'.store (g + 1) l = some x ∧
      x.1 = false ∧
      x.2.1 = T.mk (mkRow (((cs.take (to + 1)).drop frm).map pr) ((nd.keys.take to).drop frm) ((nd.vals.take to).drop frm)) ∧
      FpStep s.heap.length s'.heap.length (fps ((cs.take (to + 1)).drop frm)) x.2.2) :=
  linkNew_step (segNode m nd frm to) s g _ rfl rfl (segNode_valid hv hft hto)
    (seqO_map_drop (seqO_map_take hkids (to + 1)) frm) hnd

theorem canGrowM_spec {m : Nat} (E : Env) (h : Nat) : ∀ (ks : List Nat) (s : PS),
    Spec (Grow m) (canGrowM E h ks) s (fun b _ => b = ks.any (fun k => decide (h < E.layer k))) := by
  intro ks
  induction ks with
  | nil => intro s; exact Spec.pure rfl
  | cons k ks ih =>
    intro s
    unfold canGrowM
    refine Spec.bind (layerM_spec (m := m) E k s) ?_
    rintro lay s1 _ _ rfl
    refine Spec.ite (fun hk => Spec.pure (by simp [hk])) fun hk => (ih s1).conseq ?_
    intro b _ _ _ hb
    rw [hb]; simp [hk]

def rowFrom (nd : MNode) (cs : List (Bool × T × List Nat)) (start : Nat) : T :=
  mkRow ((cs.map pr).drop start) (nd.keys.drop start) (nd.vals.drop start)

/-- low keys from `start` up to a high key at `i`: the segment becomes the child left of the high key -/
theorem grow_rowFrom_high {layer : Nat → Nat} {h : Nat} {nd : MNode} {cs : List (Bool × T × List Nat)} {start i k v : Nat}
    (hv : ValidN nd) (hcl : cs.length = nd.keys.length + 1) (hflag : FlagOK (cs.map pr)) (hsi : start ≤ i)
    (hki : nd.keys[i]? = some k) (hvi : nd.vals[i]? = some v)
    (hlow : ∀ j k0, start ≤ j → j < i → nd.keys[j]? = some k0 → layer k0 ≤ h) (hhigh : h < layer k) :
    T.grow layer h (rowFrom nd cs start) =
      T.cons false (T.mk (mkRow (((cs.take (i + 1)).drop start).map pr) ((nd.keys.take i).drop start)
        ((nd.vals.take i).drop start))) k v (T.grow layer h (rowFrom nd cs (i + 1))) := by
  have hilt : i < nd.keys.length := (List.getElem?_eq_some_iff.mp hki).1
  have hile : i ≤ nd.keys.length := Nat.le_of_lt hilt
  unfold rowFrom
  rw [drop_eq_seg_cons hsi hki, drop_eq_seg_cons hsi hvi, drop_eq_take_drop_append (cs.map pr) (Nat.le_add_right_of_le hsi),
    grow_low_high layer h k v hhigh _ _ _
      (by rw [List.length_drop, List.length_drop, List.length_map, hcl]; exact Nat.sub_add_comm hilt)
      _ _ _
      (by rw [List.length_drop, List.length_drop, List.length_take_of_le hile,
            List.length_take_of_le (by rw [List.length_map, hcl]; exact Nat.add_le_add_right hile 1)]
          exact Nat.sub_add_comm hsi)
      (by rw [List.length_drop, List.length_drop, List.length_take_of_le hile, List.length_take_of_le (by rw [hv.2]; exact hile)])
      (fun k0 hk0 => by obtain ⟨j, hj1, hj2, hj3⟩ := mem_seg hk0; exact hlow j k0 hj1 hj2 hj3)
      (fun c hc => hflag c (List.mem_of_mem_take (List.mem_of_mem_drop hc))),
    List.map_drop, List.map_take]


/-- only low keys from `start` on: the rest of the row becomes the last child -/
theorem grow_rowFrom_end {layer : Nat → Nat} {h : Nat} {nd : MNode} {cs : List (Bool × T × List Nat)} {start : Nat}
    (hv : ValidN nd) (hcl : cs.length = nd.keys.length + 1) (hflag : FlagOK (cs.map pr)) (hs : start ≤ nd.keys.length)
    (hlow : ∀ j k0, start ≤ j → nd.keys[j]? = some k0 → layer k0 ≤ h) :
    T.grow layer h (rowFrom nd cs start) = T.last false (T.mk (rowFrom nd cs start)) := by
  refine grow_low_end layer h _ _ _
    (by rw [List.length_drop, List.length_drop, List.length_map, hcl]; exact Nat.sub_add_comm hs)
    (by rw [List.length_drop, List.length_drop, hv.2]) ?_ (fun c hc => hflag c (List.mem_of_mem_drop hc))
  intro k0 hk0
  obtain ⟨n, hn⟩ := List.getElem?_of_mem hk0
  rw [List.getElem?_drop] at hn
  exact hlow (start + n) k0 (Nat.le_add_right _ _) hn

/-- the loop of `grow` from entry `i`, current segment from `start`: the accumulators grow by the high keys `K`
    (values `V`) and by links `Ls`, denoting `lcs`, to the segments between them -/
structure GrowLoopAt (E : Env) (h : Nat) (nd : MNode) (cs : List (Bool × T × List Nat)) (start : Nat)
    (ks vs : List Nat) (ls : List HLink) (s : PS) (r : Nat × List Nat × List Nat × List HLink) (s' : PS)
    (K V : List Nat) (Ls : List HLink) (lcs : List (Bool × T × List Nat)) (G : Nat) : Prop where
  keys : r.2.1 = ks ++ K
  vals : r.2.2.1 = vs ++ V
  links : r.2.2.2 = ls ++ Ls
  kids : seqO (Ls.map (repLink s'.heap s'.store G)) = some lcs
  lenC : lcs.length = K.length
  lenV : V.length = K.length
  row : T.grow E.layer h (rowFrom nd cs start) = appendRow (lcs.map pr) K V (T.grow E.layer h (rowFrom nd cs r.1))
  fp : FpStep s.heap.length s'.heap.length (fps (cs.drop start)) (fps lcs ++ fps (cs.drop r.1))
  le : r.1 ≤ nd.keys.length
  low : ∀ j k0, r.1 ≤ j → nd.keys[j]? = some k0 → E.layer k0 ≤ h

def GrowLoopOK (E : Env) (h : Nat) (nd : MNode) (cs : List (Bool × T × List Nat)) (start : Nat)
    (ks vs : List Nat) (ls : List HLink) (s : PS) (r : Nat × List Nat × List Nat × List HLink) (s' : PS) : Prop :=
  ∃ K V Ls lcs G, GrowLoopAt E h nd cs start ks vs ls s r s' K V Ls lcs G

theorem growLoop_spec {m : Nat} (E : Env) (h : Nat) (nd : MNode) (cs : List (Bool × T × List Nat)) (g0 : Nat)
    (hv : ValidN nd) (hcl : cs.length = nd.keys.length + 1) (hflag : FlagOK (cs.map pr)) :
    ∀ (rest : List (Nat × Nat)) (i start : Nat) (ks vs : List Nat) (ls : List HLink) (s : PS),
    seqO (nd.links.map (repLink s.heap s.store g0)) = some cs →
    rest = (nd.keys.zip nd.vals).drop i → start ≤ i → i ≤ nd.keys.length →
    (∀ j k0, start ≤ j → j < i → nd.keys[j]? = some k0 → E.layer k0 ≤ h) → (fps (cs.drop start)).Nodup →
    Spec (Grow m) (growLoop E m h nd rest i start ks vs ls) s (GrowLoopOK E h nd cs start ks vs ls s) := by
  intro rest
  induction rest with
  | nil =>
    intro i start ks vs ls s hkids hrest hsi hin hlow hnd
    unfold growLoop
    have hge := zip_drop_nil hrest.symm hv.2
    refine Spec.pure ⟨[], [], [], [], 0, (List.append_nil _).symm, (List.append_nil _).symm, (List.append_nil _).symm, rfl,
      rfl, rfl, rfl, FpStep.refl hnd (kids_fp_lt (seqO_map_drop hkids start)), Nat.le_trans hsi hin, ?_⟩
    intro j k0 hj hk
    exact hlow j k0 hj (Nat.lt_of_lt_of_le (List.getElem?_eq_some_iff.mp hk).1 hge) hk
  | cons kv rest' ih =>
    intro i start ks vs ls s hkids hrest hsi hin hlow hnd
    obtain ⟨k, v⟩ := kv
    obtain ⟨hki, hvi, hrest'⟩ := zip_drop_cons hrest.symm
    have hilt : i < nd.keys.length := (List.getElem?_eq_some_iff.mp hki).1
    unfold growLoop
    refine Spec.bind (layerM_spec (m := m) E k s) ?_
    rintro lay s1 _ hgr1 rfl
    have hkids1 := hgr1.kids hkids (Nat.le_refl _)
    refine Spec.ite (fun hlo => ?_) fun hlo => ?_
    · -- a low key joins the current segment
      refine (ih (i + 1) start ks vs ls s1 hkids1 hrest' (Nat.le_succ_of_le hsi) hilt ?_ hnd).conseq ?_
      · intro j k0 hj hji hk
        rcases Nat.lt_succ_iff_lt_or_eq.mp hji with hji | rfl
        · exact hlow j k0 hj hji hk
        · rw [hki] at hk; cases hk; exact hlo
      · rintro r s' _ _ ⟨K, V, Ls, lcs, G, hOK⟩
        exact ⟨K, V, Ls, lcs, G, { hOK with fp := hOK.fp.mono hgr1.length (Nat.le_refl _) }⟩
    · -- a high key: the segment `start … i` becomes a child, the key goes to the new top node
      have hseg : cs.drop start = (cs.take (i + 1)).drop start ++ cs.drop (i + 1) :=
        drop_eq_take_drop_append cs (Nat.le_add_right_of_le hsi)
      rw [hseg, fps_append] at hnd
      refine Spec.bind (extractLink_step (m := m) nd start i s1 g0 cs hv hkids1 hsi (Nat.le_of_lt hilt)
        (nodup_left hnd)) ?_
      rintro l s2 _ hgr2 ⟨x, hx1, hx2, hx3, hx4⟩
      refine (ih (i + 1) (i + 1) _ _ _ s2 (hgr2.kids hkids1 (Nat.le_refl _)) hrest' (Nat.le_refl _) hilt
        (fun j k0 hj hji => absurd hji (Nat.not_lt.mpr hj)) (nodup_right hnd)).conseq ?_
      rintro r s' _ hgr' ⟨K, V, Ls, lcs, G, hOK⟩
      refine ⟨k :: K, v :: V, l :: Ls, x :: lcs, max (g0 + 1) G,
        { hOK with
          keys := by rw [hOK.keys, List.append_assoc]; rfl
          vals := by rw [hOK.vals, List.append_assoc]; rfl
          links := by rw [hOK.links, List.append_assoc]; rfl
          kids := seqO_map_cons.mpr ⟨x, lcs, repLink_mono_le (hgr'.rep hx1) (Nat.le_max_left _ _),
            seqO_map_congr hOK.kids (fun _ _ _ hc => repLink_mono_le hc (Nat.le_max_right _ _)), rfl⟩
          lenC := congrArg Nat.succ hOK.lenC
          lenV := congrArg Nat.succ hOK.lenV
          row := ?_, fp := ?_ }⟩
      · have hpx : pr x = (false, T.mk (mkRow (((cs.take (i + 1)).drop start).map pr) ((nd.keys.take i).drop start)
            ((nd.vals.take i).drop start))) := by
          show (x.1, x.2.1) = _
          rw [hx2, hx3]
        rw [grow_rowFrom_high hv hcl hflag hsi hki hvi hlow (Nat.lt_of_not_le hlo), hOK.row, List.map_cons, hpx]
        rfl
      · rw [hseg, fps_append, fps_cons, List.append_assoc]
        exact (FpStep.append hx4 hOK.fp hnd (by
          rw [← fps_append, ← hseg]; exact kids_fp_lt (seqO_map_drop hkids1 start))).mono hgr1.length (Nat.le_refl _)

def grownTree (t : PTree) (na : Nat) : PTree :=
  { t with root := .ptr na, height := t.height + 1, shrinkBelow := t.growAfter, growAfter := t.growAfter * t.bf }

theorem grow_spec (E : Env) (t : PTree) (s : PS) (hg : Good s) {g a : Nat} {y : Bool × T × List Nat}
    (hroot : t.root = .ptr a) (hy : repLink s.heap s.store g (.ptr a) = some y) (hynd : y.2.2.Nodup) :
    Spec (Grow t.id) (grow E t) s (fun t' s' => ∃ na g' y', t' = grownTree t na ∧
      repLink s'.heap s'.store g' (.ptr na) = some y' ∧ y'.2.1 = T.grow E.layer t.height y.2.1 ∧
      FpExt s.heap.length y.2.2 y'.2.2 ∧ rootDirty s'.heap (.ptr na) = true) := by
  unfold grow
  rw [hroot]
  refine Spec.bind (load_spec (m := t.id) E (.ptr a) s hg) ?_
  rintro a' s0 _ _ ⟨_, hptr, _⟩
  obtain ⟨rfl, rfl⟩ := hptr a rfl
  refine Spec.bind (read_spec a' s0) ?_
  rintro nd s0' _ _ ⟨rfl, hnda⟩
  obtain ⟨g0, cs, rfl, hv, hkids, hcl, rfl⟩ := repLink_ptr_inv hy hnda
  have hflag : FlagOK (cs.map pr) := flagOK_of_seqO hkids
  rw [nodeRep_fp] at hynd
  refine Spec.bind (growLoop_spec (m := t.id) E t.height nd cs g0 hv hcl hflag (nd.keys.zip nd.vals) 0 0 [] [] [] s0
    hkids rfl (Nat.le_refl _) (Nat.zero_le _) (fun j k0 _ hj => absurd hj (Nat.not_lt_zero _))
    (nodup_right hynd)) ?_
  rintro ⟨start, ks, vs, ls⟩ s1 _ hgr1 ⟨K, V, Ls, lcs, G, h1, h2, h3, h4, h5, h6, h7, h8, h9, h10⟩
  dsimp only at h1 h2 h3 h7 h8 h9 h10 ⊢
  rw [List.nil_append] at h1 h2 h3
  subst h1 h2 h3
  have hseg : (cs.take (nd.keys.length + 1)).drop start = cs.drop start := by
    rw [List.take_of_length_le (Nat.le_of_eq hcl)]
  refine Spec.bind (extractLink_step (m := t.id) nd start nd.keys.length s1 g0 cs hv (hgr1.kids hkids (Nat.le_refl _)) h9
    (Nat.le_refl _) (by rw [hseg]; exact nodup_right h8.ext.1)) ?_
  rintro r s2 _ hgr2 ⟨x, hx1, hx2, hx3, hx4⟩
  rw [hseg] at hx4
  rw [hseg, List.take_length, List.take_of_length_le (Nat.le_of_eq hv.2), List.map_drop] at hx3
  refine Spec.ite (fun _ => Spec.fail) fun _ => ?_
  · refine Spec.bind (alloc_spec (m := t.id) _ s2 (Or.inr rfl) (fun _ => rfl)) ?_
    rintro na s3 _ hgr3 ⟨rfl, rfl⟩
    -- fuel: one more than the new top node's links, the segment links at `G`, the last one at `g0 + 1`
    refine Spec.pure ⟨s2.heap.length, max G (g0 + 1) + 1, nodeRep false [s2.heap.length] ks vs (lcs ++ [x]), rfl, ?_, ?_, ?_, ?_⟩
    · refine repLink_ptr_some.mpr ⟨_, _, lcs ++ [x], rfl, getElem?_append_self _ _, ?_,
        hgr3.kids (kids_mid (R := []) (csR := []) hgr2 h4 rfl hx1) (Nat.le_refl _), rfl⟩
      show (ls ++ [r]).length = ks.length + 1 ∧ vs.length = ks.length
      rw [List.length_append, ← seqO_map_length h4, h5]
      exact ⟨rfl, h6⟩
    · show mkRow ((lcs ++ [x]).map pr) ks vs = T.grow E.layer t.height (rowFrom nd cs 0)
      rw [h7, grow_rowFrom_end hv hcl hflag h9 h10, appendRow_last _ _ _ _ _ (by rw [List.length_map]; exact h5) h6,
        map_pr_append_single, hx2, hx3]
      rfl
    · rw [nodeRep_fp, nodeRep_fp, fps_snoc]
      exact ((FpStep.then_end (A := fps lcs) h8 hx4).cons.ext).old_mono (fun y hy' => List.mem_append_right _ hy')
    · rw [rootDirty, getElem?_append_self]; rfl

end Mast.Ptr
