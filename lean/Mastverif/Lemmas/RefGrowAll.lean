import Mastverif.Lemmas.RefGrow
/-! The grow loop of `Insert` refines `Tree.growLoop`. -/
namespace Mast.Ptr
open Mast.Heap

/-- the record `growAll` returns is the one `Tree.growLoop` computes, and the loop has stopped by its condition -/
structure GrowAllAt (E : Env) (f : Nat) (t : PTree) (y : Bool × T × List Nat) (n0 : Nat) (t' : PTree) (s' : PS)
    (a' g' : Nat) (y' : Bool × T × List Nat) : Prop where
  root : t'.root = .ptr a'
  id : t'.id = t.id
  bf : t'.bf = t.bf
  size : t'.size = t.size
  growAfter : 1 ≤ t.bf → 1 ≤ t.growAfter → 1 ≤ t'.growAfter
  rep : repLink s'.heap s'.store g' (.ptr a') = some y'
  fp : FpExt n0 y.2.2 y'.2.2
  dirty : rootDirty s'.heap (.ptr a') = true
  loop : treeRec t' y' true = Tree.growLoop E.layer f (treeRec t y true)
  stopped : ¬ growCond E.layer (treeRec t' y' true)

def GrowAllOK (E : Env) (f : Nat) (t : PTree) (y : Bool × T × List Nat) (n0 : Nat) (t' : PTree) (s' : PS) : Prop :=
  ∃ a' g' y', GrowAllAt E f t y n0 t' s' a' g' y'

theorem GrowAllOK.stop {E : Env} {f : Nat} {t : PTree} {y : Bool × T × List Nat} {n0 : Nat} {s' : PS} {a g : Nat}
    (hroot : t.root = .ptr a) (hy : repLink s'.heap s'.store g (.ptr a) = some y) (hynd : y.2.2.Nodup)
    (hd : rootDirty s'.heap (.ptr a) = true) (hn : ¬ growCond E.layer (treeRec t y true)) :
    GrowAllOK E (f + 1) t y n0 t s' :=
  ⟨a, g, y, hroot, rfl, rfl, rfl, fun _ h => h, hy, FpExt.refl hynd, hd, by rw [growLoop_succ, if_neg hn], hn⟩

theorem growAll_refines (E : Env) : ∀ (f : Nat) (t : PTree) (s : PS) (g a : Nat) (y : Bool × T × List Nat),
    Good s → t.root = .ptr a → repLink s.heap s.store g (.ptr a) = some y → y.2.2.Nodup →
    rootDirty s.heap (.ptr a) = true →
    Spec (Grow t.id) (growAll E f t) s (fun t' s' => GrowAllOK E f t y s.heap.length t' s') := by
  intro f
  induction f with
  | zero => intro t s g a y _ _ _ _ _; exact Spec.oof
  | succ f ih =>
    intro t s g a y hg hroot hy hynd hdirty
    have hyrow : T.unmk y.2.1 = y.2.1 := unmk_of_ne_nil (repLink_row_ne_nil hy HLink.noConfusion)
    unfold growAll
    refine Spec.ite (fun hsz => Spec.pure
      (GrowAllOK.stop hroot hy hynd hdirty (fun hc => absurd hc.1 (Nat.not_le.mpr hsz)))) fun hsz => ?_
    · rw [hroot]
      refine Spec.bind (load_spec (m := t.id) E (.ptr a) s hg) ?_
      rintro a' s0 _ _ ⟨_, hptr, _⟩
      obtain ⟨rfl, rfl⟩ := hptr a rfl
      refine Spec.bind (read_spec a' s0) ?_
      rintro nd s0' _ _ ⟨rfl, hnda⟩
      obtain ⟨g0, cs, hgeq, hv, hkids, hcl, hyeq⟩ := repLink_ptr_inv hy hnda
      refine Spec.bind (canGrowM_spec (m := t.id) E t.height nd.keys s0) ?_
      rintro cg s1 _ hgr1 rfl
      have hcan : T.canGrow E.layer t.height (treeRec t y true).root =
          nd.keys.any (fun k => decide (t.height < E.layer k)) := by
        show T.canGrow E.layer t.height (T.unmk y.2.1) = _
        rw [hyrow, hyeq, nodeRep_row]
        exact canGrow_mkRow E.layer t.height nd.keys (cs.map pr) nd.vals (by rw [List.length_map]; exact hcl) hv.2
      have hg1 := hgr1.good hg
      have hy1 := hgr1.rep hy
      refine Spec.ite (fun hcg => ?_) fun hcg => ?_
      · have hcond : growCond E.layer (treeRec t y true) := by
          refine ⟨Nat.le_of_not_lt hsz, ?_⟩
          show T.canGrow E.layer t.height (treeRec t y true).root = true
          rw [hcan]; exact hcg
        refine Spec.bind (grow_spec E t s1 hg1 hroot hy1 hynd) ?_
        rintro t1 s2 _ hgr2 ⟨na, g1, y1, rfl, hy1', hy1row, hy1fp, hd1⟩
        have hg2 := hgr2.good hg1
        refine (ih (grownTree t na) s2 g1 na y1 hg2 rfl hy1' hy1fp.1 hd1).conseq ?_
        rintro t' s' _ hgr' ⟨a2, g2, y2, hOK⟩
        refine ⟨a2, g2, y2, { hOK with growAfter := ?_, fp := ?_, loop := ?_ }⟩
        · exact fun hb hga => hOK.growAfter hb (Nat.mul_le_mul hga hb)
        · exact (hy1fp.n_mono hgr1.length).trans hOK.fp (Nat.le_trans hgr1.length hgr2.length)
        · rw [hOK.loop, growLoop_succ, if_pos hcond]
          congr 1
          have hy1ne := unmk_of_ne_nil (repLink_row_ne_nil hy1' HLink.noConfusion)
          rw [hy1row] at hy1ne
          simp only [treeRec, grownTree, Tree.growStep, hy1row, hy1ne, hyrow, repLink_flag_ptr hy1', repLink_flag_ptr hy]
      · refine Spec.pure (GrowAllOK.stop hroot hy1 hynd ?_ (fun hc => hcg (hcan ▸ hc.2)))
        simp only [rootDirty, hnda] at hdirty
        simp only [rootDirty, hgr1.alloc a' nd hnda]; exact hdirty

end Mast.Ptr
