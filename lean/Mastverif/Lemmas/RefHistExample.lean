import Mastverif.Lemmas.RefHistory
import Mastverif.Lemmas.TreeInv
import Mastverif.Lemmas.PtrDecEq
/-!
Use and non-vacuity of the history-level theorem.

* `Sys.ins_get_transfer`: a property theorem of the functional model (`Tree.insert_spec`, `Tree.lookup_eq`,
  `getL_insL_same`: "a lookup returns the value just written") transferred to the object-level programs through
  `Sys.apply_refines` + `get_refines`.
* a concrete history (load, inserts with growth, flush, clone, reload of the flushed name through the cache, inserts on
  all three trees, a delete, iter, get, more flushes): `Sys.run_refines` applies (its hypotheses are checked by
  `decide +kernel`), and the statements of `flush_refines` / `clone_refines` / `loadMast_refines` are evaluated on it.
-/
namespace Mast.Ptr
open Mast.Heap

/-- after a successful `Insert(k, v)` into a tree that denotes a well-formed functional tree, the tree denotes a
    well-formed tree with the entries `insL k v …`, and every successful `Get(k)` returns `v` -/
theorem Sys.ins_get_transfer (E : Env) (fuel fuel2 : Nat) (σ : Sys) (i k v : Nat) (As : List Tree) (A : Tree)
    (hR : RSys σ) (hD : Den σ As) (hAi : As[i]? = some A) (hinv : Tree.Inv E.layer A)
    (hok : (σ.apply E fuel (.ins i k v)).2 = .ok) :
    ∃ As' A' t', Den (σ.apply E fuel (.ins i k v)).1 As' ∧ As'[i]? = some A' ∧ Tree.Inv E.layer A' ∧
      A'.toList = T.insL k v A.toList ∧ (σ.apply E fuel (.ins i k v)).1.trees[i]? = some t' ∧
      ∀ r s'', get E t' fuel2 k (σ.apply E fuel (.ins i k v)).1.ps = .ok r s'' → r = some v := by
  obtain ⟨hR', _, As', hD', hf⟩ := Sys.apply_refines E fuel σ (.ins i k v) As hR hD trivial (Or.inl hok)
  rw [hok] at hf
  simp only [FStep, hAi] at hf
  obtain ⟨A', hins, rfl⟩ := hf
  obtain ⟨m', h1, h2, h3, _⟩ := Tree.insert_spec E.layer A k v hinv
  rw [h1] at hins
  injection hins with hins
  subst hins
  have hilt : i < As.length := (List.getElem?_eq_some_iff.mp hAi).1
  have hAi' : (As.set i m')[i]? = some m' := List.getElem?_set_self hilt
  have hlt' : i < (σ.apply E fuel (.ins i k v)).1.trees.length := by
    rw [← hD'.1, List.length_set]; exact hilt
  refine ⟨_, m', _, hD', hAi', h2, h3, List.getElem?_eq_getElem hlt', ?_⟩
  intro r s'' hget
  obtain ⟨A2, hA2, g, hden⟩ := hD'.2 i _ (List.getElem?_eq_getElem hlt')
  rw [hAi'] at hA2; injection hA2 with hA2; subst hA2
  have := get_refines E _ fuel2 k g _ m' hR'.good hden
  rw [hget] at this
  rw [this.1, Tree.lookup_eq E.layer m' k h2, h3]
  exact T.getL_insL_same k v _ hinv.sorted

/-! ## a concrete history -/

def hxEnv : Env := { layer := fun k => if k % 4 = 0 then 1 else 0, failAt := fun _ => false }

def hxInit : Sys := { ps := { useCache := true } }

/-- load an empty tree, four inserts (the tree grows), flush, clone, insert into the clone, reload the flushed root
    into a third tree (cache hit), insert there, delete in the first tree, iter, get, flush the clone and the third
    tree, clone the flushed tree, one more insert -/
def hxOps : List Op :=
  [.load 0 0 0 2, .ins 0 4 40, .ins 0 8 80, .ins 0 3 30, .ins 0 5 50, .flush 0, .clone 0, .ins 1 6 60,
   .load 3 4 1 2, .ins 2 7 70, .del 0 3 30, .iter 1, .get 2 3, .flush 1, .flush 2, .clone 2, .ins 0 2 20]

def hxAt (n : Nat) : Sys := (Sys.run hxEnv 10 hxInit (hxOps.take n)).1

def hxSys : Sys := (Sys.run hxEnv 10 hxInit hxOps).1

/-- the system the history ends in -/
def hxFinal : Sys :=
  { ps := { heap := [
              ⟨[3, 4, 8], [30, 40, 80], [.nil, .nil, .nil, .nil], true, false, 1, none⟩,
              ⟨[3], [30], [.nil, .nil], false, true, 1, some 1⟩,
              ⟨[4, 8], [40, 80], [.ref 1, .ref 2, .nil], false, true, 1, some 3⟩,
              ⟨[5], [50], [.nil, .nil], false, true, 1, some 2⟩,
              ⟨[5, 6], [50, 60], [.nil, .nil, .nil], false, true, 2, some 4⟩,
              ⟨[4, 8], [40, 80], [.ref 1, .ref 4, .nil], false, true, 2, some 5⟩,
              ⟨[5, 7], [50, 70], [.nil, .nil, .nil], false, true, 3, some 6⟩,
              ⟨[4, 8], [40, 80], [.ref 1, .ref 6, .nil], false, true, 3, some 7⟩,
              ⟨[], [], [.nil], true, false, 1, none⟩,
              ⟨[4, 8], [40, 80], [.ptr 10, .ref 2, .nil], true, false, 1, none⟩,
              ⟨[2], [20], [.nil, .nil], true, false, 1, none⟩],
            store := [
              ⟨[3], [30], []⟩, ⟨[5], [50], []⟩, ⟨[4, 8], [40, 80], [.ref 1, .ref 2, .nil]⟩, ⟨[5, 6], [50, 60], []⟩,
              ⟨[4, 8], [40, 80], [.ref 1, .ref 4, .nil]⟩, ⟨[5, 7], [50, 70], []⟩,
              ⟨[4, 8], [40, 80], [.ref 1, .ref 6, .nil]⟩],
            cache := [(7, 7), (6, 6), (5, 5), (4, 4), (3, 2), (2, 3), (1, 1)], useCache := true, tick := 0,
            ltick := 18 },
    trees := [⟨1, .ptr 9, 4, 1, 2, 4, 2⟩, ⟨2, .ref 5, 5, 1, 2, 4, 2⟩, ⟨3, .ref 7, 5, 1, 2, 4, 2⟩,
      ⟨4, .ptr 7, 5, 1, 2, 4, 2⟩],
    nextId := 5 }

/-- The history is evaluated once; what is said below and in `Props/` about its outcome and about `hxSys` starts from
    this. -/
theorem hx_run : Sys.run hxEnv 10 hxInit hxOps = (hxFinal, .ok) := by decide +kernel

theorem hxSys_eq : hxSys = hxFinal := by rw [hxSys, hx_run]

/-- the history runs to its end … -/
theorem hx_ok : (Sys.run hxEnv 10 hxInit hxOps).2 = .ok := by rw [hx_run]

/-- … so the history-level theorem applies: the invariant holds at the end and the four trees denote the result of
    the functional run -/
theorem hx_refines : RSys (Sys.run hxEnv 10 hxInit hxOps).1 ∧ ∃ As', Den (Sys.run hxEnv 10 hxInit hxOps).1 As' ∧
    FRun hxEnv.layer hxInit.ps.store [] hxOps (Sys.run hxEnv 10 hxInit hxOps).1.ps.store As' :=
  Sys.run_refines hxEnv 10 hxOps hxInit [] (RSys.init' true 1) (den_empty _ rfl) (by decide) hx_ok

example : hxSys.trees.length = 4 := by rw [hxSys_eq]; rfl
example : hxSys.trees.map (fun t => (repTree hxSys.ps 10 t).isSome) = [true, true, true, true] := by
  rw [hxSys_eq]; decide +kernel

/-- what tree number `i` denotes after the first `n` calls -/
def hxDen (n i : Nat) : Option Tree := (hxAt n).trees[i]?.bind (repTree (hxAt n).ps 10)

/-- `flush` (call 6): tree 0 afterwards denotes `flushTree` of what it denoted (as `flush_refines` says) -/
example : hxDen 6 0 = (hxDen 5 0).map flushTree := by decide +kernel
/-- … with the same entries -/
example : (hxDen 6 0).map Tree.toList = some [(3, 30), (4, 40), (5, 50), (8, 80)] := by decide +kernel
/-- `clone` (call 7): the new tree denotes the same tree, held by pointer (as `clone_refines` says) -/
example : hxDen 7 1 = (hxDen 6 0).map (fun A => { A with rootP := false }) := by decide +kernel
/-- `load` of the flushed name (call 9): the row of the flushed tree (as `loadMast_refines` says) -/
example : hxDen 9 2 = (hxDen 6 0).map (fun A => loadedTree true A.root 4 1 2) := by decide +kernel
/-- `insert` into the clone (call 8) and `delete` in the first tree (call 11) against the functional operations -/
example : (match hxDen 7 1 with
    | some A => (match Tree.insert hxEnv.layer A 6 60 with | .ok A' => decide (hxDen 8 1 = some A') | _ => false)
    | none => false) = true := by decide +kernel
example : (match hxDen 10 0 with
    | some A => (match Tree.delete hxEnv.layer A 3 30 with | .ok A' => decide (hxDen 11 0 = some A') | _ => false)
    | none => false) = true := by decide +kernel
/-- the other trees are untouched by the insert into the clone and by the flush of the clone -/
example : hxDen 8 0 = hxDen 7 0 ∧ hxDen 14 0 = hxDen 13 0 ∧ hxDen 14 2 = hxDen 13 2 := by decide +kernel

/-! ## a history with a failing store (cache off): outcomes `.err` are covered -/

def hyEnv : Env := { layer := fun k => if k % 4 = 0 then 1 else 0, failAt := fun t => t == 1 }

def hyOps : List Op :=
  [.load 0 0 0 2, .ins 0 4 40, .ins 0 3 30, .flush 0, .get 0 3, .get 0 3, .ins 0 5 50, .clone 0, .iter 1]

/-- the second store load fails: the second `get` after the flush ends in `.err`, the run goes on -/
example : ((Sys.run hyEnv 10 {} (hyOps.take 5)).1.apply hyEnv 10 (.get 0 3)).2 = Outcome.err := by
  decide +kernel

theorem hy_ok : (Sys.run hyEnv 10 {} hyOps).2 = .ok := by decide +kernel

theorem hy_refines : RSys (Sys.run hyEnv 10 {} hyOps).1 ∧ ∃ As', Den (Sys.run hyEnv 10 {} hyOps).1 As' ∧
    FRun hyEnv.layer ({} : Sys).ps.store [] hyOps (Sys.run hyEnv 10 {} hyOps).1.ps.store As' :=
  Sys.run_refines hyEnv 10 hyOps {} [] RSys.init (den_empty _ rfl) (by decide) hy_ok

end Mast.Ptr
