import Mastverif.Lemmas.RefFlush
import Mastverif.Lemmas.RefCloneTop
import Mastverif.Lemmas.RefIter
/-!
The functional side of a history: which calls are covered (`OpCovered`), what a name denotes in a store (`NameRow`),
the tree after a flush (`flushTree`), one call (`FStep`) and a whole history (`FRun`) on lists of functional trees.
-/
namespace Mast.Ptr
open Mast.Heap

/-- the only restriction on a call: a `load` must give a branch factor `≥ 2` (it is what makes the new tree `Thresh`;
    with `bf = 1` the growth loops of the two models disagree: last example of `Lemmas/RefExample.lean`) -/
def OpCovered : Op → Prop
  | .load _ _ _ bf => 2 ≤ bf
  | _ => True

instance (op : Op) : Decidable (OpCovered op) := by
  cases op <;> unfold OpCovered <;> infer_instance

/-- the row a name denotes in a store (names do not depend on the heap) -/
def NameRow (st : List SNode) (n : Nat) (r : T) : Prop := ∃ g x, repLink [] st g (.ref n) = some x ∧ x.2.1 = r

theorem NameRow.append {st : List SNode} {n : Nat} {r : T} (h : NameRow st n r) (ext : List SNode) :
    NameRow (st ++ ext) n r := by
  obtain ⟨g, x, hx, hr⟩ := h
  exact ⟨g, x, repLink_store_append ext hx, hr⟩

def flushTree (A : Tree) : Tree := if Tree.isEmptyTop A.root then { A with dirty := false } else flushedTree A

/-- what one call does to the list of functional trees; `st` / `st'` = table of stored contents before / after -/
def FStep (layer : Nat → Nat) (st st' : List SNode) (As : List Tree) : Op → Outcome → List Tree → Prop
  | .ins i k v, o, As' =>
    match As[i]? with
    | none => As' = As
    | some A =>
      match o with
      | .ok => ∃ A', Tree.insert layer A k v = .ok A' ∧ As' = As.set i A'
      | _ => As' = As ∨ ∃ r, Tree.lookup layer A k = none ∧ T.ins k v (A.levels layer k) A.root = some r ∧
              As' = As.set i { A with root := r, rootP := false, dirty := true }
  | .del i k v, o, As' =>
    match As[i]? with
    | none => As' = As
    | some A =>
      match o with
      | .ok => ∃ A', As' = As.set i A' ∧
          (Tree.delete layer A k v = .ok A' ∨
           -- the tree was emptied by the height reduction (root link nil at the object level): the functional model
           -- keeps `dirty = true` and goes on shrinking (`delete_emptied_disagree`, `Lemmas/RefDelSys.lean`)
           (A'.root = T.last false T.nil ∧ A'.dirty = false ∧
            Tree.delete layer A k v = .ok (Tree.shrinkLoop (A'.height + 1) { A' with dirty := true })))
      | _ => As' = As ∨ ∃ r, Tree.lookup layer A k = some v ∧ T.del k (A.levels layer k) A.root = some r ∧
              As' = As.set i (delRec A r)
  | .get _ _, _, As' => As' = As
  | .iter _, _, As' => As' = As
  | .flush i, o, As' =>
    match As[i]?, o with
    | some A, .ok => As' = As.set i (flushTree A) ∧
        (Tree.isEmptyTop A.root = false → ∃ n, NameRow st' n (flushedTree A).root)
    | _, _ => As' = As
  | .clone i, o, As' =>
    match As[i]?, o with
    | some A, .ok => As' = As ++ [{ A with rootP := false }]
    | _, _ => As' = As
  | .load link size height bf, o, As' =>
    match o with
    | .ok => if link = 0 then As' = As ++ [loadedTree false (T.last false T.nil) size height bf]
             else ∃ r, NameRow st link r ∧ As' = As ++ [loadedTree true r size height bf]
    | _ => As' = As

/-- a history at the functional level (outcomes `.ok` / `.err` only; the store only grows) -/
inductive FRun (layer : Nat → Nat) : List SNode → List Tree → List Op → List SNode → List Tree → Prop where
  | nil (st : List SNode) (As : List Tree) : FRun layer st As [] st As
  | cons {st st1 st2 : List SNode} {As As1 As2 : List Tree} {op : Op} {ops : List Op} (o : Outcome)
      (ho : o = .ok ∨ o = .err) (hst : ∃ ext, st1 = st ++ ext) (h1 : FStep layer st st1 As op o As1)
      (h2 : FRun layer st1 As1 ops st2 As2) : FRun layer st As (op :: ops) st2 As2

theorem repTree_fields {s : PS} {g : Nat} {t : PTree} {A : Tree} (h : repTree s g t = some A) :
    A.bf = t.bf ∧ A.growAfter = t.growAfter ∧ A.shrinkBelow = t.shrinkBelow := by
  obtain ⟨x, _, _, rfl⟩ := repTree_eq_some.mp h
  exact ⟨rfl, rfl, rfl⟩

theorem thresh_of_fields {t t' : PTree} (h : Thresh t) (h1 : t'.bf = t.bf) (h2 : t'.growAfter = t.growAfter)
    (h3 : t'.shrinkBelow = t.shrinkBelow) : Thresh t' := by
  unfold Thresh at h ⊢
  rw [h1, h2, h3]; exact h

theorem thresh_loaded {t : PTree} {bf height : Nat} (h1 : t.bf = bf) (h2 : t.shrinkBelow = bf ^ height)
    (h3 : t.growAfter = bf ^ height * bf) (hbf : 2 ≤ bf) : Thresh t := by
  refine ⟨h1 ▸ hbf, height, by rw [h2, h1], ?_⟩
  rw [h3, h1, Nat.pow_succ]

/-- the store of a denoting system resolves names: from the empty heap to any heap -/
theorem nameRow_rep {s : PS} (hg : Good s) {n : Nat} {g : Nat} {x : Bool × T × List Nat}
    (h : repLink [] s.store g (.ref n) = some x) : repLink s.heap s.store g (.ref n) = some x :=
  repLink_flat_heap hg.flat _ _ _ rfl h

end Mast.Ptr
