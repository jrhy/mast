import Mastverif.Lemmas.RefHistOps
import Mastverif.Lemmas.RefGet
/-!
# The history-level refinement theorem

`RSys` is preserved by every call of `Sys.apply` that ends in `.ok` or `.err`, and the functional contents of the
trees evolve by the functional operations (`FStep`): `Sys.apply_refines`; along a whole history: `Sys.run_refines`.
Every property of the functional model (`Tree.insert`, `Tree.lookup`, …) thereby holds of the object-level
transcription of the code.
-/
namespace Mast.Ptr
open Mast.Heap

theorem den_none {σ : Sys} {As : List Tree} {i : Nat} (hD : Den σ As) (hi : σ.trees[i]? = none) : As[i]? = none := by
  rw [List.getElem?_eq_none_iff] at hi ⊢
  rw [hD.1]; exact hi

theorem den_some {σ : Sys} {As : List Tree} {i : Nat} {t : PTree} (hR : RSys σ) (hD : Den σ As)
    (hi : σ.trees[i]? = some t) :
    ∃ g A, As[i]? = some A ∧ repTree σ.ps g t = some A ∧ FpOwned σ.ps.heap t.id (footprint σ.ps g t) ∧ Thresh t ∧
      t.id < σ.nextId := by
  obtain ⟨⟨⟨g, A, hA, hown⟩, hh⟩, hlt⟩ := hR.trees t (List.mem_of_getElem? hi)
  obtain ⟨A1, hAs, hden⟩ := hD.2 i t hi
  have : A1 = A := hden.unique ⟨g, hA⟩
  subst this
  exact ⟨g, A1, hAs, hA, hown, hh, hlt⟩

theorem runM_cases {α : Type} {x : M α} {s : PS} (ho : (runM x s).2.2 = .ok ∨ (runM x s).2.2 = .err) :
    (∃ a s', x s = .ok a s' ∧ runM x s = (some a, s', .ok)) ∨ (∃ s', x s = .err s' ∧ runM x s = (none, s', .err)) := by
  unfold runM at ho ⊢
  cases h : x s with
  | ok a s' => exact Or.inl ⟨a, s', rfl, rfl⟩
  | err s' => exact Or.inr ⟨s', rfl, rfl⟩
  | panic => rw [h] at ho; simp at ho
  | stuck => rw [h] at ho; simp at ho
  | oof => rw [h] at ho; simp at ho

/-- the conclusion of the one-call theorem -/
def ApplyOK (E : Env) (σ : Sys) (As : List Tree) (op : Op) (r : Sys × Outcome) : Prop :=
  RSys r.1 ∧ (∃ ext, r.1.ps.store = σ.ps.store ++ ext) ∧
    ∃ As', Den r.1 As' ∧ FStep E.layer σ.ps.store r.1.ps.store As op r.2 As'

theorem apply_none {E : Env} {σ : Sys} {As : List Tree} {op : Op} (hR : RSys σ) (hD : Den σ As)
    (hf : FStep E.layer σ.ps.store σ.ps.store As op .ok As) : ApplyOK E σ As op (σ, .ok) :=
  ⟨hR, ⟨[], by simp⟩, As, hD, hf⟩

theorem apply_grow {E : Env} {σ : Sys} {As : List Tree} {op : Op} {o : Outcome} {m nid : Nat} {s' : PS}
    (hR : RSys σ) (hD : Den σ As) (hgr : Grow m σ.ps s') (hsrc : SourceOK s') (hm : m < nid) (hn : σ.nextId ≤ nid)
    (new : Option (PTree × Tree))
    (hnew : ∀ t' A', new = some (t', A') → TreeOK s' t' ∧ t'.id = σ.nextId ∧ σ.nextId < nid ∧ Denotes s' t' A')
    (hf : FStep E.layer σ.ps.store s'.store As op o (match new with | some x => As ++ [x.2] | none => As)) :
    ApplyOK E σ As op ({ ps := s', nextId := nid, trees := addTree σ.trees (new.map (·.1)) }, o) := by
  obtain ⟨h1, h2⟩ := rsys_grow hR hD hgr hsrc hm hn new hnew
  exact ⟨h1, ⟨[], by rw [List.append_nil]; exact hgr.store⟩, _, h2, hf⟩

theorem apply_read {E : Env} {σ : Sys} {As : List Tree} {op : Op} {α : Type} {x : M α} {m : Nat}
    {Q : α → PS → Prop} (hR : RSys σ) (hD : Den σ As) (hx : Spec (Grow m) x σ.ps Q) (hsrc : SrcP x)
    (hm : m < σ.nextId) (ho : (runM x σ.ps).2.2 = .ok ∨ (runM x σ.ps).2.2 = .err)
    (hf : ∀ st' o, FStep E.layer σ.ps.store st' As op o As) :
    ApplyOK E σ As op ({ σ with ps := (runM x σ.ps).2.1 }, (runM x σ.ps).2.2) := by
  rcases runM_cases ho with ⟨a, s', hxs, hr⟩ | ⟨s', hxs, hr⟩
  · rw [hr]
    exact apply_grow hR hD (hx.ok hxs).1 (hsrc.ok hxs hR.src) hm (Nat.le_refl _) none (fun _ _ h => by cases h) (hf _ _)
  · rw [hr]
    exact apply_grow hR hD (hx.err hxs) (hsrc.err hxs hR.src) hm (Nat.le_refl _) none (fun _ _ h => by cases h) (hf _ _)

theorem apply_new {E : Env} {σ : Sys} {As : List Tree} {op : Op} {x : M PTree} (hR : RSys σ) (hD : Den σ As)
    (hsrc : SrcP x) (ho : (runM x σ.ps).2.2 = .ok ∨ (runM x σ.ps).2.2 = .err)
    (herr : ∀ s', x σ.ps = .err s' → Grow σ.nextId σ.ps s' ∧ FStep E.layer σ.ps.store s'.store As op .err As)
    (hok : ∀ t' s', x σ.ps = .ok t' s' → Grow σ.nextId σ.ps s' ∧ ∃ g A', repTree s' g t' = some A' ∧
      FpOwned s'.heap σ.nextId (footprint s' g t') ∧ Thresh t' ∧ t'.id = σ.nextId ∧
      FStep E.layer σ.ps.store s'.store As op .ok (As ++ [A'])) :
    ApplyOK E σ As op ({ ps := (runM x σ.ps).2.1, nextId := σ.nextId + 1, trees := addTree σ.trees (runM x σ.ps).1 },
      (runM x σ.ps).2.2) := by
  rcases runM_cases ho with ⟨t', s', hxs, hr⟩ | ⟨s', hxs, hr⟩
  · rw [hr]
    obtain ⟨hgr, g, A', hA', hown, hth, hid, hf⟩ := hok t' s' hxs
    refine apply_grow hR hD hgr (hsrc.ok hxs hR.src) (Nat.lt_succ_self _) (Nat.le_succ _) (some (t', A')) ?_ hf
    intro t1 A1 h
    injection h with h; injection h with h1 h2; subst h1; subst h2
    exact ⟨⟨⟨g, _, hA', by rw [hid]; exact hown⟩, hth⟩, hid, Nat.lt_succ_self _, g, hA'⟩
  · rw [hr]
    exact apply_grow hR hD (herr s' hxs).1 (hsrc.err hxs hR.src) (Nat.lt_succ_self _) (Nat.le_succ _) none
      (fun _ _ h => by cases h) (herr s' hxs).2

theorem apply_update {E : Env} {σ : Sys} {As : List Tree} {op : Op} {o : Outcome} {i g : Nat} {t t' : PTree} {s' : PS}
    {A' : Tree} (hR : RSys σ) (hD : Den σ As) (hi : σ.trees[i]? = some t) (hw : WStep t.id σ.ps s') (hg : Good s')
    (hsrc : SourceOK s') (hsd : StoreDen s'.store) (hA' : repTree s' g t' = some A')
    (hown : FpOwned s'.heap t'.id (footprint s' g t')) (hth : Thresh t') (hid : t'.id = t.id)
    (hf : FStep E.layer σ.ps.store s'.store As op o (As.set i A')) :
    ApplyOK E σ As op ({ σ with ps := s', trees := σ.trees.set i t' }, o) := by
  obtain ⟨h1, h2⟩ := rsys_update hR hD hi hw hg hsrc hsd ⟨⟨g, A', hA', hown⟩, hth⟩ hid ⟨g, hA'⟩
  exact ⟨h1, hw.store, _, h2, hf⟩

theorem apply_step {E : Env} {σ : Sys} {As : List Tree} {op : Op} {o : Outcome} {i g : Nat} {t t' : PTree} {s' : PS}
    {A' : Tree} (hR : RSys σ) (hD : Den σ As) (hi : σ.trees[i]? = some t) (hst : Step t.id σ.ps s') (hg : Good s')
    (hsrc : SourceOK s') (hA' : repTree s' g t' = some A') (hown : FpOwned s'.heap t'.id (footprint s' g t'))
    (hth : Thresh t') (hid : t'.id = t.id) (hf : FStep E.layer σ.ps.store s'.store As op o (As.set i A')) :
    ApplyOK E σ As op ({ σ with ps := s', trees := σ.trees.set i t' }, o) :=
  apply_update hR hD hi hst.toW hg hsrc (by rw [hst.store]; exact hR.sden) hA' hown hth hid hf

theorem thresh_of_rep {s s' : PS} {g g' : Nat} {t t' : PTree} {A A' : Tree} (hh : Thresh t)
    (hA : repTree s g t = some A) (hA' : repTree s' g' t' = some A')
    (h1 : A'.bf = A.bf) (h2 : A'.growAfter = A.growAfter) (h3 : A'.shrinkBelow = A.shrinkBelow) : Thresh t' := by
  obtain ⟨e1, e2, e3⟩ := repTree_fields hA
  obtain ⟨f1, f2, f3⟩ := repTree_fields hA'
  exact thresh_of_fields hh (by rw [← f1, h1, e1]) (by rw [← f2, h2, e2]) (by rw [← f3, h3, e3])

/-- one call: the invariant is kept, the store only grows, the functional trees change by `FStep` -/
theorem Sys.apply_refines (E : Env) (fuel : Nat) (σ : Sys) (op : Op) (As : List Tree) (hR : RSys σ) (hD : Den σ As)
    (hop : OpCovered op) (ho : (σ.apply E fuel op).2 = .ok ∨ (σ.apply E fuel op).2 = .err) :
    ApplyOK E σ As op (σ.apply E fuel op) := by
  cases op with
  | ins i k v =>
    dsimp only [Sys.apply] at ho ⊢
    cases hi : σ.trees[i]? with
    | none => exact apply_none hR hD (by dsimp only [FStep]; rw [den_none hD hi])
    | some t =>
      rw [hi] at ho
      obtain ⟨g, A, hAs, hA, hown, hh, hlt⟩ := den_some hR hD hi
      have hsrc' := insert_src E fuel σ.ps t k v hR.src
      dsimp only at ho ⊢
      generalize hr : insert E fuel σ.ps t k v = r at ho hsrc' ⊢
      obtain ⟨s', t', o⟩ := r
      dsimp only at ho ⊢
      rcases ho with rfl | rfl
      · obtain ⟨g', A', hA', hins, hg', hown', _, hid, hst⟩ :=
          insert_refines E fuel g σ.ps s' t t' k v A hR.good hown hh.healthy hA hr
        exact apply_step hR hD hi hst hg' hsrc' hA' hown' (insert_thresh E fuel g σ.ps s' t t' k v A hR.good hown hh hA hr)
          hid (by dsimp only [FStep]; rw [hAs]; exact ⟨A', hins, rfl⟩)
      · obtain ⟨hg', hst, hid, hcase⟩ := insert_err_refines E fuel g σ.ps s' t t' k v A hR.good hown hA hr
        rcases hcase with ⟨rfl, hA', hown'⟩ | ⟨g', r, hlk, hins, hA', hown'⟩
        · exact apply_step hR hD hi hst hg' hsrc' hA' hown' hh rfl
            (by rw [set_self_of_getElem? hAs]; dsimp only [FStep]; rw [hAs]; exact Or.inl rfl)
        · exact apply_step hR hD hi hst hg' hsrc' hA' hown' (thresh_of_rep hh hA hA' rfl rfl rfl) hid
            (by dsimp only [FStep]; rw [hAs]; exact Or.inr ⟨r, hlk, hins, rfl⟩)
  | del i k v =>
    dsimp only [Sys.apply] at ho ⊢
    cases hi : σ.trees[i]? with
    | none => exact apply_none hR hD (by dsimp only [FStep]; rw [den_none hD hi])
    | some t =>
      rw [hi] at ho
      obtain ⟨g, A, hAs, hA, hown, hh, hlt⟩ := den_some hR hD hi
      have hsrc' := delete_src E fuel σ.ps t k v hR.src
      dsimp only at ho ⊢
      generalize hr : delete E fuel σ.ps t k v = r at ho hsrc' ⊢
      obtain ⟨s', t', o⟩ := r
      dsimp only at ho ⊢
      rcases ho with rfl | rfl
      · have hh' := delete_thresh E fuel g σ.ps s' t t' k v A hR.good hown hh hA hr
        by_cases hroot : t'.root = .nil
        · obtain ⟨g', A', hA', hr0, hd0, _, _, hdl, _, hg', hown', hid, _, hst⟩ :=
            delete_refines_emptied E fuel g σ.ps s' t t' k v A hR.good hown hA hr hroot
          exact apply_step hR hD hi hst hg' hsrc' hA' hown' hh' hid
            (by dsimp only [FStep]; rw [hAs]; exact ⟨A', rfl, Or.inr ⟨hr0, hd0, hdl⟩⟩)
        · obtain ⟨g', A', hA', hdl, hg', hown', hid, _, hst⟩ :=
            delete_refines E fuel g σ.ps s' t t' k v A hR.good hown hA hr hroot
          exact apply_step hR hD hi hst hg' hsrc' hA' hown' hh' hid
            (by dsimp only [FStep]; rw [hAs]; exact ⟨A', rfl, Or.inl hdl⟩)
      · obtain ⟨hg', hst, hid, hcase⟩ := delete_err_refines E fuel g σ.ps s' t t' k v A hR.good hown hA hr
        rcases hcase with ⟨rfl, hA', hown'⟩ | ⟨g', r, hlk, hdl, hA', hown'⟩
        · exact apply_step hR hD hi hst hg' hsrc' hA' hown' hh rfl
            (by rw [set_self_of_getElem? hAs]; dsimp only [FStep]; rw [hAs]; exact Or.inl rfl)
        · exact apply_step hR hD hi hst hg' hsrc' hA' hown' (thresh_of_rep hh hA hA' rfl rfl rfl) hid
            (by dsimp only [FStep]; rw [hAs]; exact Or.inr ⟨r, hlk, hdl, rfl⟩)
  | get i k =>
    dsimp only [Sys.apply] at ho ⊢
    cases hi : σ.trees[i]? with
    | none => exact apply_none hR hD rfl
    | some t =>
      rw [hi] at ho
      obtain ⟨g, A, hAs, hA, hown, hh, hlt⟩ := den_some hR hD hi
      exact apply_read hR hD (get_grow E t fuel k g σ.ps A hR.good hA) (get_src E t fuel k) hlt ho (fun _ _ => rfl)
  | iter i =>
    dsimp only [Sys.apply] at ho ⊢
    cases hi : σ.trees[i]? with
    | none => exact apply_none hR hD rfl
    | some t =>
      rw [hi] at ho
      obtain ⟨g, A, hAs, hA, hown, hh, hlt⟩ := den_some hR hD hi
      exact apply_read hR hD (iterAll_spec (m := t.id) E fuel t.root σ.ps hR.good) (iterAll_src E fuel t.root) hlt ho
        (fun _ _ => rfl)
  | flush i =>
    dsimp only [Sys.apply] at ho ⊢
    cases hi : σ.trees[i]? with
    | none => exact apply_none hR hD (by dsimp only [FStep]; rw [den_none hD hi])
    | some t =>
      rw [hi] at ho
      obtain ⟨g, A, hAs, hA, hown, hh, hlt⟩ := den_some hR hD hi
      dsimp only at ho ⊢
      rcases runM_cases ho with ⟨⟨t', n⟩, s', hfl, hr⟩ | ⟨s', hfl, hr⟩
      · rw [hr]
        obtain ⟨hg', hsrc', hsd', hw, hcase⟩ := flush_refines E t t' fuel g n σ.ps s' A hR.good hR.src hR.sden hown hA hfl
        rcases hcase with ⟨_, hemp, rfl, hA', hown'⟩ | ⟨_, hemp, rfl, hA', hfp', hn⟩
        · refine apply_update hR hD hi hw hg' hsrc' hsd' hA' hown' hh rfl ?_
          dsimp only [FStep]; rw [hAs]
          exact ⟨by rw [flushTree, if_pos hemp], fun h => by rw [hemp] at h; cases h⟩
        · refine apply_update (t' := { t with root := .ref n }) hR hD hi hw hg' hsrc' hsd' hA'
            (by rw [hfp']; exact fpOwned_nil _ _) hh rfl ?_
          dsimp only [FStep]; rw [hAs]
          exact ⟨by rw [flushTree, hemp]; rfl,
            fun _ => ⟨n, g, _, repLink_flat_heap (h' := []) hg'.flat _ _ _ rfl hn, rfl⟩⟩
      · rw [hr]
        obtain ⟨hgr, hsrc'⟩ := flush_err E t fuel σ.ps s' hR.good hR.src hfl
        exact apply_grow hR hD hgr hsrc' hlt (Nat.le_refl _) none (fun _ _ h => by cases h)
          (by dsimp only [FStep]; rw [hAs])
  | clone i =>
    dsimp only [Sys.apply] at ho ⊢
    cases hi : σ.trees[i]? with
    | none => exact apply_none hR hD (by dsimp only [FStep]; rw [den_none hD hi])
    | some t =>
      rw [hi] at ho
      obtain ⟨g, A, hAs, hA, hown, hh, hlt⟩ := den_some hR hD hi
      dsimp only at ho ⊢
      refine apply_new hR hD (clone_src E t σ.nextId fuel) ho
        (fun s' hcl => ⟨clone_err E t σ.nextId fuel g σ.ps s' A hR.good hA hcl, by dsimp only [FStep]; rw [hAs]⟩)
        fun t' s' hcl => ?_
      obtain ⟨hgr, _, hrec, hA', _, hown', _⟩ := clone_refines E t t' σ.nextId fuel g σ.ps s' A hR.good hA hcl
      exact ⟨hgr, g, _, hA', hown', thresh_of_fields hh (by rw [hrec]) (by rw [hrec]) (by rw [hrec]), by rw [hrec],
        by dsimp only [FStep]; rw [hAs]⟩
  | load link size height bf =>
    dsimp only [Sys.apply] at ho ⊢
    refine apply_new hR hD (loadMast_src E σ.nextId link size height bf) ho
      (fun s' hld => ⟨loadMast_err E σ.nextId link size height bf σ.ps s' hR.good hld, rfl⟩) fun t s' hld => ?_
    obtain ⟨hgr, _, hid, _, ⟨hf1, hf2, hf3⟩, h0, h1⟩ :=
      loadMast_refines E σ.nextId link size height bf σ.ps s' t hR.good hld
    have hth := thresh_loaded hf1 hf2 hf3 hop
    refine ⟨hgr, ?_⟩
    by_cases hl : link = 0
    · obtain ⟨hA', _, hown'⟩ := h0 hl
      exact ⟨1, _, hA', hown', hth, hid, by dsimp only [FStep]; rw [if_pos hl]⟩
    · obtain ⟨⟨sn, hsn⟩, hden⟩ := h1 hl
      obtain ⟨g, x, hx⟩ := hR.sden link sn hsn
      obtain ⟨hA', hfp'⟩ := hden g x (nameRow_rep hR.good hx)
      exact ⟨g, _, hA', by rw [hfp']; exact fpOwned_nil _ _, hth, hid,
        by dsimp only [FStep]; rw [if_neg hl]; exact ⟨x.2.1, ⟨g, x, hx, rfl⟩, rfl⟩⟩

/-- a history that runs to its end: the invariant holds there and the functional trees are those of `FRun` -/
theorem Sys.run_refines (E : Env) (fuel : Nat) : ∀ (ops : List Op) (σ : Sys) (As : List Tree), RSys σ → Den σ As →
    (∀ op ∈ ops, OpCovered op) → (Sys.run E fuel σ ops).2 = .ok →
    RSys (Sys.run E fuel σ ops).1 ∧ ∃ As', Den (Sys.run E fuel σ ops).1 As' ∧
      FRun E.layer σ.ps.store As ops (Sys.run E fuel σ ops).1.ps.store As' := by
  intro ops
  induction ops with
  | nil => intro σ As hR hD _ _; exact ⟨hR, As, hD, FRun.nil _ _⟩
  | cons op ops ih =>
    intro σ As hR hD hops hrun
    simp only [Sys.run] at hrun ⊢
    have hstep := Sys.apply_refines E fuel σ op As hR hD (hops op (by simp))
    generalize hr : σ.apply E fuel op = r at hrun hstep ⊢
    obtain ⟨σ1, o⟩ := r
    cases o with
    | ok =>
      obtain ⟨hR1, hst, As1, hD1, hf⟩ := hstep (Or.inl rfl)
      simp only at hrun ⊢
      obtain ⟨hR2, As2, hD2, hf2⟩ := ih σ1 As1 hR1 hD1 (fun o ho => hops o (by simp [ho])) hrun
      exact ⟨hR2, As2, hD2, FRun.cons .ok (Or.inl rfl) hst hf hf2⟩
    | err =>
      obtain ⟨hR1, hst, As1, hD1, hf⟩ := hstep (Or.inr rfl)
      simp only at hrun ⊢
      obtain ⟨hR2, As2, hD2, hf2⟩ := ih σ1 As1 hR1 hD1 (fun o ho => hops o (by simp [ho])) hrun
      exact ⟨hR2, As2, hD2, FRun.cons .err (Or.inr rfl) hst hf hf2⟩
    | panic => simp at hrun
    | stuck => simp at hrun
    | oof => simp at hrun

end Mast.Ptr
