import Mastverif.Lemmas.RefCommit
/-! `insertCommit` refines `T.ins`. -/
namespace Mast.Ptr
open Mast.Heap

theorem length_insertAt {α : Type} (l : List α) (i : Nat) (x : α) (h : i ≤ l.length) :
    (insertAt l i x).length = l.length + 1 := by
  unfold insertAt
  rw [List.length_append, List.length_take_of_le h, List.length_cons, List.length_drop, ← Nat.add_assoc,
    Nat.add_sub_cancel' h]

theorem length_splice {α : Type} (l : List α) (i : Nat) (a b : α) (h : i < l.length) :
    (l.take i ++ a :: b :: l.drop (i + 1)).length = l.length + 1 := by
  rw [List.length_append, List.length_take_of_le (Nat.le_of_lt h), List.length_cons, List.length_cons, List.length_drop,
    ← Nat.add_assoc, ← Nat.add_assoc, Nat.add_comm i, Nat.add_assoc _ i 1, Nat.sub_add_cancel h]

def CommitOK (key val n0 : Nat) (x : Bool × T × List Nat) (lv : Nat) (root : HLink) (s' : PS) : Prop :=
  ∃ a0 g' y, root = .ptr a0 ∧ repLink s'.heap s'.store g' (.ptr a0) = some y ∧
    T.ins key val lv (T.unmk x.2.1) = some y.2.1 ∧ FpExt n0 x.2.2 y.2.2 ∧ rootDirty s'.heap root = true

/-- the new contents `K / V / L` (keys, values, links) of the found node `nd`: the links denote `cs'`, the row is the
    row of `nd` with the entry inserted -/
structure NewBottom (key val n2 : Nat) (h : Heap) (st : List SNode) (nd : MNode) (csb : List (Bool × T × List Nat))
    (K V : List Nat) (L : List HLink) (G : Nat) (cs' : List (Bool × T × List Nat)) : Prop where
  kids : seqO (L.map (repLink h st G)) = some cs'
  valid : L.length = K.length + 1 ∧ V.length = K.length
  fp : FpExt n2 (fps csb) (fps cs')
  nonempty : K ≠ []
  ins : T.ins key val 0 (mkRow (csb.map pr) nd.keys nd.vals) = some (mkRow (cs'.map pr) K V)

section
variable {key val n0 : Nat} {x : Bool × T × List Nat} {lv : Nat} {fd : Found} {h : Heap} {st : List SNode}
  {frs : List Fr} {gb : Nat} {csb : List (Bool × T × List Nat)} {nd : MNode} {n2 : Nat}

theorem NewBottom.present (hB : Bottom key n0 x lv fd h st frs gb csb nd n2) (hkey : nd.keys[fd.idx]? = some key) :
    NewBottom key val n2 h st nd csb nd.keys (nd.vals.set fd.idx val) nd.links gb csb where
  kids := hB.kids
  valid := by rw [List.length_set]; exact hB.valid
  fp := FpExt.refl hB.kids_nodup
  nonempty := fun h0 => by rw [h0] at hkey; cases hkey
  ins := by rw [ins_mkRow_zero nd.keys (csb.map pr) nd.vals key val hB.kidsLen hB.valid.2, ← hB.idx, if_pos hkey]

/-- the key is new: it goes between the two halves of the split child -/
theorem NewBottom.absent (hB : Bottom key n0 x lv fd h st frs gb csb nd n2) (hkey : nd.keys[fd.idx]? ≠ some key)
    {cl : Bool × T × List Nat} {l r : HLink} (hcl : csb[fd.idx]? = some cl) (hsp : SplitOK n2 h st cl key (l, r)) :
    ∃ G cs', NewBottom key val n2 h st nd csb (insertAt nd.keys fd.idx key) (insertAt nd.vals fd.idx val)
      (nd.links.take fd.idx ++ l :: r :: nd.links.drop (fd.idx + 1)) G cs' := by
  obtain ⟨gs, xl, xr, hxl, hxr, hxlf, hxrf, hxlrow, hxrrow, hsfp⟩ := hsp
  refine ⟨max gb gs, csb.take fd.idx ++ xl :: xr :: csb.drop (fd.idx + 1), ?_, ?_, ?_, ?_, ?_⟩
  · refine seqO_map_append.mpr ⟨_, _, ?_, ?_, rfl⟩
    · exact seqO_map_congr (seqO_map_take hB.kids _) (fun _ _ _ hc => repLink_mono_le hc (Nat.le_max_left _ _))
    · refine seqO_map_cons.mpr ⟨xl, _, repLink_mono_le hxl (Nat.le_max_right _ _), ?_, rfl⟩
      refine seqO_map_cons.mpr ⟨xr, _, repLink_mono_le hxr (Nat.le_max_right _ _), ?_, rfl⟩
      exact seqO_map_congr (seqO_map_drop hB.kids _) (fun _ _ _ hc => repLink_mono_le hc (Nat.le_max_left _ _))
  · rw [length_splice _ _ _ _ (by rw [hB.valid.1]; exact Nat.lt_succ_of_le hB.idx_le), length_insertAt _ _ _ hB.idx_le,
      length_insertAt _ _ _ (by rw [hB.valid.2]; exact hB.idx_le), hB.valid.1, hB.valid.2]
    exact ⟨rfl, rfl⟩
  · have hnb := hB.kids_nodup
    rw [fps_split_at hcl, ← List.append_assoc] at hnb ⊢
    rw [fps_append, fps_cons, fps_cons, ← List.append_assoc xl.2.2, ← List.append_assoc]
    have hltk : ∀ y ∈ fps csb, y < n2 := fun y hy => hB.lt y (mem_plug_bottom hy)
    rw [fps_split_at hcl] at hltk
    exact FpExt.ctx _ _ hnb (fun y hy => hltk y (List.mem_append_left _ hy))
      (fun y hy => hltk y (List.mem_append_right _ (List.mem_append_right _ hy))) hsfp.ext
  · intro h0
    have := length_insertAt nd.keys fd.idx key hB.idx_le
    rw [h0] at this; cases this
  · rw [ins_mkRow_zero nd.keys (csb.map pr) nd.vals key val hB.kidsLen hB.valid.2, ← hB.idx, if_neg hkey,
      childAt_map_pr hcl]
    simp only [List.map_append, List.map_cons, List.map_take, List.map_drop, pr, hxlf, hxrf, hxlrow, hxrrow]

end

/-- the new bottom node holds an entry, so nothing is pruned -/
theorem NewBottom.commit {m : Nat} (upd : MNode → MNode) {s0 s1 : PS} {frs : List Fr} {fd : Found}
    {gb n2 key val lv G : Nat} {nd : MNode} {csb cs' : List (Bool × T × List Nat)} {K V : List Nat} {L : List HLink}
    {x : Bool × T × List Nat}
    (hB : Bottom key s0.heap.length x lv fd s1.heap s1.store frs gb csb nd n2)
    (hN : NewBottom key val n2 s1.heap s1.store nd csb K V L G cs')
    (hupd : ∀ nd' : MNode, nd'.keys = nd.keys → nd'.vals = nd.vals → nd'.links = nd.links → nd'.shared = false →
      (upd nd').shared = false ∧ (upd nd').keys = K ∧ (upd nd').vals = V ∧ (upd nd').links = L)
    (hg1 : Good s1) (hst01 : Step m s0 s1) (hown0 : FpOwned s0.heap m x.2.2) :
    Spec (Step m) (do
        let a' ← toMut m fd.node
        let nd' ← read a'
        write m a' (upd nd')
        savePath m (setLastNode fd.path a')) s1
      (fun root s' => CommitOK key val s0.heap.length x lv root s') := by
  refine (commit_spec upd hB hupd hN.kids hN.valid hN.fp hg1 hst01 hown0).conseq ?_
  rintro root s' _ _ ⟨a0, g', y, rfl, hy, hyrow, hyfp, hdirty⟩
  refine ⟨a0, g', y, rfl, hy, ?_, hyfp, hdirty⟩
  have hlen : (cs'.map pr).length = K.length + 1 := by
    rw [List.length_map, seqO_map_length hN.kids]; exact hN.valid.1
  rw [hB.ins, show (bottomRep nd fd.node csb).2.1 = mkRow (csb.map pr) nd.keys nd.vals from rfl, hN.ins, hyrow,
    (plugDel_eq_plugRow hB.ctx.fits (mk_mkRow_entries hlen hN.valid.2 hN.nonempty)
      (mkRow_ne_nil (fun h0 => by rw [h0] at hlen; cases hlen))).1]
  rfl

theorem insertCommit_spec (t : PTree) (p : InsPlan) (key val : Nat) (s0 s1 : PS) (x : Bool × T × List Nat)
    (height target : Nat) (hg1 : Good s1) (hst01 : Step t.id s0 s1) (hown0 : FpOwned s0.heap t.id x.2.2)
    (hplan : PlanOK key val s0.heap.length x height target p s1.heap s1.store) :
    Spec (Step t.id) (insertCommit t p key val) s1
      (fun root s2 => CommitOK key val s0.heap.length x (height - target) root s2) := by
  obtain ⟨frs, gb, csb, nd, n2, hB, hpres, habs⟩ := hplan
  unfold insertCommit
  by_cases hp : p.present = true
  · simp only [hp, if_true]
    exact NewBottom.commit _ hB (NewBottom.present hB (hpres hp).1)
      (fun nd' ek ev el es => ⟨es, ek, congrArg (List.set · p.found.idx val) ev, el⟩) hg1 hst01 hown0
  · simp only [hp, if_false]
    obtain ⟨hkey, cl, hcl, hsp⟩ := habs (Bool.eq_false_iff.mpr hp)
    obtain ⟨G, cs', hN⟩ := NewBottom.absent (val := val) hB hkey hcl hsp
    exact NewBottom.commit _ hB hN (fun nd' ek ev el es => ⟨es, congrArg (insertAt · p.found.idx key) ek,
      congrArg (insertAt · p.found.idx val) ev, by show _ ++ _ = _; rw [el]⟩) hg1 hst01 hown0

end Mast.Ptr
