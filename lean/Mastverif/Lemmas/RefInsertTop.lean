import Mastverif.Lemmas.RefInsCommit
import Mastverif.Lemmas.RefGrowAll
import Mastverif.Lemmas.RefNoErr
/-! `Insert` refines `Tree.insert`. -/
namespace Mast.Ptr
open Mast.Heap

theorem footprint_owned {m : Nat} {s s' : PS} {g' : Nat} {old : List Nat} {t' : PTree} {y : Bool × T × List Nat}
    (hst : Step m s s') (hown : FpOwned s.heap m old) (hfp : FpExt s.heap.length old y.2.2)
    (hy : repLink s'.heap s'.store g' t'.root = some y) : FpOwned s'.heap m (footprint s' g' t') := by
  rw [footprint_eq hy]
  exact fpOwned_of_step hst hown hfp (repLink_fp_unshared _ _ _ hy)

/-- the side condition under which the fuel of the functional grow loop is enough -/
def Healthy (t : PTree) : Prop := 2 ≤ t.bf ∧ 1 ≤ t.growAfter

theorem tree_insert_same {layer : Nat → Nat} {m : Tree} {k v : Nat} (h : m.lookup layer k = some v) :
    Tree.insert layer m k v = .ok m := by
  unfold Tree.insert; rw [h]; simp

theorem tree_insert_replace {layer : Nat → Nat} {m : Tree} {k v v' : Nat} {r : T} (h : m.lookup layer k = some v')
    (hne : v' ≠ v) (hi : T.ins k v (m.levels layer k) m.root = some r) :
    Tree.insert layer m k v = .ok { m with root := r, rootP := false, dirty := true } := by
  unfold Tree.insert; rw [h]; simp [hne, hi]

theorem tree_insert_new {layer : Nat → Nat} {m : Tree} {k v : Nat} {r : T} (h : m.lookup layer k = none)
    (hi : T.ins k v (m.levels layer k) m.root = some r) :
    Tree.insert layer m k v =
      .ok { Tree.growLoop layer (m.size + 1) { m with root := r, rootP := false, dirty := true } with size := m.size + 1 } := by
  unfold Tree.insert; rw [h]; simp [hi]

/-- what `Insert` returns once the entry is installed in `t1` and state `s2`: a replaced value, or the run of the
    grow loop behind the result -/
inductive GrowRun (E : Env) (fuel : Nat) (present : Bool) (t1 : PTree) (s2 : PS) : PS × PTree × Outcome → Prop
  | replaced : present = true → GrowRun E fuel present t1 s2 (s2, t1, .ok)
  | growErr {s3 : PS} : present ≠ true → growAll E fuel t1 s2 = .err s3 → GrowRun E fuel present t1 s2 (s3, t1, .err)
  | grown {t2 : PTree} {s3 : PS} : present ≠ true → growAll E fuel t1 s2 = .ok t2 s3 →
      GrowRun E fuel present t1 s2 (s3, { t2 with size := t2.size + 1 }, .ok)

/-- the ways `Insert` ends: the runs of `insertPlan`, `insertCommit` (which cannot fail) and `growAll` behind each
    result -/
inductive InsertRun (E : Env) (fuel : Nat) (s : PS) (t : PTree) (k v : Nat) : PS × PTree × Outcome → Prop
  | other {s0 : PS} {t0 : PTree} {o : Outcome} : o ≠ .ok → o ≠ .err → InsertRun E fuel s t k v (s0, t0, o)
  | planErr {s1 : PS} : insertPlan E t fuel k v s = .err s1 → InsertRun E fuel s t k v (s1, t, .err)
  | same {p : InsPlan} {s1 : PS} : insertPlan E t fuel k v s = .ok p s1 → (p.present && p.same) = true →
      InsertRun E fuel s t k v (s1, t, .ok)
  | installed {p : InsPlan} {s1 s2 : PS} {root : HLink} {r : PS × PTree × Outcome} :
      insertPlan E t fuel k v s = .ok p s1 → (p.present && p.same) ≠ true → insertCommit t p k v s1 = .ok root s2 →
      GrowRun E fuel p.present { t with root := root } s2 r → InsertRun E fuel s t k v r

theorem insert_run (E : Env) (fuel : Nat) (s : PS) (t : PTree) (k v : Nat) :
    InsertRun E fuel s t k v (insert E fuel s t k v) := by
  unfold insert
  cases hpl : insertPlan E t fuel k v s with
  | err s1 => exact .planErr hpl
  | panic | stuck | oof => exact .other nofun nofun
  | ok p s1 =>
    dsimp only
    by_cases hps : (p.present && p.same) = true
    · rw [if_pos hps]; exact .same hpl hps
    · rw [if_neg hps]
      cases hcm : insertCommit t p k v s1 with
      | err s2 => exact absurd hcm (NoErrR.insertCommit t p k v s1 s2)
      | panic | stuck | oof => exact .other nofun nofun
      | ok root s2 =>
        dsimp only
        by_cases hp : p.present = true
        · rw [if_pos hp]; exact .installed hpl hps hcm (.replaced hp)
        · rw [if_neg hp]
          unfold afterCommit
          cases hgr : growAll E fuel { t with root := root } s2 with
          | ok t2 s3 => exact .installed hpl hps hcm (.grown hp hgr)
          | err s3 => exact .installed hpl hps hcm (.growErr hp hgr)
          | panic | stuck | oof => exact .other nofun nofun

/-- With an error either the plan failed (a load or the layer callback) and the tree is untouched, or the entry is
    installed — root replaced, `size` not yet incremented, no growth — and the grow loop failed. -/
theorem insert_outcome (E : Env) (fuel g : Nat) (s s' : PS) (t t' : PTree) (k v : Nat) (A : Tree) (o : Outcome)
    (hg : Good s) (hown : FpOwned s.heap t.id (footprint s g t))
    (hA : repTree s g t = some A) (h : insert E fuel s t k v = (s', t', o)) :
    match o with
    | .ok => Healthy t →
      ∃ g' A', repTree s' g' t' = some A' ∧ Tree.insert E.layer A k v = .ok A' ∧ Good s' ∧
        FpOwned s'.heap t'.id (footprint s' g' t') ∧ Healthy t' ∧ t'.id = t.id ∧ Step t.id s s'
    | .err => Good s' ∧ Step t.id s s' ∧ t'.id = t.id ∧
      ((t' = t ∧ repTree s' g t = some A ∧ FpOwned s'.heap t.id (footprint s' g t)) ∨
       (∃ g' r, Tree.lookup E.layer A k = none ∧ T.ins k v (A.levels E.layer k) A.root = some r ∧
          repTree s' g' t' = some { A with root := r, rootP := false, dirty := true } ∧
          FpOwned s'.heap t'.id (footprint s' g' t')))
    | _ => True := by
  obtain ⟨x, hx, hxnd, hAeq⟩ := repTree_eq_some.mp hA
  rw [footprint_eq hx] at hown
  have hspec := insertPlan_spec E t fuel k v s hg hx hxnd
  have hlook : Tree.lookup E.layer A k = T.get k (t.height - min (E.layer k) t.height) (T.unmk x.2.1) := by
    rw [hAeq]; rfl
  have hlev : Tree.levels E.layer A k = t.height - min (E.layer k) t.height := by rw [hAeq]; rfl
  have hAroot : A.root = T.unmk x.2.1 := by rw [hAeq]; rfl
  have hrun := insert_run E fuel s t k v
  rw [h] at hrun
  cases hrun with
  | other h1 h2 =>
    cases o with
    | ok => exact absurd rfl h1
    | err => exact absurd rfl h2
    | panic | stuck | oof => trivial
  | planErr hpl =>
    have hgr1 := hspec.err hpl
    exact ⟨hgr1.good hg, hgr1.toStep, rfl, Or.inl ⟨rfl, hgr1.repTree hA,
      footprint_owned hgr1.toStep hown (FpExt.refl hxnd) (hgr1.rep hx)⟩⟩
  | same hpl hps =>
    obtain ⟨hgr1, hplan⟩ := hspec.ok hpl
    intro hh
    rw [Bool.and_eq_true] at hps
    obtain ⟨v', hv', hsame⟩ := (planOK_lookup hplan).1 hps.1
    obtain rfl : v' = v := hsame.mp hps.2
    exact ⟨g, A, hgr1.repTree hA, tree_insert_same (hlook.trans hv'), hgr1.good hg,
      footprint_owned hgr1.toStep hown (FpExt.refl hxnd) (hgr1.rep hx), hh, rfl, hgr1.toStep⟩
  | @installed p s1 s2 root r hpl hps hcm hgrow =>
    obtain ⟨hgr1, hplan⟩ := hspec.ok hpl
    have hg1 := hgr1.good hg
    obtain ⟨hlk1, hlk2⟩ := planOK_lookup hplan
    obtain ⟨hst2, a0, g1, y, rfl, hy, hins, hfp, hdirty⟩ :=
      (insertCommit_spec t p k v s s1 x t.height (min (E.layer k) t.height) hg1 hgr1.toStep hown hplan).ok hcm
    have hst02 : Step t.id s s2 := hgr1.toStep.trans hst2
    have hg2 := hst2.good hg1
    have hyf : y.1 = false := repLink_flag_ptr hy
    have hyrow : T.unmk y.2.1 = y.2.1 := unmk_of_ne_nil (repLink_row_ne_nil hy HLink.noConfusion)
    have hinsA : T.ins k v (Tree.levels E.layer A k) A.root = some y.2.1 := by rw [hlev, hAroot]; exact hins
    have hM : treeRec { t with root := .ptr a0 } y true = { A with root := y.2.1, rootP := false, dirty := true } := by
      rw [hAeq]; simp only [treeRec, hyrow, hyf]
    have hrep2 : repTree s2 g1 { t with root := .ptr a0 } = some { A with root := y.2.1, rootP := false, dirty := true } :=
      repTree_eq_some.mpr ⟨y, hy, hfp.1, by rw [hdirty, hM]⟩
    have hown2 : FpOwned s2.heap t.id (footprint s2 g1 { t with root := .ptr a0 }) :=
      footprint_owned (t' := { t with root := .ptr a0 }) hst02 hown hfp hy
    cases hgrow with
    | replaced hp =>
      intro hh
      obtain ⟨v', hv', hsame⟩ := hlk1 hp
      have hne : v' ≠ v := fun hvv => hps (Bool.and_eq_true _ _ ▸ ⟨hp, hsame.mpr hvv⟩)
      exact ⟨g1, _, hrep2, tree_insert_replace (hlook.trans hv') hne hinsA, hg2, hown2, hh, rfl, hst02⟩
    | growErr hp hgr =>
      have hnone : Tree.lookup E.layer A k = none := hlook.trans (hlk2 (Bool.eq_false_iff.mpr hp))
      have hgr3 := (growAll_refines E fuel { t with root := .ptr a0 } s2 g1 a0 y hg2 rfl hy hfp.1 hdirty).err hgr
      have hst03 : Step t.id s s' := hst02.trans hgr3.toStep
      exact ⟨hgr3.good hg2, hst03, rfl, Or.inr ⟨g1, y.2.1, hnone, hinsA, hgr3.repTree hrep2,
        footprint_owned (t' := { t with root := .ptr a0 }) hst03 hown hfp (hgr3.rep hy)⟩⟩
    | @grown t2 _ hp hgr =>
      have hnone : Tree.lookup E.layer A k = none := hlook.trans (hlk2 (Bool.eq_false_iff.mpr hp))
      intro hh
      obtain ⟨hgr3, a3, g3, y3, hG⟩ :=
        (growAll_refines E fuel { t with root := .ptr a0 } s2 g1 a0 y hg2 rfl hy hfp.1 hdirty).ok hgr
      have hst03 : Step t.id s s' := hst02.trans hgr3.toStep
      have hfp03 : FpExt s.heap.length x.2.2 y3.2.2 := hfp.trans hG.fp hst02.len
      have hy3' : repLink s'.heap s'.store g3 ({ t2 with size := t2.size + 1 } : PTree).root = some y3 :=
        hG.root ▸ hG.rep
      have hfuel := growLoop_fuel E.layer fuel (treeRec { t with root := .ptr a0 } y true) hh.1 hh.2
        (hG.loop ▸ hG.stopped)
      refine ⟨g3, _, repTree_eq_some.mpr ⟨y3, hy3', hfp03.1, rfl⟩, ?_, hgr3.good hg2, ?_,
        ⟨hG.bf ▸ hh.1, hG.growAfter (Nat.le_of_succ_le hh.1) hh.2⟩, hG.id, hst03⟩
      · rw [tree_insert_new hnone hinsA, ← hM]
        have hsz : (treeRec { t with root := .ptr a0 } y true).size = A.size := by rw [hAeq]; rfl
        rw [← hsz, hfuel, ← hG.loop]
        have hd3' : rootDirty s'.heap ({ t2 with size := t2.size + 1 } : PTree).root = true := hG.root ▸ hG.dirty
        rw [hd3']
        simp only [treeRec, hG.size]
      · show FpOwned s'.heap t2.id _
        rw [hG.id]
        exact footprint_owned hst03 hown hfp03 hy3'

theorem insert_refines (E : Env) (fuel g : Nat) (s s' : PS) (t t' : PTree) (k v : Nat) (A : Tree)
    (hg : Good s) (hown : FpOwned s.heap t.id (footprint s g t)) (hh : Healthy t)
    (hA : repTree s g t = some A) (h : insert E fuel s t k v = (s', t', .ok)) :
    ∃ g' A', repTree s' g' t' = some A' ∧ Tree.insert E.layer A k v = .ok A' ∧ Good s' ∧
      FpOwned s'.heap t'.id (footprint s' g' t') ∧ Healthy t' ∧ t'.id = t.id ∧ Step t.id s s' :=
  insert_outcome E fuel g s s' t t' k v A .ok hg hown hA h hh

theorem insert_step (E : Env) (fuel g : Nat) (s s' : PS) (t t' : PTree) (k v : Nat) (A : Tree)
    (hg : Good s) (hown : FpOwned s.heap t.id (footprint s g t)) (hh : Healthy t)
    (hA : repTree s g t = some A) (h : insert E fuel s t k v = (s', t', .ok)) : Step t.id s s' := by
  obtain ⟨_, _, _, _, _, _, _, _, hst⟩ := insert_refines E fuel g s s' t t' k v A hg hown hh hA h
  exact hst

theorem insert_err_refines (E : Env) (fuel g : Nat) (s s' : PS) (t t' : PTree) (k v : Nat) (A : Tree)
    (hg : Good s) (hown : FpOwned s.heap t.id (footprint s g t))
    (hA : repTree s g t = some A) (h : insert E fuel s t k v = (s', t', .err)) :
    Good s' ∧ Step t.id s s' ∧ t'.id = t.id ∧
    ((t' = t ∧ repTree s' g t = some A ∧ FpOwned s'.heap t.id (footprint s' g t)) ∨
     (∃ g' r, Tree.lookup E.layer A k = none ∧ T.ins k v (A.levels E.layer k) A.root = some r ∧
        repTree s' g' t' = some { A with root := r, rootP := false, dirty := true } ∧
        FpOwned s'.heap t'.id (footprint s' g' t'))) :=
  insert_outcome E fuel g s s' t t' k v A .err hg hown hA h

end Mast.Ptr
