import Mastverif.Lemmas.RefLoad
/-! `Iter` only loads: it is an allocation-only step, so every tree denotes what it denoted. -/
namespace Mast.Ptr
open Mast.Heap

theorem iterLinks_spec {m : Nat} (g : HLink → M Unit)
    (hgs : ∀ l s, Good s → Spec (Grow m) (g l) s (fun _ _ => True)) :
    ∀ (ls : List HLink) (s : PS), Good s → Spec (Grow m) (iterLinks g ls) s (fun _ _ => True) := by
  intro ls
  induction ls with
  | nil => intro s _; unfold iterLinks; exact Spec.pure trivial
  | cons l ls ih =>
    intro s hg
    cases l with
    | nil => unfold iterLinks; exact ih s hg
    | ptr c =>
      unfold iterLinks
      refine Spec.bind (hgs (.ptr c) s hg) ?_
      intro _ s1 _ hgr _
      exact ih s1 (hgr.good hg)
    | ref n =>
      unfold iterLinks
      refine Spec.bind (hgs (.ref n) s hg) ?_
      intro _ s1 _ hgr _
      exact ih s1 (hgr.good hg)

theorem iterAll_spec {m : Nat} (E : Env) : ∀ (f : Nat) (l : HLink) (s : PS), Good s →
    Spec (Grow m) (iterAll E f l) s (fun _ _ => True) := by
  intro f
  induction f with
  | zero => intro l s _; exact Spec.oof
  | succ f ih =>
    intro l s hg
    unfold iterAll
    refine Spec.bind (load_spec (m := m) E l s hg) ?_
    intro a s1 _ hgr1 _
    refine Spec.bind (read_spec a s1) ?_
    rintro nd s2 _ _ ⟨rfl, _⟩
    exact iterLinks_spec _ ih nd.links s1 (hgr1.good hg)

theorem iterAll_trees (E : Env) (fuel : Nat) (l : HLink) (s s' : PS) (hg : Good s)
    (h : (∃ r, iterAll E fuel l s = .ok r s') ∨ iterAll E fuel l s = .err s')
    {g : Nat} {t : PTree} {A : Tree} (hA : repTree s g t = some A) (hown : FpOwned s.heap t.id (footprint s g t)) :
    repTree s' g t = some A ∧ FpOwned s'.heap t.id (footprint s' g t) ∧ footprint s' g t = footprint s g t := by
  -- `Iter` allocates decoded objects only; they carry the owner tag 0 (nobody), so any tag will do for `Grow`
  have hs := iterAll_spec (m := 0) E fuel l s hg
  rcases h with ⟨r, h⟩ | h
  · exact (hs.ok h).1.tree hA hown
  · exact (hs.err h).tree hA hown

end Mast.Ptr
