import Mastverif.Model.PtrIter
import Mastverif.Lemmas.RefIter
import Mastverif.Lemmas.RefCursorRows
/-!
# `Iter` at the level of node objects yields the in-order entries of the tree the link denotes

`iterEntries_spec`: from a `Good` state in which the link denotes the row `r` (`repLink`), the
walk of `node.iter` over the objects — loading every child through the store / cache, with any
pattern of failing loads — only allocates, and when it does not fail hands to the callback exactly
`r.toList`, in that order.  `iterEntries_erase`: on the state the walk is the walk `iterAll` of
Model/Ptr.lean (the one `Sys.apply` runs).
-/
namespace Mast.Ptr
open Mast.Heap

theorem iterEntriesLinks_spec {m : Nat} (G : HLink → M (List (Nat × Nat))) (f : Nat)
    (hG : ∀ l s, Good s → ∀ x, repLink s.heap s.store f l = some x →
      Spec (Grow m) (G l) s (fun es _ => es = x.2.1.toList)) :
    ∀ (ls : List HLink) (ks vs : List Nat) (cs : List (Bool × T × List Nat)) (s : PS), Good s →
      ls.length = ks.length + 1 → vs.length = ks.length →
      seqO (ls.map (repLink s.heap s.store f)) = some cs →
      Spec (Grow m) (iterEntriesLinks G ls ks vs) s
        (fun es _ => es = (mkRow (cs.map fun c => (c.1, c.2.1)) ks vs).toList) := by
  -- the child (or nothing, for a nil link)
  have hsub : ∀ l s c, Good s → repLink s.heap s.store f l = some c →
      Spec (Grow m) (match l with | .nil => (pure [] : M (List (Nat × Nat))) | l => G l) s
        (fun es _ => es = c.2.1.toList) := by
    intro l s c hg hc
    cases l with
    | nil =>
      rw [repLink_nil] at hc; injection hc with hc; subst hc
      exact Spec.pure rfl
    | ptr a => exact hG (.ptr a) s hg c hc
    | ref n => exact hG (.ref n) s hg c hc
  intro ls ks vs cs s hg hl hv
  refine row_induction (motive := fun ls ks vs => ∀ cs s, Good s →
    seqO (ls.map (repLink s.heap s.store f)) = some cs →
    Spec (Grow m) (iterEntriesLinks G ls ks vs) s
      (fun es _ => es = (mkRow (cs.map fun c => (c.1, c.2.1)) ks vs).toList)) ?_ ?_ ks ls vs hl hv cs s hg
  · -- the last link: no entry follows
    intro l cs s hg hseq
    obtain ⟨c, cs', hc, hcs', rfl⟩ := seqO_map_cons.mp hseq
    cases hcs'
    unfold iterEntriesLinks
    refine Spec.bind (hsub l s c hg hc) ?_
    intro sub s1 _ _ hsubeq
    refine Spec.pure (a := sub ++ [] ++ []) ?_
    rw [hsubeq, List.append_nil, List.append_nil]
    rfl
  · intro l l2 ls k ks v vs ih cs s hg hseq
    obtain ⟨c, cs', hc, hcs', rfl⟩ := seqO_map_cons.mp hseq
    unfold iterEntriesLinks
    refine Spec.bind (hsub l s c hg hc) ?_
    intro sub s1 _ hgr1 hsubeq
    refine Spec.bind (Spec.pure (Q := fun r s' => r = [(k, v)] ∧ s1 = s') ⟨rfl, rfl⟩) ?_
    rintro here _ _ _ ⟨rfl, rfl⟩
    have hcs1 := hgr1.kids hcs' (Nat.le_refl f)
    refine Spec.bind (ih cs' s1 (hgr1.good hg) hcs1) ?_
    intro rest s3 _ _ hrest
    refine Spec.pure ?_
    obtain ⟨c2, cs2, _, _, rfl⟩ := seqO_map_cons.mp hcs1
    rw [hsubeq, hrest]
    simp only [List.map_cons, mkRow_cons, T.toList, List.append_assoc, List.cons_append, List.nil_append]

theorem iterEntries_spec {m : Nat} (E : Env) : ∀ (f g : Nat) (l : HLink) (s : PS), Good s →
    ∀ x, repLink s.heap s.store g l = some x →
    Spec (Grow m) (iterEntries E f l) s (fun es _ => es = x.2.1.toList) := by
  intro f
  induction f with
  | zero => intro g l s _ x _; exact Spec.oof
  | succ f ih =>
    intro g l s hg x hx
    unfold iterEntries
    refine Spec.bind (load_spec (m := m) E l s hg) ?_
    intro a s1 _ hgr1 hq
    have hg1 := hgr1.good hg
    have hrep := hq.2.2 g x hx
    obtain ⟨g', nd, cs, rfl, hnd, hval, hseq, hxeq⟩ := repLink_ptr_some.mp hrep
    refine Spec.bind (read_spec a s1) ?_
    rintro nd' s2 _ _ ⟨rfl, hnd'⟩
    rw [hnd] at hnd'; injection hnd' with hnd'; subst hnd'
    rw [show x.2.1 = mkRow (cs.map fun c => (c.1, c.2.1)) nd.keys nd.vals from congrArg (fun y => y.2.1) hxeq]
    exact iterEntriesLinks_spec (m := m) _ g' (fun l s hg x hx => ih g' l s hg x hx)
      nd.links nd.keys nd.vals cs s1 hg1 hval.1 hval.2 hseq

/-! ## on the state, `iterEntries` is `iterAll` -/

/-- same outcome and end state, the value forgotten (a panic of the left side is not constrained:
    `iterEntries` also models the index panic of `node.Value[i]` on a malformed node) -/
def Erases {α : Type} (r : Res α) (r' : Res Unit) : Prop :=
  match r with
  | .ok _ s' => r' = .ok () s'
  | .err s' => r' = .err s'
  | .oof => r' = .oof
  | .stuck => r' = .stuck
  | .panic => True

theorem erases_bind {α β : Type} {x : M α} {x' : M Unit} {f : α → M β} {f' : Unit → M Unit} {s : PS}
    (hx : Erases (x s) (x' s)) (hf : ∀ a s1, Erases (f a s1) (f' () s1)) :
    Erases ((x >>= f) s) ((x' >>= f') s) := by
  show Erases (M.bind x f s) (M.bind x' f' s)
  unfold M.bind
  generalize x' s = r' at hx
  cases hxs : x s with
  | ok a s1 => rw [hxs] at hx; obtain rfl : r' = .ok () s1 := hx; exact hf a s1
  | err s1 => rw [hxs] at hx; obtain rfl : r' = .err s1 := hx; rfl
  | oof => rw [hxs] at hx; obtain rfl : r' = .oof := hx; rfl
  | stuck => rw [hxs] at hx; obtain rfl : r' = .stuck := hx; rfl
  | panic => trivial

theorem erases_bind_same {α β : Type} {x : M α} {f : α → M β} {f' : α → M Unit} {s : PS}
    (hf : ∀ a s1, Erases (f a s1) (f' a s1)) :
    Erases ((x >>= f) s) ((x >>= f') s) := by
  show Erases (M.bind x f s) (M.bind x f' s)
  unfold M.bind
  cases x s with
  | ok a s1 => exact hf a s1
  | err s1 => rfl
  | oof => rfl
  | stuck => rfl
  | panic => trivial

theorem erases_map {α β : Type} {x : M α} {g : α → β} {s : PS} {r' : Res Unit} (h : Erases (x s) r') :
    Erases ((x >>= fun a => pure (g a)) s) r' := by
  show Erases (M.bind x _ s) r'
  unfold M.bind
  unfold Erases at h
  cases hx : x s with
  | ok a s1 => rw [hx] at h; exact h
  | err s1 => rw [hx] at h; exact h
  | oof => rw [hx] at h; exact h
  | stuck => rw [hx] at h; exact h
  | panic => trivial

theorem erases_entryAt {β : Type} (ks vs : List Nat) {f : List (Nat × Nat) → M β} {s : PS} {r' : Res Unit}
    (h : ∀ here, Erases (f here s) r') : Erases ((entryAt ks vs >>= f) s) r' := by
  cases ks with
  | nil => exact h []
  | cons k ks =>
    cases vs with
    | nil => trivial
    | cons v vs => exact h [(k, v)]

theorem iterEntriesLinks_erase (G : HLink → M (List (Nat × Nat))) (G' : HLink → M Unit)
    (hG : ∀ l s, Erases (G l s) (G' l s)) :
    ∀ (ls : List HLink) (ks vs : List Nat) (s : PS),
      Erases (iterEntriesLinks G ls ks vs s) (iterLinks G' ls s) := by
  intro ls
  induction ls with
  | nil => intro ks vs s; rfl
  | cons l ls ih =>
    intro ks vs s
    have htail : ∀ (sub : List (Nat × Nat)) (s1 : PS),
        Erases ((do
          let here ← entryAt ks vs
          let rest ← iterEntriesLinks G ls ks.tail vs.tail
          pure (sub ++ here ++ rest) : M (List (Nat × Nat))) s1) (iterLinks G' ls s1) :=
      fun sub s1 => erases_entryAt ks vs fun here => erases_map (ih ks.tail vs.tail s1)
    cases l with
    | nil =>
      unfold iterEntriesLinks iterLinks
      exact htail [] s
    | ptr a =>
      unfold iterEntriesLinks iterLinks
      exact erases_bind (hG (.ptr a) s) htail
    | ref n =>
      unfold iterEntriesLinks iterLinks
      exact erases_bind (hG (.ref n) s) htail

theorem iterEntries_erase (E : Env) : ∀ (f : Nat) (l : HLink) (s : PS),
    Erases (iterEntries E f l s) (iterAll E f l s) := by
  intro f
  induction f with
  | zero => intro l s; rfl
  | succ f ih =>
    intro l s
    unfold iterEntries iterAll
    refine erases_bind_same (fun a s1 => ?_)
    refine erases_bind_same (fun nd s2 => ?_)
    exact iterEntriesLinks_erase _ _ (fun c s => ih c s) nd.links nd.keys nd.vals s2

end Mast.Ptr
