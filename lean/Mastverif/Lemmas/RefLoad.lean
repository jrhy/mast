import Mastverif.Lemmas.RefFlushRows
import Mastverif.Lemmas.RefSys
/-!
`LoadMast` refines "the tree the name denotes" (resp. the empty tree), plus general facts used by the
clone / iter / flush / history files: shared objects have an empty footprint; allocation-only steps keep footprints
and their ownership; what a successful `loadRef` did.
-/
namespace Mast.Ptr
open Mast.Heap

theorem repLink_shared_fp {h : Heap} {st : List SNode} (hsf : SharedFlat h) (hf : StoreFlat st) {f a : Nat} {nd : MNode}
    {x : Bool × T × List Nat} (hnd : h[a]? = some nd) (hs : nd.shared = true)
    (hx : repLink h st f (.ptr a) = some x) : x.2.2 = [] := by
  obtain ⟨f', nd', cs, _, hnd', _, h1, rfl⟩ := repLink_ptr_some.mp hx
  cases hnd.symm.trans hnd'
  have : ownFp nd a = [] := by rw [ownFp, hs]; rfl
  rw [nodeRep_fp, this, List.nil_append]
  apply fps_eq_nil
  intro c hc
  obtain ⟨l, hl, hlc⟩ := seqO_map_mem_inv h1 hc
  exact repLink_flat_fp hf _ _ _ (hsf a nd hnd hs l hl) hlc

theorem Grow.fp_eq {m : Nat} {s s' : PS} (gr : Grow m s s') {g : Nat} {t : PTree} {x : Bool × T × List Nat}
    (hx : repLink s.heap s.store g t.root = some x) : footprint s' g t = footprint s g t := by
  rw [footprint_eq hx, footprint_eq (gr.rep hx)]

theorem FpOwned.allocOnly {h h' : Heap} {m : Nat} {fp : List Nat} (ho : FpOwned h m fp) (ha : AllocOnly h h') :
    FpOwned h' m fp := by
  intro y hy
  obtain ⟨nd, hnd, hown⟩ := ho y hy
  exact ⟨nd, ha y nd hnd, hown⟩

theorem Grow.tree {m : Nat} {s s' : PS} (gr : Grow m s s') {g : Nat} {t : PTree} {A : Tree}
    (hA : Ptr.repTree s g t = some A) (hown : FpOwned s.heap t.id (footprint s g t)) :
    Ptr.repTree s' g t = some A ∧ FpOwned s'.heap t.id (footprint s' g t) ∧ footprint s' g t = footprint s g t := by
  obtain ⟨x, hx, _, _⟩ := repTree_eq_some.mp hA
  refine ⟨gr.repTree hA, ?_, gr.fp_eq hx⟩
  rw [gr.fp_eq hx]; exact hown.allocOnly gr.alloc

theorem Grow.trees {m : Nat} {s s' : PS} (gr : Grow m s s') (g2 : Nat) (t2 : PTree) (B : Tree)
    (hB : Ptr.repTree s g2 t2 = some B) (hown : FpOwned s.heap t2.id (footprint s g2 t2)) :
    Ptr.repTree s' g2 t2 = some B ∧ FpOwned s'.heap t2.id (footprint s' g2 t2) :=
  ⟨(gr.tree hB hown).1, (gr.tree hB hown).2.1⟩

/-- the record `LoadMast` builds around a root row -/
def loadedTree (p : Bool) (r : T) (size height bf : Nat) : Tree :=
  { root := r, rootP := p, dirty := false, size := size, height := height, bf := bf,
    growAfter := bf ^ height * bf, shrinkBelow := bf ^ height }

theorem loadedTree_empty (bf : Nat) : loadedTree false (T.last false T.nil) 0 0 bf = Tree.empty bf := by
  simp [loadedTree, Tree.empty]

theorem loadRef_ok_cases {E : Env} {n a : Nat} {s s1 : PS} (h : loadRef E n s = .ok a s1) :
    ((n, a) ∈ s.cache ∧ s1 = s) ∨
    (∃ sn, storeAt s.store n = some sn ∧ s1.heap = s.heap ++ [decode sn n] ∧ a = s.heap.length ∧ s1.store = s.store) := by
  unfold loadRef at h
  dsimp only at h
  split at h
  · next a' hc =>
    injection h with h1 h2
    subst h1; subst h2
    refine Or.inl ⟨?_, rfl⟩
    split at hc
    · exact lookupCache_mem hc
    · cases hc
  · split at h
    · cases h
    · split at h
      · cases h
      · next sn hsn =>
        split at h
        · cases h
        · next h' hal =>
          injection h with h1 h2
          subst h1; subst h2
          exact Or.inr ⟨sn, hsn, applyAct_alloc_some hal, rfl, rfl⟩

theorem loadRef_ok_store {E : Env} {n a : Nat} {s s' : PS} (hg : Good s) (h : loadRef E n s = .ok a s') :
    ∃ sn, storeAt s.store n = some sn := by
  rcases loadRef_ok_cases h with ⟨hmem, _⟩ | ⟨sn, hsn, _⟩
  · obtain ⟨_, sn, _, _, h3, _⟩ := hg.cache n a hmem
    exact ⟨sn, h3⟩
  · exact ⟨sn, hsn⟩

/-- a decoded name is shared, hence clean -/
theorem load_root_dirty {E : Env} {l : HLink} {s s1 : PS} {a : Nat} {nd : MNode} (hg : Good s)
    (h : load E l s = .ok a s1) (hnd : s1.heap[a]? = some nd) : nd.dirty = rootDirty s.heap l := by
  cases l with
  | nil => cases h
  | ptr b =>
    cases h
    simp only [rootDirty, hnd, Option.map_some, Option.getD_some]
  | ref n =>
    -- a decoded object has owner tag 0 (nobody), so `loadRef` is a `Grow m` for every `m`
    obtain ⟨hgr, ⟨nd', hnd', hs'⟩, _⟩ := (loadRef_spec (m := 0) E n s hg).ok h
    cases Option.some.inj (hnd.symm.trans hnd')
    cases hd : nd.dirty with
    | false => rfl
    | true => rw [(hgr.good hg).du a nd hnd hd] at hs'; cases hs'

def LoadMastOK (id link size height bf : Nat) (s : PS) (t : PTree) (s' : PS) : Prop :=
  t.id = id ∧ t.size = size ∧ t.height = height ∧ t.bf = bf ∧ t.growAfter = bf ^ height * bf ∧
  t.shrinkBelow = bf ^ height ∧
  (link = 0 → t.root = .ptr s.heap.length ∧ s' = { s with heap := s.heap ++ [emptyNode id] }) ∧
  (link ≠ 0 → t.root = .ref link ∧ ∃ sn, storeAt s.store link = some sn)

theorem loadMast_spec (E : Env) (id link size height bf : Nat) (s : PS) (hg : Good s) :
    Spec (Grow id) (loadMast E id link size height bf) s (fun t s' => LoadMastOK id link size height bf s t s') := by
  unfold loadMast
  by_cases hl : link = 0
  · rw [if_pos hl]
    refine Spec.bind (Q1 := fun r s' => r = .ptr s.heap.length ∧ s' = { s with heap := s.heap ++ [emptyNode id] }) ?_ ?_
    · refine Spec.bind (alloc_spec (m := id) (emptyNode id) s (Or.inr rfl) (fun h => by simp [emptyNode] at h)) ?_
      rintro a s1 _ _ ⟨rfl, rfl⟩
      exact Spec.pure ⟨rfl, rfl⟩
    · rintro r s1 _ _ ⟨rfl, rfl⟩
      exact Spec.pure ⟨rfl, rfl, rfl, rfl, rfl, rfl, fun _ => ⟨rfl, rfl⟩, fun h => absurd hl h⟩
  · rw [if_neg hl]
    refine Spec.bind (Q1 := fun r _ => r = .ref link ∧ ∃ sn, storeAt s.store link = some sn) ?_ ?_
    · refine Spec.bind ((loadRef_spec (m := id) E link s hg).conseq (Q' := fun _ _ => ∃ sn, storeAt s.store link = some sn)
        (fun a s' hok _ _ => loadRef_ok_store hg hok)) ?_
      rintro a s1 _ _ hsn
      exact Spec.pure ⟨rfl, hsn⟩
    · rintro r s1 _ _ ⟨rfl, hsn⟩
      exact Spec.pure ⟨rfl, rfl, rfl, rfl, rfl, rfl, fun h => absurd h hl, fun _ => ⟨rfl, hsn⟩⟩

theorem healthy_loaded {t : PTree} {bf height : Nat} (hbf : t.bf = bf) (hga : t.growAfter = bf ^ height * bf)
    (h2 : 2 ≤ bf) : Healthy t := by
  have h0 : 0 < bf := Nat.lt_of_lt_of_le Nat.zero_lt_two h2
  refine ⟨hbf ▸ h2, ?_⟩
  rw [hga]
  exact Nat.mul_pos (Nat.pow_pos h0) h0

/-- for `link = 0` fuel 1 suffices: the fresh top node has one nil link -/
theorem loadMast_refines (E : Env) (id link size height bf : Nat) (s s' : PS) (t : PTree) (hg : Good s)
    (h : loadMast E id link size height bf s = .ok t s') :
    Grow id s s' ∧ Good s' ∧ t.id = id ∧ (2 ≤ bf → Healthy t) ∧
    (t.bf = bf ∧ t.shrinkBelow = bf ^ height ∧ t.growAfter = bf ^ height * bf) ∧
    (link = 0 → repTree s' 1 t = some (loadedTree false (T.last false T.nil) size height bf) ∧
        footprint s' 1 t = [s.heap.length] ∧ FpOwned s'.heap id (footprint s' 1 t)) ∧
    (link ≠ 0 → (∃ sn, storeAt s.store link = some sn) ∧
        ∀ g x, repLink s.heap s.store g (.ref link) = some x →
          repTree s' g t = some (loadedTree true x.2.1 size height bf) ∧ footprint s' g t = []) := by
  obtain ⟨hgr, hid, hsz, hht, hbf, hga, hsb, h0, h1⟩ := (loadMast_spec E id link size height bf s hg).ok h
  refine ⟨hgr, hgr.good hg, hid, fun h2 => healthy_loaded hbf hga h2, ⟨hbf, hsb, hga⟩, ?_, ?_⟩
  · intro hl
    obtain ⟨hroot, rfl⟩ := h0 hl
    have hself : (s.heap ++ [emptyNode id])[s.heap.length]? = some (emptyNode id) := getElem?_append_self _ _
    have hx : repLink (s.heap ++ [emptyNode id]) s.store 1 t.root =
        some (false, T.last false T.nil, [s.heap.length]) := by
      rw [hroot]
      refine repLink_ptr_some.mpr ⟨0, emptyNode id, [(false, T.nil, [])], rfl, hself, ⟨rfl, rfl⟩, ?_, rfl⟩
      simp [emptyNode, seqO]
    have hfp : footprint { s with heap := s.heap ++ [emptyNode id] } 1 t = [s.heap.length] :=
      footprint_eq (s := { s with heap := s.heap ++ [emptyNode id] }) hx
    refine ⟨repTree_eq_some.mpr ⟨_, hx, by simp, ?_⟩, hfp, ?_⟩
    · have hd : rootDirty (s.heap ++ [emptyNode id]) t.root = false := by
        rw [hroot]; simp only [rootDirty, hself]; rfl
      simp only [treeRec, loadedTree, T.unmk, hd, hsz, hht, hbf, hga, hsb]
    · rw [hfp]
      intro y hy
      simp at hy; subst hy
      exact ⟨_, hself, rfl⟩
  · intro hl
    obtain ⟨hroot, hsn⟩ := h1 hl
    refine ⟨hsn, ?_⟩
    intro g x hx
    have hx' : repLink s'.heap s'.store g t.root = some x := by rw [hroot]; exact hgr.rep hx
    have hfp0 : x.2.2 = [] := repLink_flat_fp hg.flat _ _ _ rfl hx
    refine ⟨repTree_eq_some.mpr ⟨x, hx', by rw [hfp0]; simp, ?_⟩, by rw [footprint_eq hx', hfp0]⟩
    obtain ⟨_, sn, cs, _, _, _, _, hxe⟩ := repLink_ref_some.mp hx
    have hflag : x.1 = true := by rw [hxe]; rfl
    simp only [treeRec, loadedTree, hroot, rootDirty, hsz, hht, hbf, hga, hsb, hflag,
      unmk_of_ne_nil (repLink_row_ne_nil hx (by simp))]

theorem loadMast_err (E : Env) (id link size height bf : Nat) (s s' : PS) (hg : Good s)
    (h : loadMast E id link size height bf s = .err s') : Grow id s s' :=
  (loadMast_spec E id link size height bf s hg).err h

end Mast.Ptr
