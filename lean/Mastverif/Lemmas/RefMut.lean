import Mastverif.Lemmas.RefPrune
/-! `toMut`, and the body of the first loop of `savePathForRoot` on one node (`mutNode_spec`). -/
namespace Mast.Ptr
open Mast.Heap

/-- dirty flags are not reset -/
def DirtyMono (h h' : Heap) : Prop :=
  ∀ (b : Nat) (nd : MNode), h[b]? = some nd → nd.dirty = true → ∃ nd', h'[b]? = some nd' ∧ nd'.dirty = true

theorem DirtyMono.refl (h : Heap) : DirtyMono h h := fun _ nd hnd hd => ⟨nd, hnd, hd⟩
theorem DirtyMono.trans {h1 h2 h3 : Heap} (a : DirtyMono h1 h2) (b : DirtyMono h2 h3) : DirtyMono h1 h3 := by
  intro x nd hnd hd
  obtain ⟨nd2, h2, d2⟩ := a x nd hnd hd
  exact b x nd2 h2 d2
theorem DirtyMono.of_allocOnly {h h' : Heap} (ha : AllocOnly h h') : DirtyMono h h' :=
  fun b nd hnd hd => ⟨nd, ha b nd hnd, hd⟩

/-- the unshared copy `ToMut` makes -/
def mutCopy (m : Nat) (nd : MNode) : MNode := { nd with shared := false, owner := m, source := none }

theorem toMut_spec {m : Nat} (a : Nat) (s : PS) :
    Spec (Grow m) (toMut m a) s (fun a' s' => ∃ nd, s.heap[a]? = some nd ∧
      ((nd.shared = false ∧ a' = a ∧ s' = s) ∨
       (nd.shared = true ∧ a' = s.heap.length ∧ s' = { s with heap := s.heap ++ [mutCopy m nd] }))) := by
  unfold toMut
  refine Spec.bind (read_spec a s) ?_
  rintro nd s1 _ _ ⟨rfl, hnd⟩
  refine Spec.ite (fun _ => Spec.panic) (fun _ => Spec.ite (fun hs => ?_) (fun hs => ?_))
  · exact Spec.pure ⟨nd, hnd, Or.inl ⟨by simpa using hs, rfl, rfl⟩⟩
  · refine (alloc_spec (m := m) (mutCopy m nd) s (Or.inr rfl) (fun _ => rfl)).conseq ?_
    rintro a' s' _ _ ⟨rfl, rfl⟩
    exact ⟨nd, hnd, Or.inr ⟨by simpa using hs, rfl, rfl⟩⟩

def OwnDirty (h : Heap) (m a : Nat) : Prop :=
  ∃ nd, h[a]? = some nd ∧ nd.shared = false ∧ nd.owner = m ∧ nd.dirty = true

/-- what the body of `mutPath` does to one node -/
def MutNodeOK (m a : Nat) (nd : MNode) (a' : Nat) (s s' : PS) : Prop :=
  Shape s.heap s'.heap ∧ DirtyMono s.heap s'.heap ∧
  (∃ nd', s'.heap[a']? = some nd' ∧ nd'.keys = nd.keys ∧ nd'.vals = nd.vals ∧ nd'.links = nd.links ∧
    nd'.shared = false ∧ nd'.owner = m ∧ nd'.dirty = true) ∧
  ((nd.shared = false ∧ a' = a ∧ s.heap.length ≤ s'.heap.length) ∨
   (nd.shared = true ∧ a' = s.heap.length ∧ s.heap.length < s'.heap.length))

theorem shape_set {h : Heap} {a : Nat} {old nd : MNode} (ho : h[a]? = some old) (e1 : nd.keys = old.keys)
    (e2 : nd.vals = old.vals) (e3 : nd.links = old.links) (e4 : nd.shared = old.shared) (e5 : nd.owner = old.owner) :
    Shape h (h.set a nd) := by
  intro b x hx
  by_cases hba : b = a
  · subst hba
    rw [ho] at hx; injection hx with hx; subst hx
    exact ⟨nd, List.getElem?_set_self (List.getElem?_eq_some_iff.mp ho).1, e1, e2, e3, e4, e5⟩
  · exact ⟨x, by rw [List.getElem?_set_ne (Ne.symm hba)]; exact hx, rfl, rfl, rfl, rfl, rfl⟩

theorem dirtyMono_set {h : Heap} {a : Nat} {old nd : MNode} (ho : h[a]? = some old)
    (hd : old.dirty = true → nd.dirty = true) : DirtyMono h (h.set a nd) := by
  intro b x hx hxd
  by_cases hba : b = a
  · subst hba
    rw [ho] at hx; injection hx with hx; subst hx
    exact ⟨nd, List.getElem?_set_self (List.getElem?_eq_some_iff.mp ho).1, hd hxd⟩
  · exact ⟨x, by rw [List.getElem?_set_ne (Ne.symm hba)]; exact hx, hxd⟩

theorem mutNode_spec {m : Nat} (a : Nat) (nd : MNode) (s : PS) (hg : Good s) (hnd : s.heap[a]? = some nd)
    (hown : nd.shared = false → nd.owner = m) :
    Spec (Step m) (if nd.dirty then (pure a : M Nat) else do
        let a' ← toMut m a
        let nd' ← read a'
        write m a' { nd' with dirty := true, source := none }
        pure a') s (fun a' s' => MutNodeOK m a nd a' s s') := by
  refine Spec.ite (fun hd => ?_) (fun hd => ?_)
  · have hs : nd.shared = false := hg.du a nd hnd hd
    exact Spec.pure ⟨Shape.refl _, DirtyMono.refl _, ⟨nd, hnd, rfl, rfl, rfl, hs, hown hs, hd⟩,
      Or.inl ⟨hs, rfl, Nat.le_refl _⟩⟩
  · refine Spec.bind (toMut_spec (m := m) a s).toStep ?_
    rintro a' s1 _ hst1 ⟨nd0, hnd0, hcase⟩
    obtain rfl := Option.some.inj (hnd.symm.trans hnd0)
    refine Spec.bind (read_spec a' s1) ?_
    rintro nd' s2 _ _ ⟨rfl, hnd'⟩
    refine Spec.bind (write_spec (m := m) a' _ s1) ?_
    rintro _ s3 _ hst3 ⟨old, hold, ho1, ho2, _, _, _, rfl⟩
    obtain rfl := Option.some.inj (hnd'.symm.trans hold)
    refine Spec.pure ?_
    have hlt : a' < s1.heap.length := (List.getElem?_eq_some_iff.mp hnd').1
    have hself : (s1.heap.set a' { nd' with dirty := true, source := none })[a']? =
        some { nd' with dirty := true, source := none } := List.getElem?_set_self hlt
    have hsh2 : Shape s1.heap (s1.heap.set a' { nd' with dirty := true, source := none }) :=
      shape_set hnd' rfl rfl rfl rfl rfl
    have hdm2 : DirtyMono s1.heap (s1.heap.set a' { nd' with dirty := true, source := none }) :=
      dirtyMono_set hnd' (fun _ => rfl)
    rcases hcase with ⟨hs, rfl, rfl⟩ | ⟨hs, rfl, rfl⟩
    · rw [hnd] at hnd'; injection hnd' with hnd'; subst hnd'
      exact ⟨hsh2, hdm2, ⟨_, hself, rfl, rfl, rfl, hs, ho1, rfl⟩,
        Or.inl ⟨hs, rfl, by rw [List.length_set]; exact Nat.le_refl _⟩⟩
    · have hal := allocOnly_append s.heap (mutCopy m nd)
      have : nd' = mutCopy m nd := by
        have h2 : (s.heap ++ [mutCopy m nd])[s.heap.length]? = some (mutCopy m nd) := getElem?_append_self _ _
        rw [h2] at hnd'; injection hnd' with hnd'; exact hnd'.symm
      subst this
      exact ⟨(Shape.of_allocOnly hal).trans hsh2, (DirtyMono.of_allocOnly hal).trans hdm2,
        ⟨_, hself, rfl, rfl, rfl, rfl, rfl, rfl⟩,
        Or.inr ⟨hs, rfl, by rw [List.length_set, List.length_append]; exact Nat.lt_succ_self _⟩⟩

end Mast.Ptr
