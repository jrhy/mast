import Mastverif.Lemmas.RefMut
import Mastverif.Lemmas.RefPrune
/-! The first loop of `savePathForRoot`: every node of the path becomes a dirty unshared node of the tree.
    Nothing is assumed of the bottom node (after `deleteEntry` it may be empty). -/
namespace Mast.Ptr
open Mast.Heap

/-- `ToMut` on a path node: its address (itself, or a fresh copy at `n`) takes the place of the node's own footprint
    part, while the rest `X` of the footprint changes at or above `n'` -/
theorem FpExt.own_step {n n' a a' : Nat} {nd : MNode} {X X' : List Nat}
    (hcase : (nd.shared = false ∧ a' = a ∧ n ≤ n') ∨ (nd.shared = true ∧ a' = n ∧ n < n'))
    (hnd : (ownFp nd a ++ X).Nodup) (hX : ∀ y ∈ X, y < n) (ha : a < n) (h : FpExt n' X X') :
    FpExt n (ownFp nd a ++ X) (a' :: X') := by
  have hnot : ∀ z, z < n' → z ∉ X → z ∉ X' := fun z hz hzX hzX' =>
    (h.2 z hzX').elim hzX (fun hle => Nat.lt_irrefl _ (Nat.lt_of_lt_of_le hz hle))
  rcases hcase with ⟨hs, rfl, hn⟩ | ⟨hs, rfl, hn⟩
  · have ho : ownFp nd a' = [a'] := by simp [ownFp, hs]
    rw [ho] at hnd ⊢
    refine ⟨List.nodup_cons.mpr ⟨hnot a' (Nat.lt_of_lt_of_le ha hn) (List.nodup_cons.mp hnd).1, h.1⟩, fun y hy => ?_⟩
    rcases List.mem_cons.mp hy with rfl | hy
    · exact Or.inl (List.mem_cons_self ..)
    · exact (h.2 y hy).imp (List.mem_cons_of_mem _) (Nat.le_trans hn)
  · have ho : ownFp nd a = [] := by simp [ownFp, hs]
    rw [ho]
    refine ⟨List.nodup_cons.mpr ⟨hnot _ hn (fun hm => Nat.lt_irrefl _ (hX _ hm)), h.1⟩, fun y hy => ?_⟩
    rcases List.mem_cons.mp hy with rfl | hy
    · exact Or.inr (Nat.le_refl _)
    · exact (h.2 y hy).imp id (Nat.le_trans (Nat.le_of_lt hn))

def MutPathOK (m : Nat) (frs : List Fr) (bx : Bool × T × List Nat) (q q' : List (Nat × Nat)) (s s' : PS) : Prop :=
  q'.map Prod.snd = q.map Prod.snd ∧ Shape s.heap s'.heap ∧ DirtyMono s.heap s'.heap ∧
  (∀ p ∈ q', OwnDirty s'.heap m p.1) ∧
  ∃ frs' bx' g' b' j, Ctx s'.heap s'.store q' frs' ∧ q'.getLast? = some (b', j) ∧
    repLink s'.heap s'.store g' (.ptr b') = some bx' ∧
    bx'.2.1 = bx.2.1 ∧ (∀ r, plugDel frs' r = plugDel frs r) ∧
    FpExt s.heap.length (plug frs bx).2.2 (plug frs' bx').2.2

theorem mutPath_spec {m : Nat} : ∀ (q : List (Nat × Nat)) (frs : List Fr) (s : PS) (bx : Bool × T × List Nat)
    (g b j : Nat), Good s → Ctx s.heap s.store q frs → q.getLast? = some (b, j) →
    repLink s.heap s.store g (.ptr b) = some bx →
    (plug frs bx).2.2.Nodup → FpOwned s.heap m (plug frs bx).2.2 →
    Spec (Step m) (mutPath m q) s (fun q' s' => MutPathOK m frs bx q q' s s') := by
  intro q
  induction q with
  | nil => intro frs s bx g b j _ hc; cases frs <;> exact hc.elim
  | cons x rest ih =>
    intro frs s bx g b j hg hctx hlast hbx hnodup howned
    obtain ⟨a, i⟩ := x
    unfold mutPath
    refine Spec.bind (read_spec a s) ?_
    rintro nd s0 _ _ ⟨rfl, hnd⟩
    have halt : a < s.heap.length := (List.getElem?_eq_some_iff.mp hnd).1
    cases rest with
    | nil =>
      cases frs with
      | cons _ _ => exact hctx.elim
      | nil =>
        simp at hlast
        obtain ⟨rfl, rfl⟩ := hlast
        have hlt := repLink_fp_lt' hbx
        obtain ⟨g', cs, rfl, hv, hkids, hcl, rfl⟩ := repLink_ptr_inv hbx hnd
        have hfp0 : (plug [] (nodeRep false (ownFp nd a) nd.keys nd.vals cs)).2.2 = ownFp nd a ++ fps cs :=
          nodeRep_fp ..
        rw [hfp0] at hnodup howned
        rw [nodeRep_fp] at hlt
        refine Spec.bind (mutNode_spec (m := m) a nd s hg hnd
          (fun hs => howned.owner (List.mem_append_left _ (mem_ownFp.mpr ⟨hs, rfl⟩)) hnd)) ?_
        rintro a' s1 _ hst1 ⟨hsh, hdm, ⟨nd', hnd', e1, e2, e3, e4, e5, e6⟩, hcase⟩
        simp only [mutPath]
        refine Spec.pure ?_
        have hrep : repLink s1.heap s1.store (g' + 1) (.ptr a') = some (nodeRep false [a'] nd.keys nd.vals cs) := by
          refine repLink_ptr_some.mpr ⟨g', nd', cs, rfl, hnd', ?_, ?_, ?_⟩
          · unfold ValidN; rw [e1, e2, e3]; exact hv
          · rw [e3, hst1.store]; exact seqO_map_congr hkids (fun l _ c hc => repLink_shape hsh g' l c hc)
          · simp only [ownFp, e1, e2, e4]; rfl
        refine ⟨rfl, hsh, hdm, ?_, [], _, g' + 1, a', i, trivial, rfl, hrep, rfl, fun _ => rfl, ?_⟩
        · intro p hp
          obtain rfl := List.mem_singleton.mp hp
          exact ⟨nd', hnd', e4, e5, e6⟩
        · rw [hfp0]
          show FpExt _ _ (nodeRep false [a'] nd.keys nd.vals cs).2.2
          rw [nodeRep_fp]
          exact FpExt.own_step hcase hnodup (fun y hy => hlt y (List.mem_append_right _ hy)) halt
            (FpExt.refl (List.nodup_append.mp hnodup).2.1)
    | cons y rest' =>
      obtain ⟨b1, j1⟩ := y
      cases frs with
      | nil => exact hctx.elim
      | cons fr frs1 =>
        have hlt := plug_fp_lt hctx hbx
        obtain ⟨⟨nd0, gk, hnd0, hv, hown0, hks, hvs, hi, hilt, hL, hR⟩, hrest⟩ := hctx
        obtain rfl := Option.some.inj (hnd.symm.trans hnd0)
        have hlast' : ((b1, j1) :: rest').getLast? = some (b, j) := by
          rw [List.getLast?_cons_cons] at hlast; exact hlast
        -- own part, then the rest `X` of the footprint
        have hfp : (plug (fr :: frs1) bx).2.2 = ownFp nd a ++ (fps fr.L ++ ((plug frs1 bx).2.2 ++ fps fr.R)) := by
          show (fr.plug (plug frs1 bx)).2.2 = _
          rw [Fr.plug_fp, hown0, List.append_assoc, List.append_assoc]
        rw [hfp] at hnodup howned hlt
        have hnodupX := (List.nodup_append.mp hnodup).2.1
        refine Spec.bind (mutNode_spec (m := m) a nd s hg hnd
          (fun hs => howned.owner (List.mem_append_left _ (mem_ownFp.mpr ⟨hs, rfl⟩)) hnd)) ?_
        rintro a' s1 _ hst1 ⟨hsh, hdm, ⟨nd', hnd', e1, e2, e3, e4, e5, e6⟩, hcase⟩
        have hctx1 : Ctx s1.heap s1.store ((b1, j1) :: rest') frs1 := by rw [hst1.store]; exact hrest.shape hsh
        have hbx1 : repLink s1.heap s1.store g (.ptr b) = some bx := by
          rw [hst1.store]; exact repLink_shape hsh _ _ _ hbx
        have howned1 : FpOwned s1.heap m (plug frs1 bx).2.2 := FpOwned.shape (fun y hy =>
          howned y (List.mem_append_right _ (List.mem_append_right _ (List.mem_append_left _ hy)))) hsh
        refine Spec.bind (ih frs1 s1 bx g b j (hst1.good hg) hctx1 hlast' hbx1
          (List.nodup_append.mp (List.nodup_append.mp hnodupX).2.1).1 howned1) ?_
        rintro q1 s2 _ hst2 ⟨hsnd, hsh2, hdm2, hod2, frs1', bx', g2, b', j', hctx2, hlast2, hbx2,
          hrow2, hdel2, hfp2⟩
        refine Spec.pure ?_
        obtain ⟨nd2, hnd2, f1, f2, f3, f4, f5⟩ := hsh2 a' nd' hnd'
        have hd2 : nd2.dirty = true := by
          obtain ⟨nd2d, hnd2d, hd⟩ := hdm2 a' nd' hnd' e6
          exact Option.some.inj (hnd2d.symm.trans hnd2) ▸ hd
        refine ⟨?_, hsh.trans hsh2, hdm.trans hdm2, ?_, { fr with own := [a'] } :: frs1', bx', g2, b', j', ?_, ?_,
          hbx2, hrow2, ?_, ?_⟩
        · simp only [List.map_cons, hsnd]
        · intro p hp
          rcases List.mem_cons.mp hp with h | h
          · subst h; exact ⟨nd2, hnd2, f4.trans e4, f5.trans e5, hd2⟩
          · exact hod2 p h
        · refine hctx2.cons ⟨nd2, gk, hnd2, ?_, ?_, ?_, ?_, hi, ?_, ?_, ?_⟩
          · unfold ValidN; rw [f1, f2, f3, e1, e2, e3]; exact hv
          · simp only [ownFp, f4, e4]; rfl
          · show fr.ks = nd2.keys; rw [f1, e1]; exact hks
          · show fr.vs = nd2.vals; rw [f2, e2]; exact hvs
          · rw [f3, e3]; exact hilt
          · rw [f3, e3, hst2.store, hst1.store]
            exact seqO_map_congr hL (fun l _ c hc => repLink_shape (hsh.trans hsh2) gk l c hc)
          · rw [f3, e3, hst2.store, hst1.store]
            exact seqO_map_congr hR (fun l _ c hc => repLink_shape (hsh.trans hsh2) gk l c hc)
        · exact getLast?_cons_of_some hlast2
        · intro r
          show Fr.plugRow _ (T.mk (plugDel frs1' r)) = fr.plugRow (T.mk (plugDel frs1 r))
          rw [hdel2 r]; rfl
        · rw [hfp]
          show FpExt _ _ (Fr.plug { fr with own := [a'] } (plug frs1' bx')).2.2
          rw [Fr.plug_fp, List.append_assoc, List.append_assoc]
          have hX : FpExt s1.heap.length (fps fr.L ++ ((plug frs1 bx).2.2 ++ fps fr.R))
              (fps fr.L ++ ((plug frs1' bx').2.2 ++ fps fr.R)) := by
            have := FpExt.ctx (fps fr.L) (fps fr.R) (by rw [List.append_assoc]; exact hnodupX)
              (fun y hy => Nat.lt_of_lt_of_le (hlt y (List.mem_append_right _ (List.mem_append_left _ hy))) hsh.length)
              (fun y hy => Nat.lt_of_lt_of_le (hlt y (List.mem_append_right _ (List.mem_append_right _
                (List.mem_append_right _ hy)))) hsh.length) hfp2
            rw [List.append_assoc, List.append_assoc] at this
            exact this
          exact FpExt.own_step hcase hnodup (fun y hy => hlt y (List.mem_append_right _ hy)) halt hX

end Mast.Ptr
