import Mastverif.Lemmas.PtrAtomic
/-! `NoErrR` is `NoErr` of `PtrAtomic` under the name the refinement chain uses; its lemmas are those of `NoErr`. -/
namespace Mast.Ptr
open Mast.Heap

/-- the program never returns an error (it may panic, get stuck or run out of fuel) -/
def NoErrR {α : Type} (x : M α) : Prop := ∀ s s', x s ≠ .err s'

theorem NoErrR.bind {α β : Type} {x : M α} {f : α → M β} (hx : NoErrR x) (hf : ∀ a, NoErrR (f a)) : NoErrR (x >>= f) :=
  NoErr.bind hx hf
theorem NoErrR.pure {α : Type} (a : α) : NoErrR (Pure.pure a : M α) := NoErr.pure a
theorem NoErrR.panic {α : Type} : NoErrR (panicE : M α) := NoErr.panic
theorem NoErrR.ite {α : Type} {c : Prop} [Decidable c] {x y : M α} (hx : NoErrR x) (hy : NoErrR y) :
    NoErrR (if c then x else y) := NoErr.ite hx hy
theorem NoErrR.read (a : Nat) : NoErrR (read a) := read_noErr a
theorem NoErrR.alloc (nd : MNode) : NoErrR (alloc nd) := alloc_noErr nd
theorem NoErrR.write (m a : Nat) (nd : MNode) : NoErrR (write m a nd) := write_noErr m a nd
theorem NoErrR.toMut (m a : Nat) : NoErrR (toMut m a) := toMut_noErr m a
theorem NoErrR.mutPath (m : Nat) (q : List (Nat × Nat)) : NoErrR (mutPath m q) := mutPath_noErr m q
theorem NoErrR.relink (m : Nat) (q : List (Nat × Nat)) : NoErrR (relink m q) := relink_noErr m q
theorem NoErrR.savePath (m : Nat) (q : List (Nat × Nat)) : NoErrR (savePath m q) := savePath_noErr m q
theorem NoErrR.insertCommit (t : PTree) (p : InsPlan) (key val : Nat) : NoErrR (insertCommit t p key val) :=
  insertCommit_noErr t p key val

end Mast.Ptr
