import Mastverif.Lemmas.RefFind
import Mastverif.Lemmas.RefSplit
import Mastverif.Lemmas.RefStep
/-! `insertPlan`: what the state looks like when the plan has been made. -/
namespace Mast.Ptr
open Mast.Heap

def bottomRep (nd : MNode) (a : Nat) (csb : List (Bool × T × List Nat)) : Bool × T × List Nat :=
  nodeRep false (ownFp nd a) nd.keys nd.vals csb

theorem mem_plug_bottom {frs : List Fr} {nd : MNode} {a : Nat} {csb : List (Bool × T × List Nat)} {y : Nat}
    (hy : y ∈ fps csb) : y ∈ (plug frs (bottomRep nd a csb)).2.2 := by
  rw [plug_fp]
  exact List.mem_append_left _ (List.mem_append_right _ (List.mem_append_right _ hy))

/-- the node `nd` that `findNode` stopped at, `lv` levels below the root: `x` is what the root link denoted at heap
    size `n0`, `frs` the path above `nd`, `csb` what its links denote, `n2` a heap size by which all of this existed -/
structure Bottom (key n0 : Nat) (x : Bool × T × List Nat) (lv : Nat) (fd : Found) (h : Heap) (st : List SNode)
    (frs : List Fr) (gb : Nat) (csb : List (Bool × T × List Nat)) (nd : MNode) (n2 : Nat) : Prop where
  ctx : Ctx h st fd.path frs
  last : fd.path.getLast? = some (fd.node, fd.idx)
  node : h[fd.node]? = some nd
  valid : ValidN nd
  kids : seqO (nd.links.map (repLink h st gb)) = some csb
  idx : fd.idx = keyIdx nd.keys key
  start_le : n0 ≤ n2
  le_heap : n2 ≤ h.length
  lt : ∀ y ∈ (plug frs (bottomRep nd fd.node csb)).2.2, y < n2
  fp : FpExt n0 x.2.2 (plug frs (bottomRep nd fd.node csb)).2.2
  oks : ∀ fr ∈ frs, fr.OK key
  lvl : lv = frs.length
  above : Above frs (T.unmk x.2.1) (bottomRep nd fd.node csb).2.1

namespace Bottom
variable {key n0 : Nat} {x : Bool × T × List Nat} {lv : Nat} {fd : Found} {h : Heap} {st : List SNode}
  {frs : List Fr} {gb : Nat} {csb : List (Bool × T × List Nat)} {nd : MNode} {n2 : Nat}

theorem get (hB : Bottom key n0 x lv fd h st frs gb csb nd n2) :
    T.get key lv (T.unmk x.2.1) = T.get key 0 (bottomRep nd fd.node csb).2.1 := by
  have := hB.above.get hB.oks 0
  rwa [Nat.zero_add, ← hB.lvl] at this

theorem ins (hB : Bottom key n0 x lv fd h st frs gb csb nd n2) (v : Nat) :
    T.ins key v lv (T.unmk x.2.1) = (T.ins key v 0 (bottomRep nd fd.node csb).2.1).map (plugRow frs) := by
  have := hB.above.ins hB.oks v 0
  rwa [Nat.zero_add, ← hB.lvl] at this

theorem del (hB : Bottom key n0 x lv fd h st frs gb csb nd n2) :
    T.del key lv (T.unmk x.2.1) = (T.del key 0 (bottomRep nd fd.node csb).2.1).map (plugDel frs) := by
  have := hB.above.del hB.oks 0
  rwa [Nat.zero_add, ← hB.lvl] at this

theorem kidsLen (hB : Bottom key n0 x lv fd h st frs gb csb nd n2) : (csb.map pr).length = nd.keys.length + 1 := by
  rw [List.length_map, seqO_map_length hB.kids]; exact hB.valid.1

theorem idx_le (hB : Bottom key n0 x lv fd h st frs gb csb nd n2) : fd.idx ≤ nd.keys.length :=
  hB.idx ▸ keyIdx_le _ _

theorem kids_nodup (hB : Bottom key n0 x lv fd h st frs gb csb nd n2) : (fps csb).Nodup := by
  have h1 := hB.fp.1
  rw [plug_fp] at h1
  exact nodup_right (nodup_right (nodup_left h1))

theorem get_eq (hB : Bottom key n0 x lv fd h st frs gb csb nd n2) :
    T.get key lv (T.unmk x.2.1) = if nd.keys[fd.idx]? = some key then nd.vals[fd.idx]? else none := by
  rw [hB.get, hB.idx]
  exact get_mkRow_zero nd.keys (csb.map pr) nd.vals key hB.kidsLen hB.valid.2

theorem grow {m : Nat} {s s' : PS} (hB : Bottom key n0 x lv fd s.heap s.store frs gb csb nd n2) (hgr : Grow m s s') :
    Bottom key n0 x lv fd s'.heap s'.store frs gb csb nd n2 :=
  { hB with
    ctx := by rw [hgr.store]; exact hB.ctx.allocOnly hgr.alloc
    node := hgr.alloc _ _ hB.node
    kids := hgr.kids hB.kids (Nat.le_refl _)
    le_heap := Nat.le_trans hB.le_heap hgr.length }

end Bottom

theorem FindPath.bottom {key target cur n n0 : Nat} {x x0 : Bool × T × List Nat} {fd : Found} {h : Heap}
    {st : List SNode} {nd : MNode} {p : List (Nat × Nat)} {frs : List Fr} {g' : Nat} {bx : Bool × T × List Nat}
    (hf : FindPath key target cur [] n x0 fd h st p frs g' bx) (hnd : h[fd.node]? = some nd)
    (hidx : fd.idx = keyIdx nd.keys key) (hct : fd.cur = target) (hrow : x0.2.1 = T.unmk x.2.1)
    (hfp0 : FpExt n0 x.2.2 x0.2.2) (hn0 : n0 ≤ n) (hn : n ≤ h.length) :
    ∃ frs gb csb, Bottom key n0 x (cur - target) fd h st frs gb csb nd h.length := by
  have hpath : fd.path = p := by rw [hf.path, List.nil_append]
  have hbx := hf.rep
  obtain ⟨gb', csb, rfl, hv, hkids, hcl, rfl⟩ := repLink_ptr_inv hbx hnd
  exact ⟨frs, gb', csb,
    { ctx := hpath ▸ hf.ctx, last := hpath ▸ hf.last, node := hnd, valid := hv, kids := hkids, idx := hidx
      start_le := Nat.le_trans hn0 hn, le_heap := Nat.le_refl _, lt := plug_fp_lt hf.ctx hbx
      fp := hfp0.trans hf.fp hn0, oks := hf.oks
      lvl := Nat.sub_eq_of_eq_add (by rw [← hct, Nat.add_comm]; exact hf.depth.symm)
      above := by rw [← hrow]; exact hf.above }⟩

/-- the found node, and either the key is there or the child at the insertion point has been split -/
def PlanOK (key val n0 : Nat) (x : Bool × T × List Nat) (height target : Nat) (p : InsPlan) (h : Heap)
    (st : List SNode) : Prop :=
  ∃ frs gb csb nd n2, Bottom key n0 x (height - target) p.found h st frs gb csb nd n2 ∧
    (p.present = true → nd.keys[p.found.idx]? = some key ∧ (p.same = true ↔ nd.vals[p.found.idx]? = some val)) ∧
    (p.present = false → nd.keys[p.found.idx]? ≠ some key ∧
      ∃ cl, csb[p.found.idx]? = some cl ∧ SplitOK n2 h st cl key (p.left, p.right))

theorem planOK_lookup {key val n0 : Nat} {x : Bool × T × List Nat} {height target : Nat} {p : InsPlan} {h : Heap}
    {st : List SNode} (hplan : PlanOK key val n0 x height target p h st) :
    (p.present = true → ∃ v', T.get key (height - target) (T.unmk x.2.1) = some v' ∧ (p.same = true ↔ v' = val)) ∧
    (p.present = false → T.get key (height - target) (T.unmk x.2.1) = none) := by
  obtain ⟨frs, gb, csb, nd, n2, hB, hpres, habs⟩ := hplan
  constructor
  · intro hp
    obtain ⟨hkey, hsame⟩ := hpres hp
    have hlt' : p.found.idx < nd.vals.length := by rw [hB.valid.2]; exact (List.getElem?_eq_some_iff.mp hkey).1
    refine ⟨nd.vals[p.found.idx], ?_, ?_⟩
    · rw [hB.get_eq, if_pos hkey]; exact List.getElem?_eq_getElem hlt'
    · rw [hsame, List.getElem?_eq_getElem hlt']; exact Option.some_inj
  · intro hp
    rw [hB.get_eq, if_neg (habs hp).1]

theorem rootNode_spec {m : Nat} (E : Env) (root : HLink) (s : PS) (hg : Good s) {g : Nat} {x : Bool × T × List Nat}
    (hx : repLink s.heap s.store g root = some x) (hnd : x.2.2.Nodup) :
    Spec (Grow m) (if root = .nil then alloc (emptyNode m) else load E root) s (fun a0 s' =>
      ∃ g0 x0, repLink s'.heap s'.store g0 (.ptr a0) = some x0 ∧ x0.2.1 = T.unmk x.2.1 ∧
        FpExt s.heap.length x.2.2 x0.2.2) := by
  split
  · next h0 =>
    subst h0
    rw [repLink_nil] at hx; cases hx
    refine (alloc_spec (m := m) (emptyNode m) s (Or.inr rfl) (fun _ => rfl)).conseq ?_
    rintro a0 s' _ _ ⟨rfl, rfl⟩
    exact ⟨1, _, repLink_emptyNode (m := m) (getElem?_append_self _ _), rfl,
      (FpExt.refl List.nodup_nil).cons_fresh (Nat.le_refl _) (fun hm => nomatch hm)⟩
  · next h0 =>
    refine (load_spec (m := m) E root s hg).conseq ?_
    rintro a0 s' _ _ ⟨_, _, hld⟩
    exact ⟨g, _, hld g x hx, (unmk_of_ne_nil (repLink_row_ne_nil hx h0)).symm, FpExt.refl hnd⟩

theorem insertPlan_spec (E : Env) (t : PTree) (fuel key val : Nat) (s : PS) (hg : Good s) {g : Nat}
    {x : Bool × T × List Nat} (hx : repLink s.heap s.store g t.root = some x) (hnd : x.2.2.Nodup) :
    Spec (Grow t.id) (insertPlan E t fuel key val) s (fun p s' =>
      PlanOK key val s.heap.length x t.height (min (E.layer key) t.height) p s'.heap s'.store) := by
  unfold insertPlan
  refine Spec.bind (layerM_spec (m := t.id) E key s) ?_
  rintro lay s1 _ hgr1 rfl
  have hg1 := hgr1.good hg
  refine Spec.bind (rootNode_spec (m := t.id) E t.root s1 hg1 (hgr1.rep hx) hnd) ?_
  rintro a0 s2 _ hgr2 ⟨g0, x0, hx0, hx0row, hx0fp⟩
  have hg2 := hgr2.good hg1
  dsimp only
  refine Spec.bind (findNode_spec (m := t.id) E key (min (E.layer key) t.height) true fuel a0 t.height [] s2 g0 x0 hg2
    (Nat.min_le_right _ _) hx0 hx0fp.1) ?_
  rintro fd s3 _ hgr3 ⟨nd, hnd3, hidx, himp⟩
  have hg3 := hgr3.good hg2
  by_cases hct : fd.cur = min (E.layer key) t.height
  case neg => rw [if_pos hct]; exact Spec.panic
  rw [if_neg (not_not_intro hct)]
  refine Spec.bind (read_spec fd.node s3) ?_
  rintro nd' s4 _ _ ⟨rfl, hnd'⟩
  obtain rfl : nd = nd' := Option.some.inj (hnd3.symm.trans hnd')
  obtain ⟨_, _, _, _, _, hF⟩ := himp (Or.inl rfl)
  obtain ⟨frs, gb', csb, hB⟩ := hF.bottom hnd3 hidx hct hx0row (hx0fp.n_mono hgr1.length)
    (Nat.le_trans hgr1.length hgr2.length) hgr3.length
  have hkids := hB.kids
  by_cases hpres : nd.keys[fd.idx]? = some key
  · rw [if_pos hpres]
    exact Spec.pure ⟨frs, gb', csb, nd, _, hB, fun _ => ⟨hpres, by simp⟩, fun h => nomatch h⟩
  rw [if_neg hpres]
  split
  · exact Spec.panic
  · next hl =>
    obtain ⟨cl, hcl1, hcl2⟩ := seqO_map_getElem? hkids hl
    rw [repLink_nil] at hcl1; cases hcl1
    exact Spec.pure ⟨frs, gb', csb, nd, _, hB, (fun h => nomatch h),
      fun _ => ⟨hpres, _, hcl2, SplitOK.nil (Nat.le_refl _)⟩⟩
  · next l hlne hl =>
    obtain ⟨cl, hcl1, hcl2⟩ := seqO_map_getElem? hkids hl
    refine Spec.bind (load_spec (m := t.id) E l s3 hg3) ?_
    rintro c s4 _ hgr4 ⟨_, _, hld⟩
    have hclnd : cl.2.2.Nodup := by
      have h1 := hB.kids_nodup
      rw [fps_split_at hcl2] at h1
      exact nodup_left (nodup_right h1)
    refine Spec.bind (split_refines (m := t.id) E key fuel c s4 gb' _ (hgr4.good hg3) (hld gb' cl hcl1) hclnd) ?_
    rintro ⟨lf, rt⟩ s5 _ hgr5 hsp
    exact Spec.pure ⟨frs, gb', csb, nd, _, hB.grow (hgr4.trans hgr5), (fun h => nomatch h),
      fun _ => ⟨hpres, cl, hcl2, hsp.mono hgr4.length⟩⟩

end Mast.Ptr
