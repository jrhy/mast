import Mastverif.Lemmas.RefStep
/-!
Pruning: what the top of a path denotes when the bottom denotes `x` and every node that became empty is pruned
(`relink` writes `.nil` for an empty child; `T.mk` in `T.del`).  Above a bottom row that is not an empty node
nothing is pruned (`plugDel_eq_plugRow`): this is the case of Insert.
-/
namespace Mast.Ptr
open Mast.Heap

/-- the row on top of a path whose bottom row is `r`, every child below the top passing through `T.mk` -/
def plugDel : List Fr → T → T
  | [], r => r
  | fr :: frs, r => fr.plugRow (T.mk (plugDel frs r))

/-- a child result as the parent sees it after pruning: an empty node is the absent link -/
def pruneRep (z : Bool × T × List Nat) : Bool × T × List Nat :=
  if T.mk z.2.1 = T.nil then (false, T.nil, []) else z

/-- what the top of the path denotes after `relink` (with pruning); the top itself is never pruned -/
def topRep : List Fr → (Bool × T × List Nat) → (Bool × T × List Nat)
  | [], x => x
  | fr :: frs, x => fr.plug (pruneRep (topRep frs x))

/-! ## `T.mk` on the row of a node object -/

theorem mk_eq_nil_or (r : T) : T.mk r = T.nil ∨ T.mk r = r := by
  unfold T.mk
  split
  · exact Or.inl rfl
  · exact Or.inr rfl

theorem repLink_mk_of_nonempty {h : Heap} {st : List SNode} {g b : Nat} {nd : MNode} {z : Bool × T × List Nat}
    (hz : repLink h st g (.ptr b) = some z) (hb : h[b]? = some nd) (hne : isEmptyN nd = false) :
    T.mk z.2.1 = z.2.1 := by
  obtain ⟨g', cs, rfl, hv, h1, _, rfl⟩ := repLink_ptr_inv hz hb
  exact mk_nodeRow hv h1 (by rw [hne]; exact Bool.false_ne_true)

/-- a valid node object denotes a row that `T.mk` turns into the absent link iff the node is empty -/
theorem repLink_mk_nil_iff {h : Heap} {st : List SNode} {g b : Nat} {nd : MNode} {z : Bool × T × List Nat}
    (hz : repLink h st g (.ptr b) = some z) (hb : h[b]? = some nd) : T.mk z.2.1 = T.nil ↔ isEmptyN nd = true := by
  constructor
  · intro hmk
    cases he : isEmptyN nd with
    | true => rfl
    | false =>
      rw [repLink_mk_of_nonempty hz hb he] at hmk
      exact absurd hmk (repLink_row_ne_nil hz (by simp))
  · intro he
    obtain ⟨g', cs, rfl, hv, h1, hcl, rfl⟩ := repLink_ptr_inv hz hb
    have hl := (isEmptyN_iff nd).mp he
    rw [hl] at h1
    obtain ⟨c, hc, rfl⟩ := seqO_map_single h1
    simp at hc; subst hc
    rw [nodeRep_row]
    simp [pr, mkRow_single, T.mk]


theorem pruneRep_row (z : Bool × T × List Nat) : (pruneRep z).2.1 = T.mk z.2.1 := by
  unfold pruneRep
  split
  · next h => exact h.symm
  · next h =>
    rcases mk_eq_nil_or z.2.1 with h1 | h1
    · exact absurd h1 h
    · exact h1.symm

theorem pruneRep_fp_sublist (z : Bool × T × List Nat) : (pruneRep z).2.2.Sublist z.2.2 := by
  unfold pruneRep
  split
  · exact List.nil_sublist _
  · exact List.Sublist.refl _

theorem pruneRep_flag {z : Bool × T × List Nat} (hz : z.1 = false) : (pruneRep z).1 = false := by
  unfold pruneRep
  split
  · rfl
  · exact hz

/-- the link that `relink` writes for a child node: the child, or the absent link when the child is empty -/
theorem repLink_pruned {h : Heap} {st : List SNode} {g b : Nat} {cnd : MNode} {z : Bool × T × List Nat}
    (hz : repLink h st g (.ptr b) = some z) (hb : h[b]? = some cnd) :
    repLink h st g (if isEmptyN cnd then HLink.nil else HLink.ptr b) =
      some (false, (pruneRep z).2.1, (pruneRep z).2.2) := by
  unfold pruneRep
  cases he : isEmptyN cnd with
  | true =>
    rw [if_pos rfl, if_pos ((repLink_mk_nil_iff hz hb).mpr he)]
    exact repLink_nil _ _ _
  | false =>
    have hmk : ¬ T.mk z.2.1 = T.nil := fun h0 => by
      have := (repLink_mk_nil_iff hz hb).mp h0
      rw [he] at this; cases this
    rw [if_neg Bool.false_ne_true, if_neg hmk]
    have hzf := repLink_flag_ptr hz
    obtain ⟨f, r, p⟩ := z
    obtain rfl : f = false := hzf
    exact hz

theorem topRep_row (frs : List Fr) (bx : Bool × T × List Nat) : (topRep frs bx).2.1 = plugDel frs bx.2.1 := by
  induction frs with
  | nil => rfl
  | cons fr frs ih =>
    show (fr.plug (pruneRep (topRep frs bx))).2.1 = fr.plugRow (T.mk (plugDel frs bx.2.1))
    rw [Fr.plug_row, pruneRep_row, ih]

/-- pruning only drops addresses -/
theorem topRep_fp_sublist (frs : List Fr) (bx : Bool × T × List Nat) :
    (topRep frs bx).2.2.Sublist (plug frs bx).2.2 := by
  induction frs with
  | nil => exact List.Sublist.refl _
  | cons fr frs ih =>
    show (fr.plug (pruneRep (topRep frs bx))).2.2.Sublist (fr.plug (plug frs bx)).2.2
    rw [Fr.plug_fp, Fr.plug_fp]
    exact List.Sublist.append (List.Sublist.append (List.Sublist.refl _) ((pruneRep_fp_sublist _).trans ih))
      (List.Sublist.refl _)

/-! ## nothing is pruned above a non-empty bottom -/

theorem Fr.mk_plugRow {fr : Fr} (hf : fr.Fits) {z : T} (hz : z ≠ T.nil) : T.mk (fr.plugRow z) = fr.plugRow z := by
  unfold Fr.plugRow
  by_cases hk : fr.ks = []
  · have h0 : fr.L.length + fr.R.length = 0 := by rw [hf.1, hk]; rfl
    rw [List.eq_nil_of_length_eq_zero (Nat.eq_zero_of_add_eq_zero_right h0),
      List.eq_nil_of_length_eq_zero (Nat.eq_zero_of_add_eq_zero_left h0)]
    exact mk_last_of_ne _ hz
  · refine mk_mkRow_entries ?_ hf.2 hk
    rw [List.length_append, List.length_cons, List.length_map, List.length_map, ← hf.1, Nat.add_assoc]

theorem Fr.plugRow_ne_nil (fr : Fr) (z : T) : fr.plugRow z ≠ T.nil :=
  mkRow_ne_nil (by simp)

theorem plugDel_eq_plugRow {frs : List Fr} (hf : ∀ fr ∈ frs, fr.Fits) {r : T} (hr : T.mk r = r) (hr0 : r ≠ T.nil) :
    plugDel frs r = plugRow frs r ∧ T.mk (plugRow frs r) = plugRow frs r ∧ plugRow frs r ≠ T.nil := by
  induction frs with
  | nil => exact ⟨rfl, hr, hr0⟩
  | cons fr frs ih =>
    obtain ⟨e1, e2, e3⟩ := ih (fun fr' h => hf fr' (List.mem_cons_of_mem _ h))
    refine ⟨?_, Fr.mk_plugRow (hf fr (List.mem_cons_self ..)) e3, Fr.plugRow_ne_nil _ _⟩
    show fr.plugRow (T.mk (plugDel frs r)) = fr.plugRow (plugRow frs r)
    rw [e1, e2]

end Mast.Ptr
