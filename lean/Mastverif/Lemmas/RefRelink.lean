import Mastverif.Lemmas.RefMutPath
/-! The second loop of `savePathForRoot`: re-linking bottom-up.  A node that became empty is written into its parent
    as the absent link, possibly cascading upward. -/
namespace Mast.Ptr
open Mast.Heap

theorem Ctx.path_mem_fp {h : Heap} {st : List SNode} {q : List (Nat × Nat)} {frs : List Fr}
    {bx : Bool × T × List Nat} {g b j : Nat} (hctx : Ctx h st q frs) : q.getLast? = some (b, j) →
    repLink h st g (.ptr b) = some bx → (∀ p ∈ q, ∃ nd, h[p.1]? = some nd ∧ nd.shared = false) →
    ∀ p ∈ q, p.1 ∈ (plug frs bx).2.2 := by
  refine hctx.induction ?_ ?_
  · intro z hlast hbx hun p hp
    obtain rfl := List.mem_singleton.mp hp
    obtain rfl : p = (b, j) := Option.some.inj hlast
    obtain ⟨nd, hnd, hs⟩ := hun (b, j) (List.mem_singleton.mpr rfl)
    obtain ⟨g', cs, _, _, _, _, rfl⟩ := repLink_ptr_inv hbx hnd
    show b ∈ (nodeRep false (ownFp nd b) nd.keys nd.vals cs).2.2
    rw [nodeRep_fp]
    exact List.mem_append_left _ (mem_ownFp.mpr ⟨hs, rfl⟩)
  · intro a i b1 j1 rest fr frs hf _ ih hlast hbx hun p hp
    obtain ⟨nd, _, hnd, _, hown0, _⟩ := hf
    rw [List.getLast?_cons_cons] at hlast
    show p.1 ∈ (fr.plug (plug frs bx)).2.2
    rw [Fr.plug_fp]
    rcases List.mem_cons.mp hp with rfl | h
    · obtain ⟨nd', hnd', hs⟩ := hun (a, i) (List.mem_cons_self ..)
      obtain rfl := Option.some.inj (hnd.symm.trans hnd')
      rw [hown0]
      exact List.mem_append_left _ (List.mem_append_left _ (List.mem_append_left _ (mem_ownFp.mpr ⟨hs, rfl⟩)))
    · exact List.mem_append_left _ (List.mem_append_right _
        (ih hlast hbx (fun p hp => hun p (List.mem_cons_of_mem _ hp)) p h))

def RelinkOK (frs : List Fr) (bx : Bool × T × List Nat) (q : List (Nat × Nat)) (s s' : PS) : Prop :=
  s'.heap.length = s.heap.length ∧ DirtyMono s.heap s'.heap ∧
  (∀ (a : Nat) (nd : MNode), s.heap[a]? = some nd → (∀ p ∈ q, p.1 ≠ a) → s'.heap[a]? = some nd) ∧
  ∀ a0 i0 rest, q = (a0, i0) :: rest → ∃ g', repLink s'.heap s'.store g' (.ptr a0) = some (topRep frs bx)

theorem relink_spec {m : Nat} : ∀ (q : List (Nat × Nat)) (frs : List Fr) (s : PS) (bx : Bool × T × List Nat)
    (g b j : Nat), Good s → Ctx s.heap s.store q frs → q.getLast? = some (b, j) →
    repLink s.heap s.store g (.ptr b) = some bx →
    (plug frs bx).2.2.Nodup → (∀ p ∈ q, ∃ nd, s.heap[p.1]? = some nd ∧ nd.shared = false) →
    Spec (Step m) (relink m q) s (fun _ s' => RelinkOK frs bx q s s') := by
  intro q
  induction q with
  | nil => intro frs s bx g b j _ hc; cases frs <;> exact hc.elim
  | cons x rest ih =>
    intro frs s bx g b j hg hctx hlast hbx hnodup hun
    obtain ⟨a, i⟩ := x
    cases rest with
    | nil =>
      cases frs with
      | cons _ _ => exact hctx.elim
      | nil =>
        simp at hlast
        obtain ⟨rfl, rfl⟩ := hlast
        unfold relink
        exact Spec.pure ⟨rfl, DirtyMono.refl _, fun _ _ h _ => h, fun _ _ _ h => by cases h; exact ⟨g, hbx⟩⟩
    | cons y rest' =>
      obtain ⟨b1, j1⟩ := y
      cases frs with
      | nil => exact hctx.elim
      | cons fr frs1 =>
        have hmem := Ctx.path_mem_fp hctx hlast hbx hun
        obtain ⟨⟨nd, gk, hnd, hv, hown0, hks, hvs, hi, hilt, hL, hR⟩, hrest⟩ := hctx
        have hlast' : ((b1, j1) :: rest').getLast? = some (b, j) := by
          rw [List.getLast?_cons_cons] at hlast; exact hlast
        have hun' : ∀ p ∈ (b1, j1) :: rest', ∃ nd, s.heap[p.1]? = some nd ∧ nd.shared = false :=
          fun p hp => hun p (List.mem_cons_of_mem _ hp)
        have hmem' := Ctx.path_mem_fp hrest hlast' hbx hun'
        have hfp : (plug (fr :: frs1) bx).2.2 = (fr.own ++ fps fr.L) ++ (plug frs1 bx).2.2 ++ fps fr.R := by
          show (fr.plug (plug frs1 bx)).2.2 = _
          rw [Fr.plug_fp]
        rw [hfp] at hnodup hmem
        have hsa : nd.shared = false := by
          obtain ⟨nd', hnd', hs⟩ := hun (a, i) (List.mem_cons_self ..)
          exact Option.some.inj (hnd'.symm.trans hnd) ▸ hs
        have hownA : fr.own = [a] := by rw [hown0]; simp [ownFp, hsa]
        have hnodup' := hnodup
        simp only [List.nodup_append, List.mem_append] at hnodup'
        obtain ⟨⟨⟨hnO, hnL, hOL⟩, hnM, hOLM⟩, hnR, hAMR⟩ := hnodup'
        have hnodup1 : (plug frs1 bx).2.2.Nodup := hnM
        -- the node `a` is not on the rest of the path, nor in any sibling footprint
        have haM : a ∉ (plug frs1 bx).2.2 := by
          intro h
          exact hOLM a (Or.inl (by rw [hownA]; simp)) a h rfl
        have haT : a ∉ (topRep frs1 bx).2.2 := fun h => haM ((topRep_fp_sublist frs1 bx).subset h)
        have hatail : ∀ p ∈ (b1, j1) :: rest', p.1 ≠ a := by
          intro p hp h
          exact haM (h ▸ hmem' p hp)
        have hpathL : ∀ p ∈ (a, i) :: (b1, j1) :: rest', p.1 ∉ fps fr.L := by
          intro p hp hL'
          rcases List.mem_cons.mp hp with h | h
          · subst h
            exact hOL a (by rw [hownA]; simp) a hL' rfl
          · exact hOLM p.1 (Or.inr hL') p.1 (hmem' p h) rfl
        have hpathR : ∀ p ∈ (a, i) :: (b1, j1) :: rest', p.1 ∉ fps fr.R := by
          intro p hp hR'
          rcases List.mem_cons.mp hp with h | h
          · subst h
            exact hAMR a (Or.inl (Or.inl (by rw [hownA]; simp))) a hR' rfl
          · exact hAMR p.1 (Or.inr (hmem' p h)) p.1 hR' rfl
        unfold relink
        refine Spec.bind (ih frs1 s bx g b j hg hrest hlast' hbx hnodup1 hun') ?_
        rintro _ sa _ hsta ⟨hlena, hdma, hfra, htop⟩
        obtain ⟨g1, hxb⟩ := htop b1 j1 rest' rfl
        refine Spec.bind (read_spec b1 sa) ?_
        rintro cnd s1 _ _ ⟨rfl, hcnd⟩
        refine Spec.bind (read_spec a sa) ?_
        rintro nda s1 _ _ ⟨rfl, hnda⟩
        have hnda' : sa.heap[a]? = some nd := hfra a nd hnd hatail
        obtain rfl : nd = nda := Option.some.inj (hnda'.symm.trans hnda)
        refine Spec.ite (fun _ => Spec.panic) (fun _ => ?_)
        · refine (write_spec (m := m) a _ sa).conseq ?_
          rintro _ s' _ hst' ⟨old, hold, ho1, ho2, _, _, _, rfl⟩
          have hlt : a < sa.heap.length := (List.getElem?_eq_some_iff.mp hnda').1
          obtain ⟨lk, hlk⟩ : ∃ lk : HLink, lk = (if isEmptyN cnd then HLink.nil else HLink.ptr b1) := ⟨_, rfl⟩
          rw [← hlk]
          obtain ⟨nd1, hnd1⟩ : ∃ nd1 : MNode, nd1 = { nd with links := nd.links.set i lk } := ⟨_, rfl⟩
          obtain ⟨H, hH⟩ : ∃ H : Heap, H = sa.heap.set a nd1 := ⟨_, rfl⟩
          rw [← hnd1]
          show RelinkOK (fr :: frs1) bx ((a, i) :: (b1, j1) :: rest') s { sa with heap := sa.heap.set a nd1 }
          rw [← hH]
          have hHa : H[a]? = some nd1 := by rw [hH]; exact List.getElem?_set_self hlt
          have hHne : ∀ a', a' ≠ a → H[a']? = sa.heap[a']? := by
            intro a' hne'; rw [hH, List.getElem?_set_ne (Ne.symm hne')]
          -- the re-linked node denotes the frame plugged with the pruned child
          have hrepA : repLink H sa.store (max gk g1 + 1) (.ptr a) = some (topRep (fr :: frs1) bx) := by
            -- objects off the path are the same in `s` and in the final heap
            have hfr2 : ∀ (a' : Nat) (x : MNode), s.heap[a']? = some x →
                ¬ (∃ p ∈ (a, i) :: (b1, j1) :: rest', p.1 = a') → H[a']? = some x := by
              intro a' x hx hnp
              have hne' : a' ≠ a := fun h => hnp ⟨(a, i), List.mem_cons_self .., h.symm⟩
              rw [hHne a' hne']
              exact hfra a' x hx (fun p hp h => hnp ⟨p, List.mem_cons_of_mem _ hp, h⟩)
            have hW2 : ∀ (a' : Nat) (x : MNode), s.heap[a']? = some x →
                (∃ p ∈ (a, i) :: (b1, j1) :: rest', p.1 = a') → x.shared = false := by
              rintro a' x hx ⟨p, hp, rfl⟩
              obtain ⟨x', hx', hs⟩ := hun p hp
              exact Option.some.inj (hx'.symm.trans hx) ▸ hs
            have hsib : ∀ (cs : List (Bool × T × List Nat)) (ls : List HLink),
                seqO (ls.map (repLink s.heap s.store gk)) = some cs →
                (∀ p ∈ (a, i) :: (b1, j1) :: rest', p.1 ∉ fps cs) →
                seqO (ls.map (repLink H sa.store (max gk g1))) = some cs := by
              intro cs ls hcs hdis
              refine seqO_map_congr hcs (fun l hl c hc => ?_)
              have := repLink_frame (h := s.heap) (st := s.store) [] _ hfr2 hW2 gk l c hc (by
                rintro y hy ⟨p, hp, rfl⟩
                obtain ⟨c', hc1, hc2⟩ := seqO_map_mem hcs hl
                exact hdis p hp (mem_fps.mpr ⟨c, Option.some.inj (hc1.symm.trans hc) ▸ hc2, hy⟩))
              rw [List.append_nil, ← hsta.store] at this
              exact repLink_mono_le this (Nat.le_max_left _ _)
            -- the new link denotes the pruned child
            have hchild : repLink H sa.store (max gk g1) lk =
                some (false, (pruneRep (topRep frs1 bx)).2.1, (pruneRep (topRep frs1 bx)).2.2) := by
              have := repLink_frame (h := sa.heap) (st := sa.store) [] (fun y => y = a) (h' := H)
                (fun a' x hx hne' => by rw [hHne a' hne']; exact hx)
                (fun a' x hx h => by rw [h] at hx; exact Option.some.inj (hnda'.symm.trans hx) ▸ hsa)
                g1 lk (false, (pruneRep (topRep frs1 bx)).2.1, (pruneRep (topRep frs1 bx)).2.2)
                (hlk ▸ repLink_pruned hxb hcnd)
                (fun y hy h => haT ((pruneRep_fp_sublist _).subset (h ▸ hy)))
              rw [List.append_nil] at this
              exact repLink_mono_le this (Nat.le_max_right _ _)
            have hset : nd.links.set i lk = nd.links.take i ++ lk :: nd.links.drop (i + 1) := by
              rw [List.set_eq_take_append_cons_drop, if_pos hilt]
            refine repLink_ptr_some.mpr ⟨max gk g1, nd1,
              fr.L ++ (false, (pruneRep (topRep frs1 bx)).2.1, (pruneRep (topRep frs1 bx)).2.2) :: fr.R,
              rfl, hHa, ?_, ?_, ?_⟩
            · unfold ValidN; rw [hnd1]; simp only [List.length_set]; exact hv
            · rw [hnd1]
              show seqO ((nd.links.set i lk).map _) = some _
              rw [hset]
              refine seqO_map_append.mpr ⟨fr.L, _, hsib fr.L _ hL hpathL, ?_, rfl⟩
              exact seqO_map_cons.mpr ⟨_, fr.R, hchild, hsib fr.R _ hR hpathR, rfl⟩
            · show fr.plug (pruneRep (topRep frs1 bx)) = _
              unfold Fr.plug
              rw [hnd1]
              simp only [ownFp, hsa, hownA, hks, hvs]
              rfl

          refine ⟨by show H.length = _; rw [hH, List.length_set]; exact hlena, ?_, ?_,
            fun _ _ _ h => by cases h; exact ⟨max gk g1 + 1, hrepA⟩⟩
          · show DirtyMono s.heap H
            rw [hH]
            exact hdma.trans (dirtyMono_set hnda' (fun h => by rw [hnd1]; exact h))
          · intro a' x hx hnp
            have h1 := hfra a' x hx (fun p hp => hnp p (List.mem_cons_of_mem _ hp))
            have hne' : a' ≠ a := fun h => hnp (a, i) (List.mem_cons_self ..) h.symm
            show H[a']? = some x
            rw [hHne a' hne']; exact h1

end Mast.Ptr
