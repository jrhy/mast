import Mastverif.Model.Rep
import Mastverif.Lemmas.Get
/-!
Row lemmas (pure list reasoning, no heap, no sortedness): the equations of `mkRow`, the two inductions over the
lists of a node (`row_induction`, `entries_induction`), and `mkRow` against `T.get`, `T.mk`, `T.split`, `T.ins`:
what each of them does to the row of a node, in terms of the node's lists and the index `keyIdx` of the key.
-/
namespace Mast.Ptr
open Mast.Heap

theorem mkRow_single (p : Bool) (c : T) (ks vs : List Nat) : mkRow [(p, c)] ks vs = T.last p c := by
  unfold mkRow; rfl

theorem mkRow_cons' (p : Bool) (c : T) (ls : List (Bool × T)) (k : Nat) (ks : List Nat) (v : Nat) (vs : List Nat)
    (h : ls ≠ []) : mkRow ((p, c) :: ls) (k :: ks) (v :: vs) = T.cons p c k v (mkRow ls ks vs) := by
  cases ls with
  | nil => exact absurd rfl h
  | cons x ls => rfl

theorem mkRow_cons (p : Bool) (c : T) (x : Bool × T) (ls : List (Bool × T)) (k : Nat) (ks : List Nat) (v : Nat) (vs : List Nat) :
    mkRow ((p, c) :: x :: ls) (k :: ks) (v :: vs) = T.cons p c k v (mkRow (x :: ls) ks vs) :=
  mkRow_cons' p c (x :: ls) k ks v vs (List.cons_ne_nil _ _)

theorem mkRow_ne_nil {cs : List (Bool × T)} {ks vs : List Nat} (h : cs ≠ []) : mkRow cs ks vs ≠ T.nil := by
  cases cs with
  | nil => exact absurd rfl h
  | cons x ls =>
    obtain ⟨p, c⟩ := x
    cases ls with
    | nil => rw [mkRow_single]; simp
    | cons y ls =>
      cases ks with
      | nil => unfold mkRow; simp
      | cons k ks =>
        cases vs with
        | nil => unfold mkRow; simp
        | cons v vs => rw [mkRow_cons]; simp

/-- the child row at index `i` (absent: `T.nil`) -/
def childAt (cs : List (Bool × T)) (i : Nat) : T := (cs[i]?.map (·.2)).getD T.nil

theorem keyIdx_le (ks : List Nat) (k : Nat) : keyIdx ks k ≤ ks.length := by
  induction ks with
  | nil => exact Nat.le_refl _
  | cons x xs ih =>
    rw [keyIdx]
    split
    · exact Nat.succ_le_succ ih
    · exact Nat.zero_le _

/-- induction over `n` keys, `n` values and `n + 1` children (links, or what they denote) -/
@[elab_as_elim]
theorem row_induction {α : Type} {motive : List α → List Nat → List Nat → Prop}
    (last : ∀ c, motive [c] [] [])
    (cons : ∀ c x ls k ks v vs, motive (x :: ls) ks vs → motive (c :: x :: ls) (k :: ks) (v :: vs)) :
    ∀ (ks : List Nat) (cs : List α) (vs : List Nat),
      cs.length = ks.length + 1 → vs.length = ks.length → motive cs ks vs := by
  intro ks
  induction ks with
  | nil =>
    intro cs vs hl hv
    obtain ⟨c, rfl⟩ := List.length_eq_one_iff.mp hl
    rw [List.length_eq_zero_iff.mp hv]
    exact last c
  | cons k ks ih =>
    intro cs vs hl hv
    obtain ⟨c, cs', rfl⟩ := List.exists_cons_of_length_eq_add_one hl
    obtain ⟨x, ls, rfl⟩ := List.exists_cons_of_length_eq_add_one (Nat.succ.inj hl)
    obtain ⟨v, vs', rfl⟩ := List.exists_cons_of_length_eq_add_one hv
    exact cons c x ls k ks v vs' (ih _ _ (Nat.succ.inj hl) (Nat.succ.inj hv))

/-- as many children as keys and values (the part of a node in front of some child) -/
@[elab_as_elim]
theorem entries_induction {α : Type} {motive : List α → List Nat → List Nat → Prop}
    (nil : motive [] [] [])
    (cons : ∀ c ls k ks v vs, motive ls ks vs → motive (c :: ls) (k :: ks) (v :: vs)) :
    ∀ (ks : List Nat) (cs : List α) (vs : List Nat), cs.length = ks.length → vs.length = ks.length →
      motive cs ks vs := by
  intro ks
  induction ks with
  | nil =>
    intro cs vs hl hv
    rw [List.length_eq_zero_iff.mp hl, List.length_eq_zero_iff.mp hv]
    exact nil
  | cons k ks ih =>
    intro cs vs hl hv
    obtain ⟨c, ls, rfl⟩ := List.exists_cons_of_length_eq_add_one hl
    obtain ⟨v, vs', rfl⟩ := List.exists_cons_of_length_eq_add_one hv
    exact cons c ls k ks v vs' (ih _ _ (Nat.succ.inj hl) (Nat.succ.inj hv))

theorem childAt_cons_succ (x : Bool × T) (cs : List (Bool × T)) (i : Nat) : childAt (x :: cs) (i + 1) = childAt cs i := rfl

theorem childAt_cons_zero (x : Bool × T) (cs : List (Bool × T)) : childAt (x :: cs) 0 = x.2 := rfl

theorem get_mkRow_zero : ∀ (ks : List Nat) (cs : List (Bool × T)) (vs : List Nat) (k : Nat),
    cs.length = ks.length + 1 → vs.length = ks.length →
    T.get k 0 (mkRow cs ks vs) = if ks[keyIdx ks k]? = some k then vs[keyIdx ks k]? else none := by
  intro ks cs vs k hl hv
  refine row_induction ?_ ?_ ks cs vs hl hv
  · intro c; rfl
  · intro c x ls k' ks v vs ih
    rw [mkRow_cons, T.get, keyIdx]
    by_cases h1 : k' < k
    · simp only [if_pos h1, List.getElem?_cons_succ, ih]
    · simp only [if_neg h1, List.getElem?_cons_zero, Option.some.injEq]

theorem get_mkRow_succ : ∀ (ks : List Nat) (cs : List (Bool × T)) (vs : List Nat) (k s : Nat),
    cs.length = ks.length + 1 → vs.length = ks.length →
    T.get k (s + 1) (mkRow cs ks vs) =
      if ks[keyIdx ks k]? = some k then none else T.get k s (childAt cs (keyIdx ks k)) := by
  intro ks cs vs k s hl hv
  refine row_induction ?_ ?_ ks cs vs hl hv
  · intro c; rfl
  · intro c x ls k' ks v vs ih
    rw [mkRow_cons, T.get, keyIdx]
    by_cases h1 : k' < k
    · simp only [if_pos h1, List.getElem?_cons_succ, childAt_cons_succ, ih]
    · simp only [if_neg h1, List.getElem?_cons_zero, childAt_cons_zero, Option.some.injEq]

theorem get_mkRow_absent (ks : List Nat) (cs : List (Bool × T)) (vs : List Nat) (k s : Nat)
    (hl : cs.length = ks.length + 1) (hv : vs.length = ks.length)
    (hk : ks[keyIdx ks k]? ≠ some k) (hc : childAt cs (keyIdx ks k) = T.nil) :
    T.get k s (mkRow cs ks vs) = none := by
  cases s with
  | zero => rw [get_mkRow_zero ks cs vs k hl hv, if_neg hk]
  | succ s => rw [get_mkRow_succ ks cs vs k s hl hv, if_neg hk, hc, T.get_nil]

/-! ## `mk` -/

theorem mk_of_ne {r : T} (h : ∀ p, r ≠ T.last p T.nil) : T.mk r = r := by
  unfold T.mk
  split
  · next p => exact absurd rfl (h p)
  · rfl

theorem mk_last_nil (p : Bool) : T.mk (T.last p T.nil) = T.nil := rfl

theorem mk_last_of_ne (p : Bool) {c : T} (h : c ≠ T.nil) : T.mk (T.last p c) = T.last p c := by
  apply mk_of_ne
  intro p' h'
  injection h' with _ h2
  exact h h2

theorem mk_cons (p : Bool) (c : T) (k v : Nat) (r : T) : T.mk (T.cons p c k v r) = T.cons p c k v r := rfl

theorem mk_nil : T.mk T.nil = T.nil := rfl

theorem mk_mkRow_entries {cs : List (Bool × T)} {ks vs : List Nat} (hl : cs.length = ks.length + 1)
    (hv : vs.length = ks.length) (hk : ks ≠ []) : T.mk (mkRow cs ks vs) = mkRow cs ks vs := by
  refine row_induction (fun _ hk => absurd rfl hk) (fun _ _ _ _ _ _ _ _ _ => rfl) ks cs vs hl hv hk

/-! ## `split` -/

theorem split_mkRow : ∀ (ks : List Nat) (cs : List (Bool × T)) (vs : List Nat) (x : Nat),
    cs.length = ks.length + 1 → vs.length = ks.length →
    T.split (mkRow cs ks vs) x =
      (mkRow (cs.take (keyIdx ks x) ++ [(false, T.mk (T.split (childAt cs (keyIdx ks x)) x).1)])
          (ks.take (keyIdx ks x)) (vs.take (keyIdx ks x)),
       mkRow ((false, T.mk (T.split (childAt cs (keyIdx ks x)) x).2) :: cs.drop (keyIdx ks x + 1))
          (ks.drop (keyIdx ks x)) (vs.drop (keyIdx ks x))) := by
  intro ks cs vs x hl hv
  refine row_induction ?_ ?_ ks cs vs hl hv
  · intro c; rfl
  · rintro ⟨p, c⟩ y ls k' ks v vs ih
    rw [mkRow_cons, T.split, keyIdx]
    by_cases h1 : k' < x
    · simp only [if_pos h1, ih, childAt_cons_succ, List.take_succ_cons, List.drop_succ_cons, List.cons_append]
      rw [mkRow_cons' _ _ _ _ _ _ _ (by simp)]
    · simp only [if_neg h1, childAt_cons_zero, List.take_zero, List.nil_append, List.drop_succ_cons, List.drop_zero,
        mkRow_single, mkRow_cons]

theorem split_nil (x : Nat) : T.split T.nil x = (T.nil, T.nil) := rfl

/-- `split` sees through `mk` -/
theorem mk_split_mk (r : T) (x : Nat) :
    T.mk (T.split (T.mk r) x).1 = T.mk (T.split r x).1 ∧ T.mk (T.split (T.mk r) x).2 = T.mk (T.split r x).2 := by
  by_cases h : ∃ p, r = T.last p T.nil
  · obtain ⟨p, rfl⟩ := h; exact ⟨rfl, rfl⟩
  · rw [mk_of_ne (fun p hp => h ⟨p, hp⟩)]; exact ⟨rfl, rfl⟩

/-- splitting the right half again at the same key: nothing is cut off, the half is reproduced -/
theorem split_split (c : T) (x : Nat) :
    (T.split (T.split c x).2 x).2 = (T.split c x).2 ∧ T.mk (T.split (T.split c x).2 x).1 = T.nil := by
  induction c with
  | nil => exact ⟨rfl, rfl⟩
  | last p c ih =>
    simp only [T.split]
    have h := mk_split_mk (T.split c x).2 x
    rw [h.1, h.2, ih.1, ih.2]
    exact ⟨rfl, rfl⟩
  | cons p c k v r ihc ihr =>
    simp only [T.split]
    by_cases h1 : k < x
    · simp only [h1, if_true]; exact ihr
    · simp only [h1, if_false, T.split]
      have h := mk_split_mk (T.split c x).2 x
      rw [h.1, h.2, ihc.1, ihc.2]
      exact ⟨rfl, rfl⟩

/-! ## `ins` -/

theorem ins_mkRow_zero : ∀ (ks : List Nat) (cs : List (Bool × T)) (vs : List Nat) (k v : Nat),
    cs.length = ks.length + 1 → vs.length = ks.length →
    T.ins k v 0 (mkRow cs ks vs) =
      if ks[keyIdx ks k]? = some k then some (mkRow cs ks (vs.set (keyIdx ks k) v))
      else some (mkRow (cs.take (keyIdx ks k) ++ (false, T.mk (T.split (childAt cs (keyIdx ks k)) k).1) ::
                    (false, T.mk (T.split (childAt cs (keyIdx ks k)) k).2) :: cs.drop (keyIdx ks k + 1))
                  (insertAt ks (keyIdx ks k) k) (insertAt vs (keyIdx ks k) v)) := by
  intro ks cs vs k v hl hv
  refine row_induction ?_ ?_ ks cs vs hl hv
  · intro c; rfl
  · rintro ⟨p, c⟩ y ls k' ks v' vs ih
    rw [mkRow_cons, T.ins, keyIdx]
    by_cases h1 : k' < k
    · rw [if_pos h1, if_pos h1, ih]
      by_cases h3 : ks[keyIdx ks k]? = some k
      · simp only [if_pos h3, List.getElem?_cons_succ, Option.map_some, List.set_cons_succ, mkRow_cons]
      · simp only [if_neg h3, List.getElem?_cons_succ, Option.map_some, childAt_cons_succ, List.take_succ_cons,
          List.drop_succ_cons, List.cons_append, insertAt]
        rw [mkRow_cons' _ _ _ _ _ _ _ (List.append_ne_nil_of_right_ne_nil _ (List.cons_ne_nil _ _))]
    · rw [if_neg h1, if_neg h1]
      by_cases h2 : k' = k
      · subst h2
        simp only [if_true, List.getElem?_cons_zero, List.set_cons_zero, mkRow_cons]
      · simp only [if_neg h2, List.getElem?_cons_zero, Option.some.injEq, childAt_cons_zero, insertAt, List.take_zero,
          List.nil_append, List.drop_succ_cons, List.drop_zero]
        rw [mkRow_cons' _ _ _ _ _ _ _ (List.cons_ne_nil _ _), mkRow_cons]

theorem ins_mkRow_succ : ∀ (ks : List Nat) (cs : List (Bool × T)) (vs : List Nat) (k v s : Nat),
    cs.length = ks.length + 1 → vs.length = ks.length →
    T.ins k v (s + 1) (mkRow cs ks vs) =
      if ks[keyIdx ks k]? = some k then none
      else (T.ins k v s (childAt cs (keyIdx ks k))).map
        (fun c' => mkRow (cs.take (keyIdx ks k) ++ (false, c') :: cs.drop (keyIdx ks k + 1)) ks vs) := by
  intro ks cs vs k v s hl hv
  refine row_induction ?_ ?_ ks cs vs hl hv
  · intro c; rfl
  · rintro ⟨p, c⟩ y ls k' ks v' vs ih
    rw [mkRow_cons, T.ins, keyIdx]
    by_cases h1 : k' < k
    · simp only [if_pos h1, ih, childAt_cons_succ, List.getElem?_cons_succ]
      split
      · rfl
      · simp only [Option.map_map, List.take_succ_cons, List.drop_succ_cons, List.cons_append]
        congr 1
        funext c'
        exact (mkRow_cons' _ _ _ _ _ _ _ (by simp)).symm
    · simp only [if_neg h1, List.getElem?_cons_zero, Option.some.injEq, childAt_cons_zero, List.take_zero,
        List.nil_append, List.drop_succ_cons, List.drop_zero, mkRow_cons]

/-! ## `unmk`: an absent link read as an empty node (`follow` with `create`) -/

theorem unmk_of_ne_nil {r : T} (h : r ≠ T.nil) : T.unmk r = r := by
  cases r with
  | nil => exact absurd rfl h
  | last p c => rfl
  | cons p c k v r => rfl

theorem get_unmk (k s : Nat) (c : T) : T.get k s (T.unmk c) = T.get k s c := by
  cases c with
  | nil => cases s <;> rfl
  | last p c => rfl
  | cons p c k' v' r => rfl

theorem ins_unmk (k v s : Nat) (c : T) : T.ins k v s (T.unmk c) = T.ins k v s c := by
  cases c with
  | nil =>
    cases s <;> rfl
  | last p c => rfl
  | cons p c k' v' r => rfl

theorem del_unmk (k s : Nat) (c : T) : T.del k s (T.unmk c) = T.del k s c := by
  cases c with
  | nil => cases s <;> rfl
  | last _ _ => rfl
  | cons _ _ _ _ _ => rfl

end Mast.Ptr
