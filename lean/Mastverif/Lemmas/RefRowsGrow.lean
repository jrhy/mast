import Mastverif.Lemmas.RefRows
/-! Row lemmas for `T.canGrow`, `T.grow`, and the fuel of `Tree.growLoop`. -/
namespace Mast.Ptr
open Mast.Heap

/-- flags on absent links are `false` (true of every row that `repLink` builds) -/
def FlagOK (cs : List (Bool × T)) : Prop := ∀ c ∈ cs, c.2 = T.nil → c.1 = false

theorem canGrow_mkRow (layer : Nat → Nat) (h : Nat) : ∀ (ks : List Nat) (cs : List (Bool × T)) (vs : List Nat),
    cs.length = ks.length + 1 → vs.length = ks.length →
    T.canGrow layer h (mkRow cs ks vs) = ks.any (fun k => decide (h < layer k)) := by
  intro ks cs vs hl hv
  refine row_induction ?_ ?_ ks cs vs hl hv
  · intro c; rfl
  · intro c x ls k ks v vs ih
    rw [mkRow_cons, T.canGrow, List.any_cons, ih]

theorem unmk_mk_mkRow {cs : List (Bool × T)} {ks vs : List Nat} (hl : cs.length = ks.length + 1)
    (hv : vs.length = ks.length) (hf : FlagOK cs) : T.unmk (T.mk (mkRow cs ks vs)) = mkRow cs ks vs := by
  refine row_induction ?_ (fun _ _ _ _ _ _ _ _ _ => rfl) ks cs vs hl hv hf
  rintro ⟨p, c⟩ hf
  cases c with
  | nil => cases hf (p, T.nil) List.mem_cons_self rfl; rfl
  | last p' c' => rfl
  | cons p' c' k' v' r' => rfl

/-- a run of low keys followed by a high key: the run becomes the child left of the high key -/
theorem grow_low_high (layer : Nat → Nat) (h : Nat) (k v : Nat) (hk : h < layer k) (restcs : List (Bool × T))
    (ks' vs' : List Nat) (hrl : restcs.length = ks'.length + 1) :
    ∀ (lowks : List Nat) (segcs : List (Bool × T)) (lowvs : List Nat),
    segcs.length = lowks.length + 1 → lowvs.length = lowks.length → (∀ k0 ∈ lowks, layer k0 ≤ h) → FlagOK segcs →
    T.grow layer h (mkRow (segcs ++ restcs) (lowks ++ k :: ks') (lowvs ++ v :: vs')) =
      T.cons false (T.mk (mkRow segcs lowks lowvs)) k v (T.grow layer h (mkRow restcs ks' vs')) := by
  have hrne : restcs ≠ [] := List.ne_nil_of_length_eq_add_one hrl
  intro lowks segcs lowvs hl hv
  -- the lengths stay in the statement: the step needs them of the shorter row
  refine row_induction ?_ ?_ lowks segcs lowvs hl hv hl hv
  · rintro ⟨p, c⟩ _ _ _ _
    show T.grow layer h (mkRow ((p, c) :: restcs) (k :: ks') (v :: vs')) = _
    rw [mkRow_cons' _ _ _ _ _ _ _ hrne, T.grow, if_pos hk]; rfl
  · rintro ⟨p, c⟩ y ls k0 ks v0 vs ih hl hv hlow hf
    have hf' : FlagOK (y :: ls) := fun c hc => hf c (List.mem_cons_of_mem _ hc)
    have hl' := Nat.succ.inj hl
    have hv' := Nat.succ.inj hv
    show T.grow layer h (mkRow ((p, c) :: (_ ++ restcs)) (k0 :: (_ ++ k :: ks')) (v0 :: (_ ++ v :: vs'))) = _
    rw [mkRow_cons' _ _ _ _ _ _ _ (List.append_ne_nil_of_right_ne_nil _ hrne), T.grow,
      if_neg (Nat.not_lt.mpr (hlow k0 List.mem_cons_self)),
      ih hl' hv' (fun k1 hk1 => hlow k1 (List.mem_cons_of_mem _ hk1)) hf', T.prepend,
      unmk_mk_mkRow hl' hv' hf', mkRow_cons]
    rfl

/-- a run of low keys up to the end of the node: the run becomes the last child -/
theorem grow_low_end (layer : Nat → Nat) (h : Nat) :
    ∀ (lowks : List Nat) (segcs : List (Bool × T)) (lowvs : List Nat),
    segcs.length = lowks.length + 1 → lowvs.length = lowks.length → (∀ k0 ∈ lowks, layer k0 ≤ h) → FlagOK segcs →
    T.grow layer h (mkRow segcs lowks lowvs) = T.last false (T.mk (mkRow segcs lowks lowvs)) := by
  intro lowks segcs lowvs hl hv
  refine row_induction ?_ ?_ lowks segcs lowvs hl hv hl hv
  · intro c _ _ _ _; rfl
  · rintro ⟨p, c⟩ y ls k0 ks v0 vs ih hl hv hlow hf
    have hf' : FlagOK (y :: ls) := fun c hc => hf c (List.mem_cons_of_mem _ hc)
    have hl' := Nat.succ.inj hl
    have hv' := Nat.succ.inj hv
    rw [mkRow_cons, T.grow, if_neg (Nat.not_lt.mpr (hlow k0 List.mem_cons_self)),
      ih hl' hv' (fun k1 hk1 => hlow k1 (List.mem_cons_of_mem _ hk1)) hf', T.prepend, unmk_mk_mkRow hl' hv' hf']
    rfl

/-- the row `R` with the links `cs` and entries `(ks, vs)` consed in front of it, one link per entry -/
def appendRow : List (Bool × T) → List Nat → List Nat → T → T
  | (p, c) :: cs, k :: ks, v :: vs, R => T.cons p c k v (appendRow cs ks vs R)
  | _, _, _, R => R

theorem appendRow_nil (R : T) : appendRow [] [] [] R = R := rfl

theorem appendRow_append (cs1 : List (Bool × T)) (ks1 vs1 : List Nat) (cs2 : List (Bool × T)) (ks2 vs2 : List Nat)
    (R : T) (hl : cs1.length = ks1.length) (hv : vs1.length = ks1.length) :
    appendRow (cs1 ++ cs2) (ks1 ++ ks2) (vs1 ++ vs2) R = appendRow cs1 ks1 vs1 (appendRow cs2 ks2 vs2 R) := by
  refine entries_induction rfl ?_ ks1 cs1 vs1 hl hv
  rintro ⟨p0, c0⟩ cs1 k0 ks1 v0 vs1 ih
  simp only [List.cons_append, appendRow]
  rw [ih]

theorem appendRow_mkRow (A : List (Bool × T)) (ka va : List Nat) (B : List (Bool × T)) (kb vb : List Nat)
    (hl : A.length = ka.length) (hv : va.length = ka.length) (hB : B ≠ []) :
    appendRow A ka va (mkRow B kb vb) = mkRow (A ++ B) (ka ++ kb) (va ++ vb) := by
  refine entries_induction rfl ?_ ka A va hl hv
  rintro ⟨p0, c0⟩ A k0 ka v0 va ih
  simp only [List.cons_append, appendRow]
  rw [ih, mkRow_cons' _ _ _ _ _ _ _ (List.append_ne_nil_of_right_ne_nil _ hB)]

theorem appendRow_last : ∀ (cs : List (Bool × T)) (ks vs : List Nat) (p : Bool) (c : T),
    cs.length = ks.length → vs.length = ks.length →
    appendRow cs ks vs (T.last p c) = mkRow (cs ++ [(p, c)]) ks vs := by
  intro cs ks vs p c hl hv
  have := appendRow_mkRow cs ks vs [(p, c)] [] [] hl hv (List.cons_ne_nil _ _)
  rwa [List.append_nil, List.append_nil] at this

/-! ## the fuel of `Tree.growLoop` (the functional loop of `Insert`; at object level it is `growAll`) -/

def growCond (layer : Nat → Nat) (m : Tree) : Prop := m.size ≥ m.growAfter ∧ T.canGrow layer m.height m.root = true

instance (layer : Nat → Nat) (m : Tree) : Decidable (growCond layer m) := by unfold growCond; infer_instance

theorem growLoop_succ (layer : Nat → Nat) (f : Nat) (m : Tree) :
    Tree.growLoop layer (f + 1) m = if growCond layer m then Tree.growLoop layer f (Tree.growStep layer m) else m := rfl

theorem growLoop_stable (layer : Nat → Nat) : ∀ (f : Nat) (m : Tree), ¬ growCond layer (Tree.growLoop layer f m) →
    ∀ d, Tree.growLoop layer (f + d) m = Tree.growLoop layer f m := by
  intro f
  induction f with
  | zero =>
    intro m hc d
    cases d with
    | zero => rfl
    | succ d => rw [Nat.zero_add, growLoop_succ]; exact if_neg hc
  | succ f ih =>
    intro m hc d
    rw [growLoop_succ] at hc
    rw [Nat.add_right_comm, growLoop_succ, growLoop_succ]
    by_cases hm : growCond layer m
    · rw [if_pos hm] at hc
      rw [if_pos hm, if_pos hm]
      exact ih _ hc d
    · rw [if_neg hm, if_neg hm]

/-- with a branch factor ≥ 2 the loop stops by its condition within the fuel: `growAfter` at least doubles in
    every step and `size` stays -/
theorem growLoop_conv (layer : Nat → Nat) : ∀ (f : Nat) (m : Tree), 2 ≤ m.bf → m.size < m.growAfter * 2 ^ f →
    ¬ growCond layer (Tree.growLoop layer f m) := by
  intro f
  induction f with
  | zero =>
    intro m _ hs hc
    rw [Nat.pow_zero, Nat.mul_one] at hs
    exact Nat.lt_irrefl _ (Nat.lt_of_lt_of_le hs hc.1)
  | succ f ih =>
    intro m hbf hs
    rw [growLoop_succ]
    by_cases hm : growCond layer m
    · rw [if_pos hm]
      refine ih _ hbf (Nat.lt_of_lt_of_le hs ?_)
      show m.growAfter * 2 ^ (f + 1) ≤ m.growAfter * m.bf * 2 ^ f
      rw [Nat.pow_succ, Nat.mul_comm (2 ^ f) 2, ← Nat.mul_assoc]
      exact Nat.mul_le_mul_right _ (Nat.mul_le_mul_left _ hbf)
    · rw [if_neg hm]; exact hm

theorem growLoop_fuel (layer : Nat → Nat) (f : Nat) (m : Tree) (hbf : 2 ≤ m.bf) (hga : 1 ≤ m.growAfter)
    (hc : ¬ growCond layer (Tree.growLoop layer f m)) :
    Tree.growLoop layer (m.size + 1) m = Tree.growLoop layer f m := by
  -- `size < 2 ^ (size + 1) ≤ growAfter * 2 ^ (size + 1)`
  have hconv : ¬ growCond layer (Tree.growLoop layer (m.size + 1) m) :=
    growLoop_conv layer _ m hbf (Nat.lt_of_lt_of_le
      (Nat.lt_trans Nat.lt_two_pow_self (Nat.pow_lt_pow_right (Nat.lt_succ_self 1) (Nat.lt_succ_self _)))
      (Nat.le_mul_of_pos_left _ hga))
  rw [← growLoop_stable layer (m.size + 1) m hconv f, Nat.add_comm, growLoop_stable layer f m hc]

end Mast.Ptr
