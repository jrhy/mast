import Mastverif.Model.PtrSeek
import Mastverif.Lemmas.RefCursor
import Mastverif.Lemmas.RefIterEntries
/-!
# The object-level `SeekIter` yields what the functional `SeekIter` yields

`node.seekIter(i)` on a denoting object yields `Cursor.seekRow row i`, over a path that denotes `P`
that is `Cursor.out P`; `seekIter_entries` puts `Ceil` in front.
-/
namespace Mast.Ptr
open Mast.Heap Mast

variable {w : Nat}

theorem seekRow_mkRow (ks : List Nat) (cs : List (Bool × T)) (vs : List Nat) (i : Nat)
    (hl : cs.length = ks.length + 1) (hv : vs.length = ks.length) (hi : i < ks.length) (hi' : i < vs.length) :
    Cursor.seekRow (mkRow cs ks vs) i =
      (ks[i], vs[i]) :: (mkRow (cs.drop (i + 1)) (ks.drop (i + 1)) (vs.drop (i + 1))).toList := by
  refine row_induction (motive := fun cs ks vs => ∀ i (hi : i < ks.length) (hi' : i < vs.length),
    Cursor.seekRow (mkRow cs ks vs) i =
      (ks[i], vs[i]) :: (mkRow (cs.drop (i + 1)) (ks.drop (i + 1)) (vs.drop (i + 1))).toList) ?_ ?_ ks cs vs hl hv i hi hi'
  · intro c i hi
    exact absurd hi (Nat.not_lt_zero i)
  · intro c x ls k ks v vs ih i hi hi'
    rw [mkRow_cons]
    cases i with
    | zero => rw [Cursor.seekRow, T.restOf_eq_toList]; rfl
    | succ i => exact ih i (Nat.lt_of_succ_lt_succ hi) (Nat.lt_of_succ_lt_succ hi')

theorem seekNode_spec {m : Nat} (E : Env) (g f a i : Nat) (s : PS) (row : T) (hg : Good s)
    (hn : NodeRep w s g a row) :
    Spec (Grow m) (seekNode E f a i) s (fun es _ => es = Cursor.seekRow row i) := by
  obtain ⟨g', nd, cs, rfl, hnd, hval, hseq, _, rfl⟩ := hn.view
  unfold seekNode
  refine Spec.bind (read_spec a s) ?_
  rintro nd' _ _ _ ⟨rfl, hnd'⟩
  rw [hnd] at hnd'; injection hnd' with hnd'; subst hnd'
  have hcl : (cs.map fun c => (c.1, c.2.1)).length = nd.keys.length + 1 := by
    rw [List.length_map, seqO_map_length hseq]; exact hval.1
  by_cases hi : nd.keys.length ≤ i
  · rw [if_pos hi, T.seekRow_ge _ i (by rw [rowLen_mkRow nd.keys _ nd.vals hcl hval.2]; exact hi)]
    exact Spec.pure rfl
  · have hi' : i < nd.keys.length := Nat.lt_of_not_le hi
    have hv' : i < nd.vals.length := hval.2 ▸ hi'
    rw [if_neg hi, List.drop_eq_getElem_cons hi', List.drop_eq_getElem_cons hv',
      seekRow_mkRow nd.keys _ nd.vals i hcl hval.2 hi' hv']
    refine Spec.bind (Spec.pure (Q := fun r s' => r = [(nd.keys[i], nd.vals[i])] ∧ s = s') ⟨rfl, rfl⟩) ?_
    rintro here _ _ _ ⟨rfl, rfl⟩
    have hl2 : (nd.links.drop (i + 1)).length = (nd.keys.drop (i + 1)).length + 1 := by
      rw [List.length_drop, List.length_drop, hval.1, Nat.sub_add_comm hi']
    have hv2 : (nd.vals.drop (i + 1)).length = (nd.keys.drop (i + 1)).length := by
      rw [List.length_drop, List.length_drop, hval.2]
    refine Spec.bind (iterEntriesLinks_spec (m := m) _ g'
      (fun l s hg x hx => iterEntries_spec (m := m) E f g' l s hg x hx)
      (nd.links.drop (i + 1)) (nd.keys.drop (i + 1)) (nd.vals.drop (i + 1)) (cs.drop (i + 1)) s hg hl2 hv2
      (seqO_map_drop hseq (i + 1))) ?_
    intro rest s3 _ _ hrest
    refine Spec.pure ?_
    rw [hrest, List.map_drop]
    rfl

theorem seekPath_spec {m : Nat} (E : Env) (g f : Nat) : ∀ (opath : CPath) (s : PS) (P : Path), Good s →
    PathRep w s g opath P →
    Spec (Grow m) (seekPath E f opath) s (fun es _ => es = Cursor.out P) := by
  intro opath
  induction opath with
  | nil =>
    intro s P _ hp
    cases hp.nil_inv
    exact Spec.pure rfl
  | cons x o ih =>
    intro s P hg hp
    obtain ⟨a, i⟩ := x
    obtain ⟨row, p, rfl, hn, hrest⟩ := hp.cons_inv
    unfold seekPath
    refine Spec.bind (seekNode_spec (m := m) E g f a i s row hg hn) ?_
    intro xs s1 _ hgr hxs
    refine Spec.bind (ih s1 p (hgr.good hg) (hrest.grow hgr)) ?_
    intro ys s2 _ _ hys
    refine Spec.pure ?_
    rw [hxs, hys]; rfl

theorem seekIter_entries (E : Env) (t : PTree) (f k g : Nat) (s : PS) (x : Bool × T × List Nat) (hg : Good s)
    (hx : repLink s.heap s.store g t.root = some x) (hnd : x.2.2.Nodup) (hown : FpOwned s.heap t.id x.2.2) :
    Spec (Grow t.id) (seekIter E t f k) s (fun es _ => es = Cursor.seekIter f x.2.1 k) := by
  unfold seekIter
  by_cases hne : t.root = .nil
  · rw [if_pos hne]
    rw [hne, repLink_nil] at hx
    injection hx with hx; subst hx
    exact Spec.pure (by cases f <;> rfl)
  rw [if_neg hne]
  refine Spec.bind (load_spec (m := t.id) E t.root s hg) ?_
  rintro a s1 _ hgr1 ⟨_, _, hld⟩
  have hp : PathRep t.id s1 g [(a, 0)] [(x.2.1, 0)] :=
    ⟨rfl, ⟨x.2.2, hld g x hx, hnd, hown.allocOnly hgr1.alloc⟩, trivial⟩
  refine Spec.bind (cCeil_spec (m := t.id) E g k f [(a, 0)] s1 _ (hgr1.good hg) hp) ?_
  intro r s2 _ hgr2 hq
  by_cases hr : r.2 = true
  · rw [if_pos hr]; exact Spec.fail
  · rw [if_neg hr]
    exact seekPath_spec (m := t.id) E g f r.1 s2 _ (hgr2.good (hgr1.good hg)) (hq.1 (Bool.eq_false_iff.mpr hr))

set_option linter.unusedVariables false in
/-- `hne` is not needed: `seekIter_entries` is the statement without it -/
theorem seekIter_spec (E : Env) (t : PTree) (f k g : Nat) (s : PS) (x : Bool × T × List Nat) (hg : Good s)
    (hx : repLink s.heap s.store g t.root = some x) (hnd : x.2.2.Nodup) (hown : FpOwned s.heap t.id x.2.2)
    (hne : t.root ≠ .nil) :
    Spec (Grow t.id) (seekIter E t f k) s (fun es _ => es = Cursor.seekIter f x.2.1 k) :=
  seekIter_entries E t f k g s x hg hx hnd hown

end Mast.Ptr
