import Mastverif.Model.Rep
/-! List facts the refinement files share, and `seqO`: all-or-nothing evaluation of a list of links. -/
namespace Mast.Ptr
open Mast.Heap

/-! ## lists -/

theorem nodup_left {α : Type} {a b : List α} (h : (a ++ b).Nodup) : a.Nodup := (List.nodup_append.mp h).1
theorem nodup_right {α : Type} {a b : List α} (h : (a ++ b).Nodup) : b.Nodup := (List.nodup_append.mp h).2.1

theorem take_append_getElem_drop {α : Type} {l : List α} {i : Nat} {x : α} (h : l[i]? = some x) :
    l = l.take i ++ x :: l.drop (i + 1) := by
  have hlt : i < l.length := (List.getElem?_eq_some_iff.mp h).1
  have hx : l[i] = x := by
    have := List.getElem?_eq_getElem hlt
    rw [h] at this; injection this with this; exact this.symm
  conv => lhs; rw [← List.take_append_drop i l]
  rw [← hx, List.drop_eq_getElem_cons hlt]

theorem getLast?_cons_of_some {α : Type} {x z : α} {q : List α} (h : q.getLast? = some z) :
    (x :: q).getLast? = some z := by
  cases q with
  | nil => cases h
  | cons y r => rw [List.getLast?_cons_cons]; exact h

theorem length_le_of_getElem? {α β : Type} {l : List α} {l' : List β}
    (H : ∀ (a : Nat) (x : α), l[a]? = some x → ∃ y, l'[a]? = some y) : l.length ≤ l'.length :=
  Nat.le_of_not_lt fun hlt => by
    obtain ⟨y, hy⟩ := H _ _ (List.getElem?_eq_getElem hlt)
    exact Nat.lt_irrefl _ (List.getElem?_eq_some_iff.mp hy).1

/-! ## `seqO` -/

/-- `seqO` succeeds exactly on a list without `none` and then strips the `some`s, so what follows are
    facts about `List.map some`. -/
theorem seqO_eq_some {α : Type} {xs : List (Option α)} {cs : List α} : seqO xs = some cs ↔ xs = cs.map some := by
  induction xs generalizing cs with
  | nil => cases cs <;> simp [seqO]
  | cons x xs ih =>
    cases x with
    | none => cases cs <;> simp [seqO]
    | some c =>
      cases cs with
      | nil => simp [seqO]
      | cons c' cs' =>
        rw [seqO, Option.map_eq_some_iff, List.map_cons, List.cons.injEq, Option.some.injEq, ← ih]
        constructor
        · rintro ⟨t, ht, he⟩
          injection he with h1 h2
          exact ⟨h1, h2 ▸ ht⟩
        · rintro ⟨rfl, ht⟩
          exact ⟨cs', ht, rfl⟩

theorem seqO_cons_some {α : Type} {x : Option α} {xs : List (Option α)} {cs : List α} :
    seqO (x :: xs) = some cs ↔ ∃ c cs', x = some c ∧ seqO xs = some cs' ∧ cs = c :: cs' := by
  rw [seqO_eq_some]
  constructor
  · intro h
    cases cs with
    | nil => cases h
    | cons c cs' =>
      injection h with h1 h2
      exact ⟨c, cs', h1, seqO_eq_some.mpr h2, rfl⟩
  · rintro ⟨c, cs', rfl, h, rfl⟩
    rw [seqO_eq_some.mp h]; rfl

theorem seqO_append_some {α : Type} {xs ys : List (Option α)} {cs : List α} :
    seqO (xs ++ ys) = some cs ↔ ∃ c1 c2, seqO xs = some c1 ∧ seqO ys = some c2 ∧ cs = c1 ++ c2 := by
  simp only [seqO_eq_some]
  constructor
  · intro h
    obtain ⟨c1, c2, rfl, h1, h2⟩ := List.map_eq_append_iff.mp h.symm
    exact ⟨c1, c2, h1.symm, h2.symm, rfl⟩
  · rintro ⟨c1, c2, rfl, rfl, rfl⟩
    exact List.map_append.symm

theorem seqO_length {α : Type} {xs : List (Option α)} {cs : List α} (h : seqO xs = some cs) :
    cs.length = xs.length := by
  rw [seqO_eq_some.mp h, List.length_map]

theorem seqO_getElem? {α : Type} {xs : List (Option α)} {cs : List α} (h : seqO xs = some cs)
    {i : Nat} {x : Option α} (hx : xs[i]? = some x) : ∃ c, x = some c ∧ cs[i]? = some c := by
  rw [seqO_eq_some.mp h, List.getElem?_map] at hx
  obtain ⟨c, hc, rfl⟩ := Option.map_eq_some_iff.mp hx
  exact ⟨c, rfl, hc⟩

theorem seqO_of_forall {α : Type} {xs : List (Option α)} {cs : List α} (hl : cs.length = xs.length)
    (h : ∀ (i : Nat) (c : α), cs[i]? = some c → xs[i]? = some (some c)) : seqO xs = some cs := by
  refine seqO_eq_some.mpr (List.ext_getElem? fun i => ?_)
  rw [List.getElem?_map]
  cases hc : cs[i]? with
  | some c => exact h i c hc
  | none =>
    rw [List.getElem?_eq_none_iff] at hc
    exact List.getElem?_eq_none_iff.mpr (hl ▸ hc)

theorem seqO_map_length {α β : Type} {F : α → Option β} {ls : List α} {cs : List β}
    (h : seqO (ls.map F) = some cs) : cs.length = ls.length := by
  rw [seqO_length h, List.length_map]

theorem seqO_map_getElem? {α β : Type} {F : α → Option β} {ls : List α} {cs : List β}
    (h : seqO (ls.map F) = some cs) {i : Nat} {l : α} (hl : ls[i]? = some l) :
    ∃ c, F l = some c ∧ cs[i]? = some c :=
  seqO_getElem? h (by rw [List.getElem?_map, hl]; rfl)

theorem seqO_map_mem {α β : Type} {F : α → Option β} {ls : List α} {cs : List β}
    (h : seqO (ls.map F) = some cs) {l : α} (hl : l ∈ ls) : ∃ c, F l = some c ∧ c ∈ cs := by
  obtain ⟨i, hi⟩ := List.getElem?_of_mem hl
  obtain ⟨c, h1, h2⟩ := seqO_map_getElem? h hi
  exact ⟨c, h1, List.mem_of_getElem? h2⟩

theorem seqO_map_append {α β : Type} {F : α → Option β} {l1 l2 : List α} {cs : List β} :
    seqO ((l1 ++ l2).map F) = some cs ↔
      ∃ c1 c2, seqO (l1.map F) = some c1 ∧ seqO (l2.map F) = some c2 ∧ cs = c1 ++ c2 := by
  rw [List.map_append]; exact seqO_append_some

theorem seqO_map_cons {α β : Type} {F : α → Option β} {l : α} {ls : List α} {cs : List β} :
    seqO ((l :: ls).map F) = some cs ↔
      ∃ c cs', F l = some c ∧ seqO (ls.map F) = some cs' ∧ cs = c :: cs' := by
  rw [List.map_cons]; exact seqO_cons_some

theorem seqO_map_take {α β : Type} {F : α → Option β} {ls : List α} {cs : List β}
    (h : seqO (ls.map F) = some cs) (i : Nat) : seqO ((ls.take i).map F) = some (cs.take i) := by
  rw [seqO_eq_some] at h ⊢
  rw [List.map_take, List.map_take, h]

theorem seqO_map_drop {α β : Type} {F : α → Option β} {ls : List α} {cs : List β}
    (h : seqO (ls.map F) = some cs) (i : Nat) : seqO ((ls.drop i).map F) = some (cs.drop i) := by
  rw [seqO_eq_some] at h ⊢
  rw [List.map_drop, List.map_drop, h]

theorem seqO_map_replicate {α β : Type} {F : α → Option β} {l : α} {c : β} (hc : F l = some c) (n : Nat) :
    seqO ((List.replicate n l).map F) = some (List.replicate n c) := by
  rw [seqO_eq_some, List.map_replicate, List.map_replicate, hc]

theorem seqO_map_of_mem {α β : Type} {F : α → Option β} {ls : List α} {cs : List β}
    (h : seqO (ls.map F) = some cs) {c : β} (hc : c ∈ cs) : ∃ l ∈ ls, F l = some c := by
  have hm : some c ∈ ls.map F := seqO_eq_some.mp h ▸ List.mem_map_of_mem hc
  exact List.mem_map.mp hm

theorem seqO_map_forall {α β : Type} {F : α → Option β} {P : β → Prop} :
    ∀ {ls : List α} {cs : List β}, seqO (ls.map F) = some cs → (∀ l ∈ ls, ∀ c, F l = some c → P c) → ∀ c ∈ cs, P c :=
  fun h hP c hc => let ⟨l, hl, hcl⟩ := seqO_map_of_mem h hc; hP l hl c hcl

theorem seqO_map_single {α β : Type} {F : α → Option β} {l : α} {cs : List β}
    (h : seqO ([l].map F) = some cs) : ∃ c, F l = some c ∧ cs = [c] := by
  obtain ⟨c, cs', h1, h2, rfl⟩ := seqO_map_cons.mp h
  cases h2
  exact ⟨c, h1, rfl⟩

theorem seqO_map_imp {α β γ : Type} {F : α → Option β} {G : α → Option γ} {φ : β → γ} {ls : List α} {cs : List β}
    (h : seqO (ls.map F) = some cs) (hfg : ∀ l ∈ ls, ∀ c ∈ cs, F l = some c → G l = some (φ c)) :
    seqO (ls.map G) = some (cs.map φ) := by
  induction ls generalizing cs with
  | nil => cases h; rfl
  | cons l ls ih =>
    obtain ⟨c, cs', hx, h1, rfl⟩ := seqO_map_cons.mp h
    exact seqO_map_cons.mpr ⟨φ c, cs'.map φ, hfg l List.mem_cons_self c List.mem_cons_self hx,
      ih h1 (fun l' hl' c' hc' => hfg l' (List.mem_cons_of_mem _ hl') c' (List.mem_cons_of_mem _ hc')), rfl⟩

theorem seqO_map_congr_mem {α β : Type} {F G : α → Option β} {ls : List α} {cs : List β}
    (h : seqO (ls.map F) = some cs) (hfg : ∀ l ∈ ls, ∀ c ∈ cs, F l = some c → G l = some c) :
    seqO (ls.map G) = some cs := by
  have := seqO_map_imp (φ := id) h hfg
  rwa [List.map_id] at this

theorem seqO_map_congr {α β : Type} {F G : α → Option β} {ls : List α} {cs : List β}
    (h : seqO (ls.map F) = some cs) (hfg : ∀ l ∈ ls, ∀ c, F l = some c → G l = some c) :
    seqO (ls.map G) = some cs :=
  seqO_map_congr_mem h fun l hl c _ => hfg l hl c

end Mast.Ptr
