import Mastverif.Lemmas.RefFp
import Mastverif.Lemmas.RefGood
/-! `linkNew` and `split` refine `T.mk` and `T.split`; the footprint is followed as a chain of `FpStep`s. -/
namespace Mast.Ptr
open Mast.Heap

/-- `linkNew` of a valid node whose links denote `cs`: the link denotes `mk` of the node's row -/
theorem linkNew_spec {m : Nat} (nd : MNode) (s : PS) (g : Nat) (cs : List (Bool × T × List Nat))
    (ho : nd.owner = m) (hs : nd.shared = false) (hv : ValidN nd)
    (h1 : seqO (nd.links.map (repLink s.heap s.store g)) = some cs) :
    Spec (Grow m) (linkNew nd) s (fun l s' => ∃ x, repLink s'.heap s'.store (g + 1) l = some x ∧ x.1 = false ∧
      x.2.1 = T.mk (mkRow (cs.map pr) nd.keys nd.vals) ∧
      ((l = .nil ∧ s' = s ∧ fps cs = [] ∧ x.2.2 = []) ∨
       (l = .ptr s.heap.length ∧ s'.heap.length = s.heap.length + 1 ∧ x.2.2 = s.heap.length :: fps cs))) := by
  unfold linkNew
  refine Spec.ite (fun he => ?_) fun he => ?_
  · have hl := (isEmptyN_iff nd).mp he
    rw [hl] at h1
    obtain ⟨c, hc, rfl⟩ := seqO_map_single h1
    rw [repLink_nil] at hc; cases hc
    exact Spec.pure ⟨(false, T.nil, []), repLink_nil _ _ _, rfl, rfl, Or.inl ⟨rfl, rfl, rfl, rfl⟩⟩
  · refine Spec.bind (alloc_spec (m := m) nd s (Or.inr ho) (fun _ => hs)) ?_
    rintro a s1 _ hgr ⟨rfl, rfl⟩
    refine Spec.pure ⟨nodeRep false [s.heap.length] nd.keys nd.vals cs, ?_, rfl, (mk_nodeRow hv h1 he).symm,
      Or.inr ⟨rfl, List.length_append, rfl⟩⟩
    refine repLink_ptr_some.mpr ⟨g, nd, cs, rfl, getElem?_append_self _ _, hv, ?_, by rw [ownFp, hs]; rfl⟩
    exact seqO_map_congr h1 (fun l _ c hc => repLink_allocOnly (allocOnly_append _ _) hc)

theorem linkNew_step {m : Nat} (nd : MNode) (s : PS) (g : Nat) (cs : List (Bool × T × List Nat))
    (ho : nd.owner = m) (hs : nd.shared = false) (hv : ValidN nd)
    (h1 : seqO (nd.links.map (repLink s.heap s.store g)) = some cs) (hnd : (fps cs).Nodup) :
    Spec (Grow m) (linkNew nd) s (fun l s' => ∃ x, repLink s'.heap s'.store (g + 1) l = some x ∧ x.1 = false ∧
      x.2.1 = T.mk (mkRow (cs.map pr) nd.keys nd.vals) ∧ FpStep s.heap.length s'.heap.length (fps cs) x.2.2) := by
  refine (linkNew_spec nd s g cs ho hs hv h1).conseq ?_
  rintro l s' _ _ ⟨x, hx, hxf, hxrow, hcase⟩
  refine ⟨x, hx, hxf, hxrow, ?_⟩
  rcases hcase with ⟨_, rfl, h3, h4⟩ | ⟨_, h2, h4⟩
  · rw [h3, h4]; exact FpStep.refl List.nodup_nil (fun _ hy => nomatch hy)
  · rw [h2, h4]; exact (FpStep.refl hnd (kids_fp_lt h1)).cons

/-- the postcondition of `split`: `n` is the heap size before -/
def SplitOK (n : Nat) (h : Heap) (st : List SNode) (x : Bool × T × List Nat) (key : Nat) (lr : HLink × HLink) : Prop :=
  ∃ g xl xr, repLink h st g lr.1 = some xl ∧ repLink h st g lr.2 = some xr ∧ xl.1 = false ∧ xr.1 = false ∧
    xl.2.1 = T.mk (T.split x.2.1 key).1 ∧ xr.2.1 = T.mk (T.split x.2.1 key).2 ∧
    FpStep n h.length x.2.2 (xl.2.2 ++ xr.2.2)

theorem SplitOK.nil {n : Nat} {h : Heap} {st : List SNode} {key : Nat} (hn : n ≤ h.length) :
    SplitOK n h st (false, T.nil, []) key (.nil, .nil) :=
  ⟨0, (false, T.nil, []), (false, T.nil, []), repLink_nil _ _ _, repLink_nil _ _ _, rfl, rfl, rfl, rfl,
    (FpStep.refl List.nodup_nil (fun _ hy => nomatch hy)).mono (Nat.le_refl _) hn⟩

theorem SplitOK.mono {n n' : Nat} {h : Heap} {st : List SNode} {x : Bool × T × List Nat} {key : Nat}
    {lr : HLink × HLink} (hs : SplitOK n h st x key lr) (hn : n' ≤ n) : SplitOK n' h st x key lr := by
  obtain ⟨g, xl, xr, h1, h2, h3, h4, h5, h6, h7⟩ := hs
  exact ⟨g, xl, xr, h1, h2, h3, h4, h5, h6, h7.mono hn (Nat.le_refl _)⟩

def SplitSpec (E : Env) (m key f : Nat) : Prop :=
  ∀ (a : Nat) (s : PS) (g : Nat) (x : Bool × T × List Nat), Good s →
    repLink s.heap s.store g (.ptr a) = some x → x.2.2.Nodup →
    Spec (Grow m) (split E m key f a) s (fun lr s' => SplitOK s.heap.length s'.heap s'.store x key lr)

theorem subsplit_spec {m : Nat} (E : Env) (key f : Nat) (ih : SplitSpec E m key f) (lk : HLink) (s : PS) (g : Nat)
    (x : Bool × T × List Nat) (hg : Good s) (hx : repLink s.heap s.store g lk = some x) (hnd : x.2.2.Nodup) :
    Spec (Grow m) (if lk = .nil then (pure (HLink.nil, HLink.nil) : M (HLink × HLink)) else do
        let c ← load E lk
        split E m key f c) s (fun lr s' => SplitOK s.heap.length s'.heap s'.store x key lr) := by
  refine Spec.ite (fun h0 => ?_) fun h0 => ?_
  · subst h0
    rw [repLink_nil] at hx; cases hx
    exact Spec.pure (SplitOK.nil (Nat.le_refl _))
  · refine Spec.bind (load_spec (m := m) E lk s hg) ?_
    rintro c s1 _ hgr ⟨_, _, hld⟩
    exact (ih c s1 g _ (hgr.good hg) (hld g x hx) hnd).conseq (fun _ _ _ _ hs => hs.mono hgr.length)

theorem setLast_take {l : List HLink} {i : Nat} (h : i < l.length) (x : HLink) :
    setLast (l.take (i + 1)) x = l.take i ++ [x] := by
  rw [← List.take_append_getElem h]; simp only [setLast, List.dropLast_concat]

theorem getLast?_take_succ {l : List HLink} {i : Nat} (h : i < l.length) : (l.take (i + 1)).getLast? = l[i]? := by
  rw [← List.take_append_getElem h, List.getLast?_concat, List.getElem?_eq_getElem h]

theorem ValidN.take {nd : MNode} {i : Nat} (hv : ValidN nd) (hi : i ≤ nd.keys.length) {l : HLink} {d sh : Bool}
    {o : Nat} {src : Option Nat} :
    ValidN { keys := nd.keys.take i, vals := nd.vals.take i, links := nd.links.take i ++ [l], dirty := d, shared := sh,
             owner := o, source := src } := by
  unfold ValidN
  rw [List.length_append, List.length_take_of_le (hv.1 ▸ Nat.le_succ_of_le hi), List.length_take_of_le hi,
    List.length_take_of_le (hv.2 ▸ hi)]
  exact ⟨rfl, rfl⟩

theorem ValidN.drop {nd : MNode} {i : Nat} (hv : ValidN nd) {l : HLink} {d sh : Bool}
    {o : Nat} {src : Option Nat} :
    ValidN { keys := nd.keys.drop i, vals := nd.vals.drop i, links := l :: nd.links.drop (i + 1), dirty := d,
             shared := sh, owner := o, source := src } := by
  unfold ValidN
  rw [List.length_cons, List.length_drop, List.length_drop, List.length_drop, hv.1, hv.2, Nat.add_sub_add_right]
  exact ⟨rfl, rfl⟩

/-- the two halves of a node split at link `si`, whose child `c` has been split into `xl` and `xr`:
    their rows are the halves of the node's row -/
theorem split_rows {nd : MNode} {cs : List (Bool × T × List Nat)} {key si : Nat} {c xl xr : Bool × T × List Nat}
    (hv : ValidN nd) (hcl : cs.length = nd.keys.length + 1) (hsi : keyIdx nd.keys key = si) (hc : cs[si]? = some c)
    (hlf : xl.1 = false) (hlrow : xl.2.1 = T.mk (T.split c.2.1 key).1)
    (hrf : xr.1 = false) (hrrow : xr.2.1 = T.mk (T.split c.2.1 key).2) :
    T.mk (mkRow ((cs.take si ++ [xl]).map pr) (nd.keys.take si) (nd.vals.take si)) =
      T.mk (T.split (mkRow (cs.map pr) nd.keys nd.vals) key).1 ∧
    T.mk (mkRow ((xr :: cs.drop (si + 1)).map pr) (nd.keys.drop si) (nd.vals.drop si)) =
      T.mk (T.split (mkRow (cs.map pr) nd.keys nd.vals) key).2 := by
  rw [split_mkRow nd.keys (cs.map pr) nd.vals key (by rw [List.length_map]; exact hcl) hv.2, hsi, childAt_map_pr hc,
    map_pr_append_single, List.map_take, hlf, hlrow, List.map_cons, List.map_drop]
  exact ⟨rfl, by simp only [pr, hrf, hrrow]⟩

theorem split_refines {m : Nat} (E : Env) (key : Nat) : ∀ f, SplitSpec E m key f := by
  intro f
  induction f with
  | zero => intro a s g x _ _ _; exact Spec.oof
  | succ f ih =>
    intro a s g x hg hx hnd
    unfold split
    refine Spec.bind (read_spec a s) ?_
    rintro nd s0 _ _ ⟨rfl, hnda⟩
    obtain ⟨g', cs, rfl, hv, h1, hcl, rfl⟩ := repLink_ptr_inv hx hnda
    refine Spec.ite (fun _ => Spec.panic) fun _ => ?_
    · dsimp only
      generalize hsi : keyIdx nd.keys key = si
      have hsile : si ≤ nd.keys.length := hsi ▸ keyIdx_le _ _
      have hsilt : si < nd.links.length := by rw [hv.1]; exact Nat.lt_succ_of_le hsile
      rw [getLast?_take_succ hsilt]
      cases hlk : nd.links[si]? with
      | none => exact Spec.panic
      | some leftMax =>
        obtain ⟨c, hc1, hc2⟩ := seqO_map_getElem? h1 hlk
        have hL := seqO_map_take h1 si
        have hR := seqO_map_drop h1 (si + 1)
        -- the children's footprint: left of the split child, the child, right of it
        rw [nodeRep_fp, fps_split_at hc2] at hnd
        have hnd2 := nodup_right hnd
        have F0 := FpStep.refl hnd2 (by rw [← fps_split_at hc2]; exact kids_fp_lt h1)
        refine Spec.bind (subsplit_spec E key f ih leftMax s g' c hg hc1
          (nodup_left (nodup_right hnd2))) ?_
        rintro ⟨lm, tooBig⟩ s2 _ hgr2 ⟨g2, xl, xr, hl1, hr1, hlf, hrf, hlrow, hrrow, hE1⟩
        dsimp only at hl1 hr1 ⊢
        have F1 := F0.then hE1
        rw [List.append_assoc, ← List.append_assoc _ xl.2.2] at F1
        rw [setLast_take hsilt]
        have hLeftKids := kids_mid (R := []) (csR := []) hgr2 hL rfl hl1
        refine Spec.bind (linkNew_step
          { keys := nd.keys.take si, vals := nd.vals.take si, links := nd.links.take si ++ [lm], dirty := true,
            shared := false, owner := m, source := none } s2 _ _ rfl rfl ?_ hLeftKids
          (by rw [fps_snoc]; exact nodup_left F1.ext.1)) ?_
        · exact hv.take hsile
        rintro leftLink s3 _ hgr3 ⟨xL, hxL, hxLf, hxLrow, hxLfp⟩
        rw [fps_snoc] at hxLfp
        have F2 := FpStep.then (A := []) F1 hxLfp
        have hdrop : nd.links.drop si = leftMax :: nd.links.drop (si + 1) := by
          rw [List.drop_eq_getElem_cons hsilt, (List.getElem?_eq_some_iff.mp hlk).2]
        rw [hdrop]
        dsimp only
        -- the part that was too big is split again: nothing is cut off
        refine Spec.bind (subsplit_spec E key f ih tooBig s3 g2 xr (hgr3.good (hgr2.good hg)) (hgr3.rep hr1)
          (nodup_right hE1.ext.1)) ?_
        rintro ⟨tooSmall, rm⟩ s5 _ hgr5 ⟨g5, xts, xrm, hts1, hrm1, _, hrmf, _, hrmrow, hE2⟩
        dsimp only at hts1 hrm1 ⊢
        refine Spec.ite (fun _ => Spec.panic) fun hts0 => ?_
        · obtain rfl := Classical.not_not.mp hts0
          have hxts : xts.2.2 = [] := congrArg (·.2.2) (Option.some.inj ((repLink_nil _ _ _).symm.trans hts1)).symm
          rw [hxts, List.nil_append] at hE2
          have F3 := F2.then (A := xL.2.2) (old := xr.2.2) hE2
          have hRightKids := kids_mid (L := []) (csL := []) (hgr2.trans (hgr3.trans hgr5)) rfl hR hrm1
          refine Spec.bind (linkNew_step
            { keys := nd.keys.drop si, vals := nd.vals.drop si, links := rm :: nd.links.drop (si + 1), dirty := true,
              shared := false, owner := m, source := none } s5 _ _ rfl rfl ?_ hRightKids
            (by rw [List.nil_append, fps_cons]; exact nodup_right F3.ext.1)) ?_
          · exact hv.drop
          rintro rightLink s6 _ hgr6 ⟨xR, hxR, hxRf, hxRrow, hxRfp⟩
          rw [List.nil_append, fps_cons] at hxRfp
          have hq : xrm.2.1 = T.mk (T.split c.2.1 key).2 := by
            rw [hrmrow, hrrow, (mk_split_mk _ key).2, (split_split c.2.1 key).1]
          obtain ⟨hrowL, hrowR⟩ := split_rows hv hcl hsi hc2 hlf hlrow hrmf hq
          -- fuel: each new node needs one more than its links, the old ones at `g'`, the split child's halves at `g2` / `g5`
          exact Spec.pure ⟨max (max g' g2 + 1) (max g' g5 + 1), xL, xR,
            repLink_mono_le ((hgr5.trans hgr6).rep hxL) (Nat.le_max_left _ _),
            repLink_mono_le hxR (Nat.le_max_right _ _), hxLf, hxRf, hxLrow.trans hrowL, hxRrow.trans hrowR,
            (FpStep.then_end (A := xL.2.2) F3 hxRfp).old_mono (fun y hy => by
              rw [nodeRep_fp, fps_split_at hc2]; exact List.mem_append_right _ hy)⟩

end Mast.Ptr
