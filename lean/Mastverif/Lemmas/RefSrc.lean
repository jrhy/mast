import Mastverif.Lemmas.RefLoad
import Mastverif.Lemmas.RefNoErr
/-!
The `source` discipline `SourceOK` (needed by `flush`, which trusts `source` on clean nodes): an unshared object has no
source name; a shared object with a source name is the decoding of the stored node of that name.

`SrcP x`: `x` preserves `SourceOK` from every state, on `.ok` and on `.err`.  It is closed under `>>=` and `if`, and the
transcribed programs change the heap only by allocating unshared objects with `source := none`, by writes that keep or
clear `source`, and by the decoding `loadRef` appends (`flush` sets `source`: see `commitAll_spec`).
-/
namespace Mast.Ptr
open Mast.Heap

structure SourceOK (s : PS) : Prop where
  unsh : ∀ (a : Nat) (nd : MNode), s.heap[a]? = some nd → nd.shared = false → nd.source = none
  sh : ∀ (a : Nat) (nd : MNode) (n : Nat), s.heap[a]? = some nd → nd.shared = true → nd.source = some n →
    ∃ sn, storeAt s.store n = some sn ∧ nd.keys = sn.keys ∧ nd.vals = sn.vals ∧ nd.links = expandLinks sn

def SrcR (s s' : PS) : Prop := SourceOK s → SourceOK s'

instance : PreR SrcR := ⟨fun _ h => h, fun a b h => b (a h)⟩

def SrcP {α : Type} (x : M α) : Prop := ∀ s, Spec SrcR x s (fun _ _ => True)

theorem SrcP.bind {α β : Type} {x : M α} {f : α → M β} (hx : SrcP x) (hf : ∀ a, SrcP (f a)) : SrcP (x >>= f) :=
  fun s => Spec.bind (hx s) (fun a s1 _ _ _ => hf a s1)

theorem SrcP.pure {α : Type} (a : α) : SrcP (Pure.pure a : M α) := fun _ => Spec.pure trivial
theorem SrcP.panic {α : Type} : SrcP (panicE : M α) := fun _ => Spec.panic
theorem SrcP.oof {α : Type} : SrcP (oofE : M α) := fun _ => Spec.oof
theorem SrcP.fail {α : Type} : SrcP (failE : M α) := fun _ => Spec.fail

theorem SrcP.ite {α : Type} {c : Prop} [Decidable c] {x y : M α} (hx : SrcP x) (hy : SrcP y) :
    SrcP (if c then x else y) := by
  split
  · exact hx
  · exact hy

theorem SrcP.ok {α : Type} {x : M α} (hx : SrcP x) {s s' : PS} {a : α} (h : x s = .ok a s') (hs : SourceOK s) : SourceOK s' :=
  ((hx s).ok h).1 hs

theorem SrcP.err {α : Type} {x : M α} (hx : SrcP x) {s s' : PS} (h : x s = .err s') (hs : SourceOK s) : SourceOK s' :=
  (hx s).err h hs

theorem SrcP.of_spec {α : Type} {x : M α} (h : ∀ s, ∃ Q, Spec SrcR x s Q) : SrcP x := by
  intro s
  obtain ⟨Q, hq⟩ := h s
  exact hq.conseq (fun _ _ _ _ _ => trivial)

theorem SourceOK.of_eq {s s' : PS} (h : SourceOK s) (hh : s'.heap = s.heap) (hs : s'.store = s.store) : SourceOK s' :=
  ⟨fun a nd hnd => h.unsh a nd (by rw [← hh]; exact hnd), fun a nd n hnd => by
    rw [hs]; exact h.sh a nd n (by rw [← hh]; exact hnd)⟩

theorem SourceOK.append {s s' : PS} {nd : MNode} (h : SourceOK s) (hh : s'.heap = s.heap ++ [nd]) (hs : s'.store = s.store)
    (h1 : nd.shared = false → nd.source = none)
    (h2 : ∀ n, nd.shared = true → nd.source = some n →
      ∃ sn, storeAt s.store n = some sn ∧ nd.keys = sn.keys ∧ nd.vals = sn.vals ∧ nd.links = expandLinks sn) :
    SourceOK s' := by
  refine ⟨fun a x hx => ?_, fun a x n hx => ?_⟩
  · rw [hh] at hx
    rcases getElem?_append_single hx with hx | ⟨_, rfl⟩
    · exact h.unsh a x hx
    · exact h1
  · rw [hh] at hx; rw [hs]
    rcases getElem?_append_single hx with hx | ⟨_, rfl⟩
    · exact h.sh a x n hx
    · exact h2 n

theorem SourceOK.set {s : PS} {a : Nat} {old nd : MNode} (h : SourceOK s) (ho : s.heap[a]? = some old)
    (hos : old.shared = false) (hns : nd.shared = false) (hsrc : nd.source = none ∨ nd.source = old.source) :
    SourceOK { s with heap := s.heap.set a nd } := by
  have hn : nd.source = none := hsrc.elim id (fun h1 => h1.trans (h.unsh a old ho hos))
  refine ⟨fun b x hx hsx => ?_, fun b x n hx hsx => ?_⟩
  · rcases getElem?_set_cases hx with ⟨_, rfl⟩ | ⟨_, hx⟩
    · exact hn
    · exact h.unsh b x hx hsx
  · rcases getElem?_set_cases hx with ⟨_, rfl⟩ | ⟨_, hx⟩
    · rw [hns] at hsx; cases hsx
    · exact h.sh b x n hx hsx

theorem read_src (a : Nat) : SrcP (read a) := fun s => (read_spec a s).conseq (fun _ _ _ _ _ => trivial)

theorem alloc_src (nd : MNode) (hs : nd.shared = false) (hsrc : nd.source = none) : SrcP (alloc nd) := by
  intro s
  unfold Spec alloc
  cases hg : applyAct s.heap (.alloc nd) with
  | none => trivial
  | some h' =>
    exact ⟨fun h => h.append (applyAct_alloc_some hg) rfl (fun _ => hsrc) (fun _ h1 => by rw [hs] at h1; cases h1), trivial⟩

theorem write_src_at (m a : Nat) (nd : MNode) (s : PS)
    (hsrc : ∀ old, s.heap[a]? = some old → nd.source = none ∨ nd.source = old.source) :
    Spec SrcR (write m a nd) s (fun _ _ => True) := by
  have h := write_spec (m := m) a nd s
  unfold Spec at h ⊢
  cases hw : write m a nd s with
  | ok u s' =>
    rw [hw] at h
    obtain ⟨_, old, ho, _, hos, _, hns, _, rfl⟩ := h
    exact ⟨fun hs => hs.set ho hos hns (hsrc old ho), trivial⟩
  | err s' => exact absurd hw (NoErrR.write m a nd s s')
  | panic => trivial
  | stuck => trivial
  | oof => trivial

theorem write_src (m a : Nat) (nd : MNode) (hsrc : nd.source = none) : SrcP (write m a nd) :=
  fun s => write_src_at m a nd s (fun _ _ => Or.inl hsrc)

theorem layerM_src (E : Env) (k : Nat) : SrcP (layerM E k) := by
  intro s
  unfold Spec layerM
  cases E.layerFailAt s.ltick with
  | true => exact fun h => h.of_eq rfl rfl
  | false => exact ⟨fun h => h.of_eq rfl rfl, trivial⟩

theorem loadRef_src (E : Env) (n : Nat) : SrcP (loadRef E n) := by
  intro s
  unfold Spec
  cases h : loadRef E n s with
  | ok a s1 =>
    refine ⟨fun hs => ?_, trivial⟩
    rcases loadRef_ok_cases h with ⟨_, rfl⟩ | ⟨sn, hsn, hh, _, hst⟩
    · exact hs
    · refine hs.append hh hst (fun h1 => by cases h1) (fun k _ hk => ?_)
      injection hk with hk; subst hk
      exact ⟨sn, hsn, rfl, rfl, rfl⟩
  | err s1 =>
    obtain ⟨hh, hst, _⟩ := load_err (l := .ref n) h
    exact fun hs => hs.of_eq hh hst
  | panic => trivial
  | stuck => trivial
  | oof => trivial

theorem load_src (E : Env) (l : HLink) : SrcP (load E l) := by
  cases l with
  | nil => exact .fail
  | ptr a => exact .pure a
  | ref n => exact loadRef_src E n

theorem toMut_src (m a : Nat) : SrcP (toMut m a) :=
  .bind (read_src a) fun _ => .ite .panic (.ite (.pure _) (alloc_src _ rfl rfl))

theorem follow_src (E : Env) (m a i : Nat) (create : Bool) : SrcP (follow E m a i create) := by
  unfold follow
  refine .bind (read_src a) fun nd => ?_
  split
  · exact .panic
  · exact .ite (alloc_src _ rfl rfl) (.pure _)
  · exact load_src E _

theorem findNode_src (E : Env) (m key target : Nat) (create : Bool) :
    ∀ (f a cur : Nat) (path : List (Nat × Nat)), SrcP (findNode E m key target create f a cur path) := by
  intro f
  induction f with
  | zero => exact fun _ _ _ => .oof
  | succ f ih =>
    intro a cur path
    unfold findNode
    exact .bind (read_src a) fun nd => .ite .panic <| .ite (.pure _) <|
      .bind (follow_src E m a _ create) fun c => ih c _ _

theorem linkNew_src (nd : MNode) (hs : nd.shared = false) (hsrc : nd.source = none) : SrcP (linkNew nd) :=
  .ite (.pure _) (.bind (alloc_src nd hs hsrc) fun _ => .pure _)

theorem split_src (E : Env) (m key : Nat) : ∀ (f a : Nat), SrcP (split E m key f a) := by
  intro f
  induction f with
  | zero => exact fun _ => .oof
  | succ f ih =>
    intro a
    have below : ∀ l : HLink, SrcP (if l = .nil then Pure.pure (HLink.nil, HLink.nil) else do
        let c ← load E l
        split E m key f c) :=
      fun l => .ite (.pure _) (.bind (load_src E l) ih)
    unfold split
    refine .bind (read_src a) fun nd => .ite .panic ?_
    dsimp only
    split
    · exact .panic
    · refine .bind (below _) fun r => .bind (linkNew_src _ rfl rfl) fun leftLink => ?_
      split
      · exact .panic
      · exact .bind (below _) fun r2 => .ite .panic (.bind (linkNew_src _ rfl rfl) fun _ => .pure _)

theorem mutPath_src (m : Nat) (q : List (Nat × Nat)) : SrcP (mutPath m q) := by
  induction q with
  | nil => unfold mutPath; exact .pure _
  | cons x rest ih =>
    unfold mutPath
    exact .bind (read_src x.1) fun _ => .bind
      (.ite (.pure _) <| .bind (toMut_src m x.1) fun a' => .bind (read_src a') fun _ =>
        .bind (write_src _ _ _ rfl) fun _ => .pure _)
      fun _ => .bind ih fun _ => .pure _

theorem relink_src (m : Nat) (q : List (Nat × Nat)) : SrcP (relink m q) := by
  induction q with
  | nil => unfold relink; exact .pure _
  | cons x rest ih =>
    cases rest with
    | nil => unfold relink; exact .pure _
    | cons y rest' =>
      unfold relink
      refine .bind ih fun _ => .bind (read_src y.1) fun cnd => ?_
      -- the node is written back with new links only: it keeps the `source` it was read with
      intro s
      refine Spec.bind (read_spec x.1 s) ?_
      rintro nd s1 _ _ ⟨rfl, hnd⟩
      exact Spec.ite (fun _ => Spec.panic) fun _ =>
        write_src_at _ _ _ _ fun old ho => Or.inr (by cases hnd.symm.trans ho; rfl)

theorem savePath_src (m : Nat) (q : List (Nat × Nat)) : SrcP (savePath m q) := by
  unfold savePath
  refine .bind (mutPath_src m q) fun p => .bind (relink_src m p) fun _ => ?_
  split
  · exact .panic
  · exact .pure _

theorem insertPlan_src (E : Env) (t : PTree) (fuel key val : Nat) : SrcP (insertPlan E t fuel key val) := by
  unfold insertPlan
  refine .bind (layerM_src E key) fun lay => .bind (.ite (alloc_src _ rfl rfl) (load_src E _)) fun a0 =>
    .bind (findNode_src E _ _ _ _ _ _ _ _) fun fd => .ite .panic <| .bind (read_src _) fun _ => .ite (.pure _) ?_
  split
  · exact .panic
  · exact .pure _
  · exact .bind (load_src E _) fun c => .bind (split_src E _ _ _ _) fun _ => .pure _

theorem insertCommit_src (t : PTree) (p : InsPlan) (key val : Nat) : SrcP (insertCommit t p key val) :=
  .bind (toMut_src _ _) fun a' => .bind (read_src a') fun _ =>
    .ite (.bind (write_src _ _ _ rfl) fun _ => savePath_src _ _) (.bind (write_src _ _ _ rfl) fun _ => savePath_src _ _)

theorem extractLink_src (m : Nat) (nd : MNode) (frm to : Nat) : SrcP (extractLink m nd frm to) :=
  linkNew_src _ rfl rfl

theorem growLoop_src (E : Env) (m height : Nat) (nd : MNode) :
    ∀ (es : List (Nat × Nat)) (i start : Nat) (ks vs : List Nat) (ls : List HLink),
      SrcP (growLoop E m height nd es i start ks vs ls) := by
  intro es
  induction es with
  | nil => intro i start ks vs ls; unfold growLoop; exact .pure _
  | cons e rest ih =>
    intro i start ks vs ls
    unfold growLoop
    exact .bind (layerM_src E e.1) fun _ => .ite (ih _ _ _ _ _) <| .bind (extractLink_src _ _ _ _) fun _ => ih _ _ _ _ _

theorem grow_src (E : Env) (t : PTree) : SrcP (grow E t) :=
  .bind (load_src E _) fun a => .bind (read_src a) fun _ => .bind (growLoop_src E _ _ _ _ _ _ _ _ _) fun _ =>
    .bind (extractLink_src _ _ _ _) fun _ => .ite .fail (.bind (alloc_src _ rfl rfl) fun _ => .pure _)

theorem canGrowM_src (E : Env) (h : Nat) (ks : List Nat) : SrcP (canGrowM E h ks) := by
  induction ks with
  | nil => unfold canGrowM; exact .pure _
  | cons k ks ih => unfold canGrowM; exact .bind (layerM_src E k) fun _ => .ite (.pure _) ih

theorem growAll_src (E : Env) : ∀ (f : Nat) (t : PTree), SrcP (growAll E f t) := by
  intro f
  induction f with
  | zero => exact fun _ => .oof
  | succ f ih =>
    intro t
    unfold growAll
    exact .ite (.pure _) <| .bind (load_src E _) fun a => .bind (read_src a) fun _ =>
      .bind (canGrowM_src E _ _) fun _ => .ite (.bind (grow_src E t) ih) (.pure _)

theorem mergeNodes_src (E : Env) (m : Nat) : ∀ (f : Nat) (l r : HLink), SrcP (mergeNodes E m f l r) := by
  intro f
  induction f with
  | zero => exact fun _ _ => .oof
  | succ f ih =>
    intro l r
    unfold mergeNodes
    refine .ite (.pure _) <| .ite (.pure _) <| .bind (load_src E l) fun la => .bind (load_src E r) fun ra =>
      .bind (read_src la) fun ln => .bind (read_src ra) fun rn => ?_
    split
    · exact .bind (ih _ _) fun _ => .ite .fail (.bind (alloc_src _ rfl rfl) fun _ => .pure _)
    · exact .panic

theorem deletePlan_src (E : Env) (t : PTree) (fuel key val : Nat) : SrcP (deletePlan E t fuel key val) := by
  unfold deletePlan
  refine .ite .fail <| .bind (layerM_src E key) fun lay => .bind (load_src E _) fun a0 =>
    .bind (findNode_src E _ _ _ _ _ _ _ _) fun fd => .bind (read_src _) fun nd => .ite .fail <| .ite .fail <| .ite .fail ?_
  split
  · exact .bind (mergeNodes_src E _ _ _ _) fun mg => .pure _
  · exact .panic

theorem deleteCommit_src (t : PTree) (p : DelPlan) : SrcP (deleteCommit t p) :=
  .bind (toMut_src _ _) fun a' => .bind (read_src a') fun _ => .bind (write_src _ _ _ rfl) fun _ => savePath_src _ _

theorem shrinkLoop_src (E : Env) : ∀ (ls : List HLink) (es : List (Nat × Nat)) (acc : MNode),
    acc.shared = false → acc.source = none →
    ∀ s, Spec SrcR (shrinkLoop E ls es acc) s (fun r _ => r.shared = false ∧ r.source = none) := by
  intro ls
  induction ls with
  | nil => intro es acc h1 h2 s; unfold shrinkLoop; exact Spec.pure ⟨h1, h2⟩
  | cons l ls ih =>
    intro es acc h1 h2 s
    unfold shrinkLoop
    refine Spec.bind (Q1 := fun r _ => r.shared = false ∧ r.source = none)
      (Spec.ite (fun _ => Spec.pure ⟨h1, h2⟩) fun _ =>
        Spec.bind (load_src E l s) fun c s1 _ _ _ => Spec.bind (read_src c s1) fun cn s2 _ _ _ =>
          Spec.ite (fun _ => Spec.panic) fun _ => Spec.pure ⟨h1, h2⟩) ?_
    rintro acc1 s1 _ _ ⟨h3, h4⟩
    cases es with
    | nil => exact ih _ _ h3 h4 s1
    | cons e es' => exact ih _ _ (by exact h3) (by exact h4) s1

theorem shrink_src (E : Env) (t : PTree) : SrcP (shrink E t) := by
  unfold shrink
  refine .ite .fail <| .ite .fail <| .bind (load_src E _) fun a => .bind (read_src a) fun nd => ?_
  intro s
  refine Spec.bind (shrinkLoop_src E _ _ _ rfl rfl s) ?_
  rintro top s1 _ _ ⟨h1, h2⟩
  exact SrcP.ite .panic (.bind (linkNew_src top h1 h2) fun r => .pure _) s1

theorem topEntryless_src (t : PTree) : SrcP (topEntryless t) := by
  unfold topEntryless
  split
  · exact .bind (read_src _) fun nd => .pure _
  · exact .pure _

theorem shrinkAll_src (E : Env) : ∀ (f : Nat) (t : PTree), SrcP (shrinkAll E f t) := by
  intro f
  induction f with
  | zero => exact fun _ => .oof
  | succ f ih =>
    intro t
    unfold shrinkAll
    exact .bind (topEntryless_src t) fun _ => .ite (.bind (shrink_src E t) ih) (.pure _)

theorem get_src (E : Env) (t : PTree) (fuel key : Nat) : SrcP (get E t fuel key) :=
  .ite (.pure _) <| .bind (load_src E _) fun _ => .bind (layerM_src E key) fun _ =>
    .bind (findNode_src E _ _ _ _ _ _ _ _) fun _ => .bind (read_src _) fun _ =>
    .ite (.pure _) <| .ite (.pure _) (.pure _)

theorem iterLinks_src (g : HLink → M Unit) (hg : ∀ l, SrcP (g l)) (ls : List HLink) : SrcP (iterLinks g ls) := by
  induction ls with
  | nil => unfold iterLinks; exact .pure _
  | cons l ls ih =>
    cases l with
    | nil => unfold iterLinks; exact ih
    | ptr c => unfold iterLinks; exact .bind (hg _) fun _ => ih
    | ref n => unfold iterLinks; exact .bind (hg _) fun _ => ih

theorem iterAll_src (E : Env) : ∀ (f : Nat) (l : HLink), SrcP (iterAll E f l) := by
  intro f
  induction f with
  | zero => exact fun _ => .oof
  | succ f ih =>
    intro l
    unfold iterAll
    exact .bind (load_src E l) fun a => .bind (read_src a) fun nd => iterLinks_src _ ih nd.links

theorem mapLinks_src (g : Nat → M Nat) (hg : ∀ c, SrcP (g c)) (ls : List HLink) : SrcP (mapLinks g ls) := by
  induction ls with
  | nil => unfold mapLinks; exact .pure _
  | cons l ls ih =>
    cases l with
    | nil => unfold mapLinks; exact .bind ih fun _ => .pure _
    | ref n => unfold mapLinks; exact .bind ih fun _ => .pure _
    | ptr c =>
      unfold mapLinks
      exact .bind (read_src c) fun _ => .bind (.ite (.pure _) (.bind (hg c) fun _ => .pure _)) fun _ =>
        .bind ih fun _ => .pure _

theorem toShared_src (newId : Nat) : ∀ (f a : Nat), SrcP (toShared newId f a) := by
  intro f
  induction f with
  | zero => exact fun _ => .oof
  | succ f ih =>
    intro a
    unfold toShared
    refine .bind (read_src a) fun nd => ?_
    by_cases hsh : nd.shared = true
    · rw [if_pos hsh]; exact .pure _
    · rw [if_neg hsh]
      exact .bind (mapLinks_src _ ih nd.links) fun _ => alloc_src _ (by simpa using hsh) rfl

theorem clone_src (E : Env) (t : PTree) (newId fuel : Nat) : SrcP (clone E t newId fuel) :=
  .ite (.pure _) (.bind (load_src E _) fun a => .bind (toShared_src newId fuel a) fun _ => .pure _)

theorem loadMast_src (E : Env) (id link size height bf : Nat) : SrcP (loadMast E id link size height bf) :=
  .bind (.ite (.bind (alloc_src _ rfl rfl) fun _ => .pure _) (.bind (loadRef_src E link) fun _ => .pure _)) fun _ => .pure _

theorem afterCommit_src {x : M PTree} (hx : SrcP x) {s : PS} (hs : SourceOK s) (t : PTree) :
    SourceOK (afterCommit x s t).1 := by
  unfold afterCommit
  cases h : x s with
  | ok a s1 => exact hx.ok h hs
  | err s1 => exact hx.err h hs
  | panic => exact hs
  | stuck => exact hs
  | oof => exact hs

theorem insert_src (E : Env) (fuel : Nat) (s : PS) (t : PTree) (k v : Nat) (hs : SourceOK s) :
    SourceOK (insert E fuel s t k v).1 := by
  unfold insert
  cases hpl : insertPlan E t fuel k v s with
  | err s1 => exact (insertPlan_src E t fuel k v).err hpl hs
  | ok p s1 =>
    have hs1 := (insertPlan_src E t fuel k v).ok hpl hs
    dsimp only
    by_cases hps : (p.present && p.same) = true
    · rw [if_pos hps]; exact hs1
    · rw [if_neg hps]
      cases hcm : insertCommit t p k v s1 with
      | err s2 => exact (insertCommit_src t p k v).err hcm hs1
      | ok root s2 =>
        have hs2 := (insertCommit_src t p k v).ok hcm hs1
        dsimp only
        by_cases hp : p.present = true
        · rw [if_pos hp]; exact hs2
        · rw [if_neg hp]
          have h3 := afterCommit_src (growAll_src E fuel { t with root := root }) hs2 { t with root := root }
          split
          · next heq => rw [heq] at h3; exact h3
          · exact h3
      | _ => exact hs1
  | _ => exact hs

theorem delete_src (E : Env) (fuel : Nat) (s : PS) (t : PTree) (k v : Nat) (hs : SourceOK s) :
    SourceOK (delete E fuel s t k v).1 := by
  unfold delete
  cases hpl : deletePlan E t fuel k v s with
  | err s1 => exact (deletePlan_src E t fuel k v).err hpl hs
  | ok p s1 =>
    have hs1 := (deletePlan_src E t fuel k v).ok hpl hs
    dsimp only
    cases hcm : deleteCommit t p s1 with
    | err s2 => exact (deleteCommit_src t p).err hcm hs1
    | ok root s2 => exact afterCommit_src (shrinkAll_src E fuel _) ((deleteCommit_src t p).ok hcm hs1) _
    | _ => exact hs1
  | _ => exact hs

end Mast.Ptr
