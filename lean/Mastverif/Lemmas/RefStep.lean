import Mastverif.Lemmas.RefCtx
import Mastverif.Lemmas.RefFp
import Mastverif.Lemmas.RefGood
/-!
Steps that write: `Step m` (what any operation performed for tree `m` does to the state), `Shape`
(heaps that differ only in `dirty` / `source` flags and by allocation), the specification of `write`.
-/
namespace Mast.Ptr
open Mast.Heap

/-- `h'` has every object of `h`, with the same entries, links, `shared` flag and owner -/
def Shape (h h' : Heap) : Prop :=
  ∀ (a : Nat) (nd : MNode), h[a]? = some nd → ∃ nd', h'[a]? = some nd' ∧ nd'.keys = nd.keys ∧ nd'.vals = nd.vals ∧
    nd'.links = nd.links ∧ nd'.shared = nd.shared ∧ nd'.owner = nd.owner

theorem Shape.refl (h : Heap) : Shape h h := fun _ nd hnd => ⟨nd, hnd, rfl, rfl, rfl, rfl, rfl⟩

theorem Shape.trans {h1 h2 h3 : Heap} (a : Shape h1 h2) (b : Shape h2 h3) : Shape h1 h3 := by
  intro x nd hnd
  obtain ⟨nd2, h2, e1, e2, e3, e4, e5⟩ := a x nd hnd
  obtain ⟨nd3, h3, f1, f2, f3, f4, f5⟩ := b x nd2 h2
  exact ⟨nd3, h3, f1.trans e1, f2.trans e2, f3.trans e3, f4.trans e4, f5.trans e5⟩

theorem Shape.of_allocOnly {h h' : Heap} (ha : AllocOnly h h') : Shape h h' :=
  fun a nd hnd => ⟨nd, ha a nd hnd, rfl, rfl, rfl, rfl, rfl⟩

theorem Shape.length {h h' : Heap} (hs : Shape h h') : h.length ≤ h'.length :=
  length_le_of_getElem? fun a nd hnd => (hs a nd hnd).imp fun _ h => h.1

theorem viewOf_shape {h h' : Heap} {st : List SNode} (hs : Shape h h') {l : HLink} {v : NodeView}
    (hv : viewOf h st l = some v) : viewOf h' st l = some v := by
  cases l with
  | nil => cases hv
  | ptr b =>
    obtain ⟨nd, hnd, hval, rfl⟩ := viewOf_ptr.mp hv
    obtain ⟨nd', hnd', e1, e2, e3, e4, _⟩ := hs b nd hnd
    refine viewOf_ptr.mpr ⟨nd', hnd', ?_, ?_⟩
    · unfold ValidN; rw [e1, e2, e3]; exact hval
    · rw [ownFp, ownFp, e1, e2, e3, e4]
  | ref n => exact hv

/-- `repLink` does not read the `dirty` / `source` flags -/
theorem repLink_shape {h h' : Heap} {st : List SNode} (hs : Shape h h') :
    ∀ (f : Nat) (l : HLink) (x : Bool × T × List Nat), repLink h st f l = some x → repLink h' st f l = some x := by
  intro f l x hx
  exact repLink_view_congr (W := fun _ => False) (fun _ _ hv _ => viewOf_shape hs hv) f l x hx fun _ _ hw => hw

theorem Fr.At.shape {h h' : Heap} {st : List SNode} (hs : Shape h h') {a i : Nat} {fr : Fr} (hf : Fr.At h st a i fr) :
    Fr.At h' st a i fr := by
  obtain ⟨nd, g, hnd, hv, hown, hks, hvs, hi, hilt, hL, hR⟩ := hf
  obtain ⟨nd', hnd', e1, e2, e3, e4, _⟩ := hs a nd hnd
  refine ⟨nd', g, hnd', ?_, ?_, hks.trans e1.symm, hvs.trans e2.symm, hi, e3 ▸ hilt, ?_, ?_⟩
  · unfold ValidN; rw [e1, e2, e3]; exact hv
  · rw [hown, ownFp, ownFp, e4]
  · rw [e3]; exact seqO_map_congr hL fun l _ c hc => repLink_shape hs g l c hc
  · rw [e3]; exact seqO_map_congr hR fun l _ c hc => repLink_shape hs g l c hc

theorem Ctx.shape {h h' : Heap} {st : List SNode} (hs : Shape h h') :
    ∀ {p : List (Nat × Nat)} {frs : List Fr}, Ctx h st p frs → Ctx h' st p frs := by
  intro p frs hc
  refine hc.induction ?_ ?_
  · intro _; trivial
  · intro a i b j rest fr frs hf _ ih
    exact ⟨hf.shape hs, ih⟩

theorem FpOwned.shape {h h' : Heap} {m : Nat} {fp : List Nat} (ho : FpOwned h m fp) (hs : Shape h h') : FpOwned h' m fp := by
  intro y hy
  obtain ⟨nd, hnd, hown⟩ := ho y hy
  obtain ⟨nd', hnd', _, _, _, _, e5⟩ := hs y nd hnd
  exact ⟨nd', hnd', e5.trans hown⟩

/-! ## steps performed for tree `m` -/

structure Step (m : Nat) (s s' : PS) : Prop where
  len : s.heap.length ≤ s'.heap.length
  store : s'.store = s.store
  /-- as in `Grow` -/
  good : Good s → Good s'
  /-- what was allocated is shared or belongs to `m` -/
  fresh : ∀ (a : Nat) (nd : MNode), s.heap.length ≤ a → s'.heap[a]? = some nd → nd.shared = true ∨ nd.owner = m
  /-- objects keep owner and `shared` flag; what is shared or foreign is not touched -/
  keep : ∀ (a : Nat) (nd : MNode), s.heap[a]? = some nd → ∃ nd', s'.heap[a]? = some nd' ∧ nd'.owner = nd.owner ∧
    nd'.shared = nd.shared ∧ ((nd.shared = true ∨ nd.owner ≠ m) → nd' = nd)

theorem Step.refl (m : Nat) (s : PS) : Step m s s :=
  ⟨Nat.le_refl _, rfl, fun h => h, fun _ _ hl hnd => absurd (List.getElem?_eq_some_iff.mp hnd).1 (Nat.not_lt.mpr hl),
   fun _ nd hnd => ⟨nd, hnd, rfl, rfl, fun _ => rfl⟩⟩

theorem Step.trans {m : Nat} {s1 s2 s3 : PS} (a : Step m s1 s2) (b : Step m s2 s3) : Step m s1 s3 := by
  refine ⟨Nat.le_trans a.len b.len, by rw [b.store, a.store], fun h => b.good (a.good h), ?_, ?_⟩
  · intro x nd hl hnd
    by_cases hx : s2.heap.length ≤ x
    · exact b.fresh x nd hx hnd
    · have hlt : x < s2.heap.length := Nat.lt_of_not_le hx
      obtain ⟨nd', h2, e1, e2, _⟩ := b.keep x _ (List.getElem?_eq_getElem hlt)
      rw [hnd] at h2; injection h2 with h2; subst h2
      rw [e1, e2]
      exact a.fresh x _ hl (List.getElem?_eq_getElem hlt)
  · intro x nd hnd
    obtain ⟨nd2, h2, e1, e2, e3⟩ := a.keep x nd hnd
    obtain ⟨nd3, h3, f1, f2, f3⟩ := b.keep x nd2 h2
    refine ⟨nd3, h3, f1.trans e1, f2.trans e2, fun hc => ?_⟩
    have := e3 hc; subst this
    exact f3 hc

instance (m : Nat) : PreR (Step m) := ⟨Step.refl m, Step.trans⟩

theorem Grow.toStep {m : Nat} {s s' : PS} (g : Grow m s s') : Step m s s' :=
  ⟨g.length, g.store, g.good, g.fresh, fun a nd hnd => ⟨nd, g.alloc a nd hnd, rfl, rfl, fun _ => rfl⟩⟩

theorem Spec.toStep {α : Type} {m : Nat} {x : M α} {s : PS} {Q : α → PS → Prop}
    (hx : Spec (Grow m) x s Q) : Spec (Step m) x s Q := hx.mono (fun _ h => h.toStep)

theorem applyAct_write_some {h h' : Heap} {m a : Nat} {nd : MNode} (hg : applyAct h (.write m a nd) = some h') :
    ∃ old, h[a]? = some old ∧ old.owner = m ∧ old.shared = false ∧ nd.owner = m ∧ nd.shared = false ∧ m ≠ 0 ∧
      h' = h.set a nd := by
  rw [applyAct] at hg
  cases ho : h[a]? with
  | none => rw [ho] at hg; cases hg
  | some old =>
    rw [ho] at hg
    obtain ⟨⟨c1, c2, c3, c4, _, c6⟩, hg⟩ := Option.ite_none_right_eq_some.mp hg
    exact ⟨old, rfl, c1, c2, c3, c4, c6, (Option.some.inj hg).symm⟩

theorem write_spec {m : Nat} (a : Nat) (nd : MNode) (s : PS) :
    Spec (Step m) (write m a nd) s (fun _ s' => ∃ old, s.heap[a]? = some old ∧ old.owner = m ∧ old.shared = false ∧
      nd.owner = m ∧ nd.shared = false ∧ m ≠ 0 ∧ s' = { s with heap := s.heap.set a nd }) := by
  unfold Spec write
  cases hg : applyAct s.heap (.write m a nd) with
  | none => trivial
  | some h' =>
    obtain ⟨old, ho, c1, c2, c3, c4, c6, rfl⟩ := applyAct_write_some hg
    have hne : ∀ {b : Nat} {x : MNode}, s.heap[b]? = some x → b ≠ a → (s.heap.set a nd)[b]? = some x :=
      fun hx hba => (List.getElem?_set_ne (Ne.symm hba)).trans hx
    refine ⟨⟨Nat.le_of_eq List.length_set.symm, rfl, fun hg => ?_, fun b x hl hx => ?_, fun b x hx => ?_⟩,
      old, ho, c1, c2, c3, c4, c6, rfl⟩
    · refine hg.step (s' := { s with heap := s.heap.set a nd }) (fun b x hx hs => hne hx ?_) (sharedFlat_set hg.sflat c4)
        (du_set hg.du fun _ => c4) [] (List.append_nil _).symm hg.flat rfl
      rintro rfl
      rw [ho] at hx
      cases hx
      rw [c2] at hs
      cases hs
    · have hb : b < (s.heap.set a nd).length := (List.getElem?_eq_some_iff.mp hx).1
      rw [List.length_set] at hb
      exact absurd hb (Nat.not_lt.mpr hl)
    · by_cases hba : b = a
      · subst hba
        rw [ho] at hx
        cases hx
        refine ⟨nd, List.getElem?_set_self (List.getElem?_eq_some_iff.mp ho).1, c3.trans c1.symm, c4.trans c2.symm, ?_⟩
        rintro (h | h)
        · rw [c2] at h; cases h
        · exact absurd c1 h
      · exact ⟨x, hne hx hba, rfl, rfl, fun _ => rfl⟩

end Mast.Ptr
