import Mastverif.Lemmas.RefInsertTop
/-! A step performed for tree `m` — also one that publishes objects of `m` and extends the store (`WStep`) — leaves the
    other trees of a system alone; `repTree` agrees with `absTree`. -/
namespace Mast.Ptr
open Mast.Heap

/-- a step performed for tree `m` that may also publish objects of `m` and extend the store -/
structure WStep (m : Nat) (s s' : PS) : Prop where
  len : s.heap.length ≤ s'.heap.length
  store : ∃ ext, s'.store = s.store ++ ext
  fresh : ∀ (a : Nat) (nd : MNode), s.heap.length ≤ a → s'.heap[a]? = some nd → nd.shared = true ∨ nd.owner = m
  keep : ∀ (a : Nat) (nd : MNode), s.heap[a]? = some nd → ∃ nd', s'.heap[a]? = some nd' ∧ nd'.owner = nd.owner ∧
    (nd'.shared = false → nd.shared = false) ∧ ((nd.shared = true ∨ nd.owner ≠ m) → nd' = nd)

theorem Step.toW {m : Nat} {s s' : PS} (h : Step m s s') : WStep m s s' :=
  ⟨h.len, ⟨[], by simp [h.store]⟩, h.fresh, fun a nd hnd => by
    obtain ⟨nd', h1, h2, h3, h4⟩ := h.keep a nd hnd
    exact ⟨nd', h1, h2, fun h5 => by rw [← h3]; exact h5, h4⟩⟩

theorem WStep.trans {m : Nat} {s1 s2 s3 : PS} (a : WStep m s1 s2) (b : WStep m s2 s3) : WStep m s1 s3 := by
  refine ⟨Nat.le_trans a.len b.len, ?_, ?_, ?_⟩
  · obtain ⟨e1, h1⟩ := a.store
    obtain ⟨e2, h2⟩ := b.store
    exact ⟨e1 ++ e2, by rw [h2, h1, List.append_assoc]⟩
  · intro x nd hl hnd
    by_cases hx : s2.heap.length ≤ x
    · exact b.fresh x nd hx hnd
    · have hlt : x < s2.heap.length := Nat.lt_of_not_le hx
      obtain ⟨nd', h2, e1, _, e3⟩ := b.keep x _ (List.getElem?_eq_getElem hlt)
      rw [hnd] at h2; injection h2 with h2; subst h2
      rcases a.fresh x _ hl (List.getElem?_eq_getElem hlt) with h | h
      · rw [e3 (Or.inl h)]; exact Or.inl h
      · exact Or.inr (e1.trans h)
  · intro x nd hnd
    obtain ⟨nd2, h2, e1, e2, e3⟩ := a.keep x nd hnd
    obtain ⟨nd3, h3, f1, f2, f3⟩ := b.keep x nd2 h2
    refine ⟨nd3, h3, f1.trans e1, fun h => e2 (f2 h), fun hc => ?_⟩
    have := e3 hc; subst this
    exact f3 hc

/-- `repLink_frame` with the unshared objects of `m` as the set that may change -/
theorem WStep.repLink_other {m m2 : Nat} {s s' : PS} (hst : WStep m s s') (hne : m2 ≠ m) {g : Nat} {l : HLink}
    {x : Bool × T × List Nat} (hx : repLink s.heap s.store g l = some x) (hown : FpOwned s.heap m2 x.2.2) :
    repLink s'.heap s'.store g l = some x := by
  obtain ⟨ext, hext⟩ := hst.store
  rw [hext]
  refine repLink_frame (h := s.heap) (h' := s'.heap) (st := s.store) ext
    (fun a => ∃ nd, s.heap[a]? = some nd ∧ nd.shared = false ∧ nd.owner = m) ?_ ?_ g _ x hx ?_
  · intro a nd hnd hnw
    obtain ⟨nd', hnd', _, _, heq⟩ := hst.keep a nd hnd
    have : nd.shared = true ∨ nd.owner ≠ m := by
      cases hs : nd.shared with
      | true => exact Or.inl rfl
      | false => exact Or.inr (fun ho => hnw ⟨nd, hnd, hs, ho⟩)
    rw [heq this] at hnd'; exact hnd'
  · rintro a nd hnd ⟨nd', hnd', hs, _⟩
    cases hnd.symm.trans hnd'; exact hs
  · rintro y hy ⟨nd, hnd, _, ho⟩
    obtain ⟨nd', hnd', ho'⟩ := hown y hy
    cases hnd.symm.trans hnd'
    exact hne (ho'.symm.trans ho)

theorem WStep.repTree_other {m : Nat} {s s' : PS} (hst : WStep m s s') {g : Nat} {t2 : PTree} {B : Tree}
    (hne : t2.id ≠ m) (hB : repTree s g t2 = some B) (hown : FpOwned s.heap t2.id (footprint s g t2)) :
    repTree s' g t2 = some B ∧ FpOwned s'.heap t2.id (footprint s' g t2) := by
  obtain ⟨x, hx, hxnd, rfl⟩ := repTree_eq_some.mp hB
  rw [footprint_eq hx] at hown
  have hx' := hst.repLink_other hne hx hown
  have hkeep : ∀ y ∈ x.2.2, ∀ nd, s.heap[y]? = some nd → s'.heap[y]? = some nd := by
    intro y hy nd hnd
    obtain ⟨nd0, hnd0, ho⟩ := hown y hy
    cases hnd.symm.trans hnd0
    obtain ⟨nd', hnd', _, _, heq⟩ := hst.keep y nd hnd
    rw [heq (Or.inr (by rw [ho]; exact hne))] at hnd'; exact hnd'
  refine ⟨repTree_eq_some.mpr ⟨x, hx', hxnd, ?_⟩, ?_⟩
  · congr 1
    cases hr : t2.root with
    | nil => rfl
    | ref n => rfl
    | ptr a =>
      rw [hr] at hx
      obtain ⟨_, nd, cs, _, hnd, _, _, hxe⟩ := repLink_ptr_some.mp hx
      have hnd' : s'.heap[a]? = some nd := by
        cases hs : nd.shared with
        | true =>
          obtain ⟨nd', h1, _, _, heq⟩ := hst.keep a nd hnd
          rw [heq (Or.inl hs)] at h1; exact h1
        | false =>
          apply hkeep a _ nd hnd
          rw [hxe, nodeRep_fp]
          exact List.mem_append.mpr (Or.inl (mem_ownFp.mpr ⟨hs, rfl⟩))
      simp only [rootDirty, hnd, hnd']
  · rw [footprint_eq hx']
    intro y hy
    obtain ⟨nd, hnd, ho⟩ := hown y hy
    exact ⟨nd, hkeep y hy nd hnd, ho⟩

theorem Step.repLink_other {m m2 : Nat} {s s' : PS} (hst : Step m s s') (hne : m2 ≠ m) {g : Nat} {l : HLink}
    {x : Bool × T × List Nat} (hx : repLink s.heap s.store g l = some x) (hown : FpOwned s.heap m2 x.2.2) :
    repLink s'.heap s'.store g l = some x :=
  hst.toW.repLink_other hne hx hown

theorem Step.repTree_other {m : Nat} {s s' : PS} (hst : Step m s s') {g : Nat} {t2 : PTree} {B : Tree}
    (hne : t2.id ≠ m) (hB : repTree s g t2 = some B) (hown : FpOwned s.heap t2.id (footprint s g t2)) :
    repTree s' g t2 = some B ∧ FpOwned s'.heap t2.id (footprint s' g t2) :=
  hst.toW.repTree_other hne hB hown

/-- the tie to the abstraction the driver runs: where `repTree` is defined, `absTree` agrees -/
theorem repTree_absTree {s : PS} {g : Nat} {t : PTree} {A : Tree} (h : repTree s g t = some A) :
    absTree s g t = some A := by
  obtain ⟨x, hx, _, rfl⟩ := repTree_eq_some.mp h
  obtain ⟨p, r, fp⟩ := x
  unfold absTree
  rw [repLink_absLink g t.root p r fp hx]
  simp only [treeRec]
  congr 2

/-- `Insert` on tree `t` leaves every tree of another owner as it was -/
theorem insert_other_trees (E : Env) (fuel g g2 : Nat) (s s' : PS) (t t' t2 : PTree) (k v : Nat) (A B : Tree)
    (hg : Good s) (hown : FpOwned s.heap t.id (footprint s g t)) (hh : Healthy t)
    (hA : repTree s g t = some A) (h : insert E fuel s t k v = (s', t', .ok))
    (hne : t2.id ≠ t.id) (hB : repTree s g2 t2 = some B) (hown2 : FpOwned s.heap t2.id (footprint s g2 t2)) :
    repTree s' g2 t2 = some B ∧ FpOwned s'.heap t2.id (footprint s' g2 t2) := by
  obtain ⟨_, _, _, _, _, _, _, _, hst⟩ := insert_refines E fuel g s s' t t' k v A hg hown hh hA h
  exact hst.repTree_other hne hB hown2

end Mast.Ptr
