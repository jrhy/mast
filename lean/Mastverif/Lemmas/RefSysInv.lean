import Mastverif.Lemmas.RefSrc
import Mastverif.Lemmas.RefDelSys
/-!
The system invariant `RSys` for the history-level refinement theorem (over the relation `WStep` of `RefSys.lean`: what a
step of tree `m` — including a flush, which publishes — does to the objects of other trees), the functional contents `Den` of a system,
and the two generic preservation lemmas (`rsys_grow`: allocation-only step, possibly adding a tree; `rsys_update`: a
step of tree number `i` that replaces its record).
-/
namespace Mast.Ptr
open Mast.Heap

/-- every name of the store denotes a row (children are stored before parents) -/
def StoreDen (st : List SNode) : Prop :=
  ∀ n sn, storeAt st n = some sn → ∃ g x, repLink [] st g (.ref n) = some x

def Denotes (s : PS) (t : PTree) (A : Tree) : Prop := ∃ g, repTree s g t = some A

theorem repTree_mono_le {s : PS} {g g' : Nat} {t : PTree} {A : Tree} (h : repTree s g t = some A) (hg : g ≤ g') :
    repTree s g' t = some A := by
  obtain ⟨x, hx, hnd, hA⟩ := repTree_eq_some.mp h
  exact repTree_eq_some.mpr ⟨x, repLink_mono_le hx hg, hnd, hA⟩

theorem Denotes.unique {s : PS} {t : PTree} {A B : Tree} (ha : Denotes s t A) (hb : Denotes s t B) : A = B := by
  obtain ⟨g1, h1⟩ := ha
  obtain ⟨g2, h2⟩ := hb
  have e1 := repTree_mono_le h1 (Nat.le_max_left g1 g2)
  have e2 := repTree_mono_le h2 (Nat.le_max_right g1 g2)
  rw [e1] at e2; injection e2

/-- the tree denotes a functional tree and owns its footprint; its thresholds are consecutive powers of a branch
    factor `≥ 2` (`Thresh`: `shrinkBelow = bf ^ e`, `growAfter = bf ^ (e + 1)`; it implies the `Healthy` that
    `insert_refines` needs and, unlike `Healthy`, is kept by the height reduction of `Delete`) -/
structure TreeOK (s : PS) (t : PTree) : Prop where
  den : ∃ g A, repTree s g t = some A ∧ FpOwned s.heap t.id (footprint s g t)
  thresh : Thresh t

structure RSys (σ : Sys) : Prop where
  good : Good σ.ps
  src : SourceOK σ.ps
  sden : StoreDen σ.ps.store
  trees : ∀ t ∈ σ.trees, TreeOK σ.ps t ∧ t.id < σ.nextId
  distinct : (σ.trees.map (·.id)).Nodup
  /-- no unshared object is owned by an id that has not been handed out -/
  owners : ∀ (a : Nat) (nd : MNode), σ.ps.heap[a]? = some nd → nd.shared = false → nd.owner < σ.nextId

theorem RSys.init' (uc : Bool) (nid : Nat) : RSys { ps := { useCache := uc }, nextId := nid } := by
  refine ⟨⟨?_, ?_, ?_, ?_⟩, ⟨?_, ?_⟩, ?_, ?_, List.nodup_nil, ?_⟩
  · intro n a h; cases h
  · intro a nd h; cases h
  · intro sn h; cases h
  · intro a nd h; cases h
  · intro a nd h; cases h
  · intro a nd n h; cases h
  · intro n sn h
    unfold storeAt at h
    split at h <;> cases h
  · intro t h; cases h
  · intro a nd h; cases h

theorem RSys.init : RSys {} := RSys.init' false 1

/-- `As` lists what the trees of `σ` denote -/
def Den (σ : Sys) (As : List Tree) : Prop :=
  As.length = σ.trees.length ∧ ∀ (i : Nat) (t : PTree), σ.trees[i]? = some t → ∃ A, As[i]? = some A ∧ Denotes σ.ps t A

theorem den_empty (σ : Sys) (h : σ.trees = []) : Den σ [] :=
  ⟨by simp [h], fun i t hi => by simp [h] at hi⟩

theorem Den.unique {σ : Sys} {As Bs : List Tree} (ha : Den σ As) (hb : Den σ Bs) : As = Bs := by
  apply List.ext_getElem?
  intro i
  by_cases hi : i < σ.trees.length
  · obtain ⟨A, h1, h2⟩ := ha.2 i _ (List.getElem?_eq_getElem hi)
    obtain ⟨B, h3, h4⟩ := hb.2 i _ (List.getElem?_eq_getElem hi)
    rw [h1, h3, h2.unique h4]
  · have hi := Nat.le_of_not_lt hi
    rw [List.getElem?_eq_none (by rw [ha.1]; exact hi), List.getElem?_eq_none (by rw [hb.1]; exact hi)]

theorem RSys.exists_den {σ : Sys} (h : RSys σ) : ∃ As, Den σ As := by
  have : ∀ (l : List PTree), (∀ t ∈ l, ∃ A, Denotes σ.ps t A) →
      ∃ As : List Tree, As.length = l.length ∧ ∀ (i : Nat) (t : PTree), l[i]? = some t → ∃ A, As[i]? = some A ∧ Denotes σ.ps t A := by
    intro l
    induction l with
    | nil => intro _; exact ⟨[], rfl, fun i t h => by simp at h⟩
    | cons t l ih =>
      intro hl
      obtain ⟨A, hA⟩ := hl t (by simp)
      obtain ⟨As, h1, h2⟩ := ih (fun t' ht' => hl t' (List.mem_cons_of_mem _ ht'))
      refine ⟨A :: As, congrArg (· + 1) h1, ?_⟩
      intro i t' hi
      cases i with
      | zero => cases hi; exact ⟨A, rfl, hA⟩
      | succ i => exact h2 i t' hi
  exact this σ.trees (fun t ht => by
    obtain ⟨g, A, hA, _⟩ := (h.trees t ht).1.den
    exact ⟨A, g, hA⟩)

theorem WStep.owners {m k : Nat} {s s' : PS} (hw : WStep m s s') (hm : m < k)
    (h : ∀ (a : Nat) (nd : MNode), s.heap[a]? = some nd → nd.shared = false → nd.owner < k) :
    ∀ (a : Nat) (nd : MNode), s'.heap[a]? = some nd → nd.shared = false → nd.owner < k := by
  intro a nd hnd hs
  by_cases ha : a < s.heap.length
  · obtain ⟨nd', h1, h2, h3, _⟩ := hw.keep a _ (List.getElem?_eq_getElem ha)
    have := Option.some.inj (hnd.symm.trans h1); subst this
    rw [h2]; exact h a _ (List.getElem?_eq_getElem ha) (h3 hs)
  · rcases hw.fresh a nd (Nat.le_of_not_lt ha) hnd with h1 | h1
    · rw [hs] at h1; cases h1
    · rw [h1]; exact hm

theorem rsys_grow {σ : Sys} {As : List Tree} (hR : RSys σ) (hD : Den σ As) {m nid : Nat} {s' : PS}
    (hgr : Grow m σ.ps s') (hsrc : SourceOK s') (hm : m < nid) (hn : σ.nextId ≤ nid)
    (new : Option (PTree × Tree))
    (hnew : ∀ t' A', new = some (t', A') → TreeOK s' t' ∧ t'.id = σ.nextId ∧ σ.nextId < nid ∧ Denotes s' t' A') :
    RSys { ps := s', nextId := nid, trees := addTree σ.trees (new.map (·.1)) } ∧
    Den { ps := s', nextId := nid, trees := addTree σ.trees (new.map (·.1)) }
      (match new with | some x => As ++ [x.2] | none => As) := by
  have hold : ∀ t ∈ σ.trees, TreeOK s' t ∧ t.id < nid := by
    intro t ht
    obtain ⟨⟨⟨g, A, hA, hown⟩, hh⟩, hid⟩ := hR.trees t ht
    obtain ⟨h1, h2, _⟩ := hgr.tree hA hown
    exact ⟨⟨⟨g, A, h1, h2⟩, hh⟩, Nat.lt_of_lt_of_le hid hn⟩
  have holdD : ∀ (i : Nat) (t : PTree), σ.trees[i]? = some t → ∃ A, As[i]? = some A ∧ Denotes s' t A := by
    intro i t hi
    obtain ⟨A, h1, g, h2⟩ := hD.2 i t hi
    exact ⟨A, h1, g, hgr.repTree h2⟩
  have hg' : Good s' := hgr.good hR.good
  have hsd' : StoreDen s'.store := by rw [hgr.store]; exact hR.sden
  have hown' := hgr.toStep.toW.owners hm (fun a nd h1 h2 => Nat.lt_of_lt_of_le (hR.owners a nd h1 h2) hn)
  cases new with
  | none => exact ⟨⟨hg', hsrc, hsd', hold, hR.distinct, hown'⟩, hD.1, holdD⟩
  | some x =>
    obtain ⟨t', A'⟩ := x
    obtain ⟨htok, hid, hlt, hden⟩ := hnew t' A' rfl
    refine ⟨⟨hg', hsrc, hsd', ?_, ?_, hown'⟩, ?_, ?_⟩
    · intro t ht
      rcases List.mem_append.mp ht with h | h
      · exact hold t h
      · cases List.mem_singleton.mp h
        exact ⟨htok, hid.symm ▸ hlt⟩
    · show (List.map (fun x => x.id) (σ.trees ++ [t'])).Nodup
      rw [List.map_append, List.nodup_append]
      refine ⟨hR.distinct, List.pairwise_singleton _ _, ?_⟩
      intro a ha b hb
      cases List.mem_singleton.mp hb
      obtain ⟨x, hx, rfl⟩ := List.mem_map.mp ha
      -- the ids handed out so far are below `σ.nextId`
      exact Nat.ne_of_lt (Nat.lt_of_lt_of_eq (hR.trees x hx).2 hid.symm)
    · show (As ++ [A']).length = (σ.trees ++ [t']).length
      rw [List.length_append, List.length_append, hD.1]; rfl
    · intro i t hi
      rcases getElem?_append_single hi with h | ⟨rfl, rfl⟩
      · obtain ⟨A, h1, h2⟩ := holdD i t h
        exact ⟨A, (List.getElem?_append_left (List.getElem?_eq_some_iff.mp h1).1).trans h1, h2⟩
      · exact ⟨A', by rw [← hD.1]; exact List.getElem?_concat_length, hden⟩

theorem rsys_update {σ : Sys} {As : List Tree} (hR : RSys σ) (hD : Den σ As) {i : Nat} {t t' : PTree} {s' : PS}
    {A' : Tree} (hi : σ.trees[i]? = some t) (hw : WStep t.id σ.ps s') (hg : Good s') (hsrc : SourceOK s')
    (hsd : StoreDen s'.store) (hok : TreeOK s' t') (hid : t'.id = t.id) (hden : Denotes s' t' A') :
    RSys { σ with ps := s', trees := σ.trees.set i t' } ∧
    Den { σ with ps := s', trees := σ.trees.set i t' } (As.set i A') := by
  have hilt : i < σ.trees.length := (List.getElem?_eq_some_iff.mp hi).1
  have htm : t ∈ σ.trees := List.mem_of_getElem? hi
  have hother : ∀ j x, σ.trees[j]? = some x → j ≠ i → TreeOK s' x ∧ ∀ A, Denotes σ.ps x A → Denotes s' x A := by
    intro j x hj hji
    have hne : x.id ≠ t.id := ne_id_of_nodup hR.distinct hi hj hji
    obtain ⟨⟨⟨g, B, hB, hown⟩, hh⟩, _⟩ := hR.trees x (List.mem_of_getElem? hj)
    obtain ⟨h1, h2⟩ := hw.repTree_other hne hB hown
    refine ⟨⟨⟨g, B, h1, h2⟩, hh⟩, ?_⟩
    intro A hA
    have : A = B := hA.unique ⟨g, hB⟩
    subst this; exact ⟨g, h1⟩
  refine ⟨⟨hg, hsrc, hsd, ?_, ?_, hw.owners (hR.trees t htm).2 hR.owners⟩, ?_, ?_⟩
  · intro x hx
    obtain ⟨j, hj⟩ := List.getElem?_of_mem hx
    change (σ.trees.set i t')[j]? = some x at hj
    by_cases hji : j = i
    · subst hji
      rw [List.getElem?_set_self hilt] at hj
      cases hj
      exact ⟨hok, hid ▸ (hR.trees t htm).2⟩
    · rw [List.getElem?_set_ne (Ne.symm hji)] at hj
      exact ⟨(hother j x hj hji).1, (hR.trees x (List.mem_of_getElem? hj)).2⟩
  · show (List.map (fun x => x.id) (σ.trees.set i t')).Nodup
    rw [map_id_set hi hid]; exact hR.distinct
  · show (As.set i A').length = (σ.trees.set i t').length
    rw [List.length_set, List.length_set, hD.1]
  · intro j x hj
    change (σ.trees.set i t')[j]? = some x at hj
    by_cases hji : j = i
    · subst hji
      rw [List.getElem?_set_self hilt] at hj
      cases hj
      exact ⟨A', List.getElem?_set_self (hD.1 ▸ hilt), hden⟩
    · rw [List.getElem?_set_ne (Ne.symm hji)] at hj
      obtain ⟨A, h1, h2⟩ := hD.2 j x hj
      exact ⟨A, (List.getElem?_set_ne (Ne.symm hji)).trans h1, (hother j x hj hji).2 A h2⟩

end Mast.Ptr
