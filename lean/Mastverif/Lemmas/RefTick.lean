import Mastverif.Lemmas.RefGood
/-!
# Counting store loads: a Hoare triple with a load budget

`PS.tick` counts the loads that go to the store (`loadRef` increments it exactly when the name is not
served by the cache, also when the load fails).  `TS R n x s Q`: from the state `s`, the program `x`
performs at most `n` store loads, whatever the outcome that carries a state (`.ok` / `.err`); on `.ok` the
relation `R s s'` and the postcondition `Q` hold.  Two relations are used: `AnyR` (nothing is tracked; for
the phases that write in place) and `AExt` (allocation-only steps that keep the store and the cache
invariant; for the phases that read).

A bound is proved by following the program text with one rule per construct: `TS.bind` splits the budget
(`TS.bind0` / `TS.bind_tail0` when one side loads nothing), `TS.read` for the dereference of an object,
`TS.ite` and `TS.link` for the tests (tactic `split` is slow on goals of this size), the primitives below
for the leaves.  Programs that never load are handled once and for all by `NoLoad`, which does not mention
the state.
-/
namespace Mast.Ptr
open Mast.Heap

/-- the cache invariant, demanded only when the cache is in use -/
def CacheS (s : PS) : Prop := s.useCache = true → CacheInv s

theorem Good.cacheS {s : PS} (h : Good s) : CacheS s := fun _ => h.cache

/-- allocation-only step: objects are kept, the store is the same, the cache stays sound -/
structure AExt (s s' : PS) : Prop where
  alloc : AllocOnly s.heap s'.heap
  store : s'.store = s.store
  cache : CacheS s → CacheS s'

def AnyR (_ _ : PS) : Prop := True

theorem AExt.refl (s : PS) : AExt s s := ⟨AllocOnly.refl _, rfl, fun h => h⟩

theorem AExt.trans {a b c : PS} (x : AExt a b) (y : AExt b c) : AExt a c :=
  ⟨x.alloc.trans y.alloc, by rw [y.store, x.store], fun h => y.cache (x.cache h)⟩

instance : PreR AExt := ⟨AExt.refl, AExt.trans⟩
instance : PreR AnyR := ⟨fun _ => trivial, fun _ _ => trivial⟩

/-- at most `n` store loads from `s`, on every outcome that carries a state; `panic`, `stuck` and `oof` hand
    no state back (the public calls keep the one they started from), so they satisfy every triple -/
def TS {α : Type} (R : PS → PS → Prop) (n : Nat) (x : M α) (s : PS) (Q : α → PS → Prop) : Prop :=
  match x s with
  | .ok a s' => s'.tick ≤ s.tick + n ∧ R s s' ∧ Q a s'
  | .err s' => s'.tick ≤ s.tick + n
  | _ => True

/-- the postcondition that asks nothing -/
def Tr {α : Type} : α → PS → Prop := fun _ _ => True

variable {α β : Type} {R : PS → PS → Prop} {s : PS} {n : Nat}

theorem tick_chain {t0 t1 t2 a b n : Nat} (h1 : t1 ≤ t0 + a) (h2 : t2 ≤ t1 + b) (hn : a + b ≤ n) : t2 ≤ t0 + n :=
  Nat.le_trans h2 (Nat.le_trans (Nat.add_le_add_right h1 b) (Nat.add_assoc t0 a b ▸ Nat.add_le_add_left hn t0))

theorem le_add_sub_self (a b : Nat) : a ≤ b + (a - b) := Nat.sub_le_iff_le_add'.mp (Nat.le_refl _)

theorem TS.bind [PreR R] {x : M α} {f : α → M β} {a b n : Nat}
    {Q1 : α → PS → Prop} {Q : β → PS → Prop}
    (hx : TS R a x s Q1)
    (hf : ∀ r s1, x s = .ok r s1 → R s s1 → Q1 r s1 → TS R b (f r) s1 Q)
    (hn : a + b ≤ n) : TS R n (x >>= f) s Q := by
  show TS R n (M.bind x f) s Q
  unfold TS M.bind
  unfold TS at hx
  cases hxs : x s with
  | ok r s1 =>
    rw [hxs] at hx
    have h2 := hf r s1 hxs hx.2.1 hx.2.2
    unfold TS at h2
    simp only
    cases hfs : f r s1 with
    | ok b' s2 =>
      rw [hfs] at h2
      exact ⟨tick_chain hx.1 h2.1 hn, PreR.trans hx.2.1 h2.2.1, h2.2.2⟩
    | err s2 => rw [hfs] at h2; exact tick_chain hx.1 h2 hn
    | stuck => trivial
    | panic => trivial
    | oof => trivial
  | err s1 => rw [hxs] at hx; exact tick_chain hx (Nat.le_add_right _ b) hn
  | stuck => trivial
  | panic => trivial
  | oof => trivial

theorem TS.bind0 [PreR R] {x : M α} {f : α → M β} {n : Nat}
    {Q1 : α → PS → Prop} {Q : β → PS → Prop} (hx : TS R 0 x s Q1)
    (hf : ∀ r s1, x s = .ok r s1 → R s s1 → Q1 r s1 → TS R n (f r) s1 Q) : TS R n (x >>= f) s Q :=
  TS.bind hx hf (Nat.le_of_eq (Nat.zero_add n))

theorem TS.bind_tail0 [PreR R] {x : M α} {f : α → M β} {n : Nat}
    {Q1 : α → PS → Prop} {Q : β → PS → Prop} (hx : TS R n x s Q1)
    (hf : ∀ r s1, x s = .ok r s1 → R s s1 → Q1 r s1 → TS R 0 (f r) s1 Q) : TS R n (x >>= f) s Q :=
  TS.bind hx hf (Nat.le_refl n)

theorem TS.pure [PreR R] {a : α} {Q : α → PS → Prop} (h : Q a s) :
    TS R n (Pure.pure a : M α) s Q := ⟨Nat.le_add_right _ _, PreR.refl s, h⟩

theorem TS.panic {Q : α → PS → Prop} : TS R n (panicE : M α) s Q := trivial
theorem TS.oof {Q : α → PS → Prop} : TS R n (oofE : M α) s Q := trivial
theorem TS.fail {Q : α → PS → Prop} : TS R n (failE : M α) s Q :=
  Nat.le_add_right _ _

theorem TS.ite {c : Prop} [Decidable c] {x y : M α} {n : Nat}
    {Q : α → PS → Prop} (hx : c → TS R n x s Q) (hy : ¬c → TS R n y s Q) : TS R n (if c then x else y) s Q := by
  by_cases h : c
  · rw [if_pos h]; exact hx h
  · rw [if_neg h]; exact hy h

/-- the three-way test of a child link: out of range, absent, present -/
theorem TS.link {o : Option HLink} {A B : M β} {C : HLink → M β} {n : Nat}
    {Q : β → PS → Prop} (hA : o = none → TS R n A s Q) (hB : o = some .nil → TS R n B s Q)
    (hC : ∀ l, o = some l → l ≠ .nil → TS R n (C l) s Q) :
    TS R n (match o with | none => A | some .nil => B | some l => C l) s Q := by
  cases o with
  | none => exact hA rfl
  | some l => cases l with
    | nil => exact hB rfl
    | ptr a => exact hC _ rfl (fun h => HLink.noConfusion h)
    | ref k => exact hC _ rfl (fun h => HLink.noConfusion h)

theorem TS.conseq {x : M α} {n n' : Nat} {Q Q' : α → PS → Prop}
    (hx : TS R n x s Q) (hn : n ≤ n') (hq : ∀ a s', x s = .ok a s' → R s s' → Q a s' → Q' a s') : TS R n' x s Q' := by
  unfold TS at hx ⊢
  cases hxs : x s with
  | ok a s1 => rw [hxs] at hx; exact ⟨tick_chain (b := 0) hx.1 (Nat.le_refl _) hn, hx.2.1, hq a s1 hxs hx.2.1 hx.2.2⟩
  | err s1 => rw [hxs] at hx; exact tick_chain (b := 0) hx (Nat.le_refl _) hn
  | stuck => trivial
  | panic => trivial
  | oof => trivial

theorem TS.mono {x : M α} {n n' : Nat} {Q : α → PS → Prop}
    (hx : TS R n x s Q) (hn : n ≤ n') : TS R n' x s Q := hx.conseq hn (fun _ _ _ _ h => h)

theorem TS.any {x : M α} {Q : α → PS → Prop}
    (hx : TS R n x s Q) : TS AnyR n x s Q := by
  unfold TS at hx ⊢
  cases hxs : x s with
  | ok a s1 => rw [hxs] at hx; exact ⟨hx.1, trivial, hx.2.2⟩
  | err s1 => rw [hxs] at hx; exact hx
  | stuck => trivial
  | panic => trivial
  | oof => trivial

/-! ## reading the bound off a triple -/

theorem TS.ok {x : M α} {s s' : PS} {a : α} {Q : α → PS → Prop}
    (hx : TS R n x s Q) (h : x s = .ok a s') : s'.tick ≤ s.tick + n ∧ R s s' ∧ Q a s' := by
  unfold TS at hx; rw [h] at hx; exact hx

theorem TS.err {x : M α} {s s' : PS} {Q : α → PS → Prop}
    (hx : TS R n x s Q) (h : x s = .err s') : s'.tick ≤ s.tick + n := by
  unfold TS at hx; rw [h] at hx; exact hx

/-- the bound of a triple, in the form "for every outcome that carries a state" -/
theorem TS.bounds {α : Type} {R : PS → PS → Prop} {x : M α} {s : PS} {n : Nat} {Q : α → PS → Prop}
    (hx : TS R n x s Q) :
    (∀ a s', x s = .ok a s' → s'.tick ≤ s.tick + n) ∧ (∀ s', x s = .err s' → s'.tick ≤ s.tick + n) :=
  ⟨fun _ _ h => (hx.ok h).1, fun _ h => hx.err h⟩

theorem runM_tick {x : M α} {Q : α → PS → Prop}
    (hx : TS R n x s Q) : (runM x s).2.1.tick ≤ s.tick + n := by
  unfold runM
  cases hxs : x s with
  | ok a s' => exact (hx.ok hxs).1
  | err s' => exact hx.err hxs
  | panic => exact Nat.le_add_right _ _
  | stuck => exact Nat.le_add_right _ _
  | oof => exact Nat.le_add_right _ _

theorem afterCommit_tick {x : M PTree} {Q : PTree → PS → Prop}
    (hx : TS R n x s Q) (t : PTree) : (afterCommit x s t).1.tick ≤ s.tick + n := by
  unfold afterCommit
  cases hxs : x s with
  | ok a s' => exact (hx.ok hxs).1
  | err s' => exact hx.err hxs
  | panic => exact Nat.le_add_right _ _
  | stuck => exact Nat.le_add_right _ _
  | oof => exact Nat.le_add_right _ _

/-! ## primitives -/

theorem cacheInv_allocOnly {s s' : PS} (ha : AllocOnly s.heap s'.heap) (hs : s'.store = s.store)
    (hc : s'.cache = s.cache) (h : CacheInv s) : CacheInv s' := by
  intro n a hna
  rw [hc] at hna
  obtain ⟨nd, sn, h1, h2, h3, h4⟩ := h n a hna
  exact ⟨nd, sn, ha a nd h1, h2, by rw [hs]; exact h3, h4⟩

theorem AExt.of_alloc {s s' : PS} (ha : AllocOnly s.heap s'.heap) (hs : s'.store = s.store)
    (hc : s'.cache = s.cache) (hu : s'.useCache = s.useCache) : AExt s s' :=
  ⟨ha, hs, fun h hu' => cacheInv_allocOnly ha hs hc (h (by rw [← hu]; exact hu'))⟩

theorem read_ts [PreR R] (a : Nat) (s : PS) :
    TS R 0 (read a) s (fun nd s' => s = s' ∧ s.heap[a]? = some nd) := by
  unfold TS read
  cases h : s.heap[a]? with
  | none => trivial
  | some nd => exact ⟨Nat.le_refl _, PreR.refl s, rfl, rfl⟩

theorem TS.read [PreR R] {a : Nat} {f : MNode → M β} {n : Nat}
    {Q : β → PS → Prop} (h : ∀ nd, s.heap[a]? = some nd → TS R n (f nd) s Q) : TS R n (read a >>= f) s Q :=
  TS.bind0 (read_ts a s) (fun nd _ _ _ hq => hq.1 ▸ h nd hq.2)

theorem alloc_ts (nd : MNode) (s : PS) :
    TS AExt 0 (alloc nd) s (fun a s' => a = s.heap.length ∧ s' = { s with heap := s.heap ++ [nd] }) := by
  unfold TS alloc
  cases hg : applyAct s.heap (.alloc nd) with
  | none => trivial
  | some h' =>
    have := applyAct_alloc_some hg; subst this
    exact ⟨Nat.le_refl _, AExt.of_alloc (allocOnly_append _ _) rfl rfl rfl, rfl, rfl⟩

theorem write_ts (m a : Nat) (nd : MNode) (s : PS) : TS AnyR 0 (write m a nd) s (fun _ _ => True) := by
  unfold TS write
  cases applyAct s.heap (.write m a nd) with
  | none => trivial
  | some h' => exact ⟨Nat.le_refl _, trivial, trivial⟩

theorem layerM_ts (E : Env) (k : Nat) (s : PS) : TS AExt 0 (layerM E k) s (fun r _ => r = E.layer k) := by
  unfold TS layerM
  cases hf : E.layerFailAt s.ltick with
  | true => simp only [if_true]; exact Nat.le_refl _
  | false =>
    simp only [Bool.false_eq_true, if_false]
    exact ⟨Nat.le_refl _, AExt.of_alloc (AllocOnly.refl _) rfl rfl rfl, trivial⟩

/-- a load of a name costs at most one store load; with a sound cache the object that comes back has the
    links of the stored node of that name -/
theorem loadRef_ts (E : Env) (n : Nat) (s : PS) :
    TS AExt 1 (loadRef E n) s (fun a s' => CacheS s → ∃ nd sn, s'.heap[a]? = some nd ∧
      storeAt s.store n = some sn ∧ nd.links = expandLinks sn) := by
  unfold TS
  rcases loadRef_cases E n s with ⟨a, hu, hmem, h⟩ | h | ⟨sn, hsn, _, h⟩ | h
  · rw [h]
    refine ⟨Nat.le_add_right _ _, AExt.refl s, fun hok => ?_⟩
    obtain ⟨nd, sn, h1, _, h3, _, _, h6⟩ := hok hu n a hmem
    exact ⟨nd, sn, h1, h3, h6⟩
  · rw [h]; exact Nat.le_refl _
  · rw [h]
    have hself : (s.heap ++ [decode sn n])[s.heap.length]? = some (decode sn n) := getElem?_append_self _ _
    refine ⟨Nat.le_refl _, ⟨allocOnly_append _ _, rfl, ?_⟩, fun _ => ⟨decode sn n, sn, hself, hsn, rfl⟩⟩
    -- the cache invariant for the new entry and, after the allocation, for the old ones
    intro hok hu k b hkb
    have hu' : s.useCache = true := hu
    have hkb' : (k, b) ∈ (n, s.heap.length) :: s.cache := (if_pos hu' ▸ hkb :)
    rcases List.mem_cons.mp hkb' with h | h
    · cases h
      exact ⟨decode sn n, sn, hself, rfl, hsn, rfl, rfl, rfl⟩
    · exact cacheInv_allocOnly (s := s) (s' := { s with heap := s.heap ++ [decode sn n] })
        (allocOnly_append _ _) rfl rfl (hok hu') k b h
  · rw [h]; trivial

/-- `load`: a pointer is handed back as it is, a name costs at most one store load -/
theorem load_ts (E : Env) (l : HLink) (s : PS) :
    TS AExt 1 (load E l) s (fun a s' => l ≠ .nil ∧ (∀ b, l = .ptr b → a = b ∧ s' = s) ∧
      ∀ n, l = .ref n → CacheS s → ∃ nd sn, s'.heap[a]? = some nd ∧
        storeAt s.store n = some sn ∧ nd.links = expandLinks sn) := by
  cases l with
  | nil => exact TS.fail
  | ptr b =>
    exact TS.pure ⟨fun h => HLink.noConfusion h, fun _ hb => ⟨HLink.ptr.inj hb, rfl⟩, fun _ hn => HLink.noConfusion hn⟩
  | ref n =>
    exact (loadRef_ts E n s).conseq (Nat.le_refl _) fun _ _ _ _ h =>
      ⟨fun h => HLink.noConfusion h, fun _ hb => HLink.noConfusion hb, fun _ hn => HLink.ref.inj hn ▸ h⟩

theorem load_ts_tr (E : Env) (l : HLink) (s : PS) : TS AExt 1 (load E l) s Tr :=
  (load_ts E l s).conseq (Nat.le_refl _) (fun _ _ _ _ _ => trivial)

/-! ## programs that load nothing

`NoLoad x Q`: from every state, `x` performs no store load, and `Q` holds of what it returns.  The state does
not occur, so such a fact is proved by following the program text: `bind`, `ite`, and the primitives below. -/

def NoLoad (x : M α) (Q : α → Prop) : Prop := ∀ s, TS AnyR 0 x s (fun a _ => Q a)

theorem NoLoad.bind {x : M α} {f : α → M β} {Q1 : α → Prop} {Q : β → Prop}
    (hx : NoLoad x Q1) (hf : ∀ a, Q1 a → NoLoad (f a) Q) : NoLoad (x >>= f) Q :=
  fun s => TS.bind0 (hx s) (fun a s1 _ _ h => hf a h s1)

theorem NoLoad.pure {a : α} {Q : α → Prop} (h : Q a) : NoLoad (Pure.pure a : M α) Q := fun _ => TS.pure h
theorem NoLoad.panic {Q : α → Prop} : NoLoad (panicE : M α) Q := fun _ => TS.panic
theorem NoLoad.oof {Q : α → Prop} : NoLoad (oofE : M α) Q := fun _ => TS.oof
theorem NoLoad.fail {Q : α → Prop} : NoLoad (failE : M α) Q := fun _ => TS.fail

theorem NoLoad.ite {c : Prop} [Decidable c] {x y : M α} {Q : α → Prop}
    (hx : c → NoLoad x Q) (hy : ¬c → NoLoad y Q) : NoLoad (if c then x else y) Q :=
  fun s => TS.ite (fun h => hx h s) (fun h => hy h s)

theorem NoLoad.ts {x : M α} {Q : α → Prop} (h : NoLoad x Q) :
    TS AnyR n x s (fun a _ => Q a) := (h s).mono (Nat.zero_le n)

theorem NoLoad.of_ts {x : M α} {Q : α → Prop}
    (h : ∀ s, TS R 0 x s (fun a _ => Q a)) : NoLoad x Q := fun s => (h s).any

theorem read_noLoad (a : Nat) : NoLoad (read a) (fun _ => True) :=
  NoLoad.of_ts (R := AnyR) fun s => (read_ts a s).conseq (Nat.le_refl _) (fun _ _ _ _ _ => trivial)

theorem alloc_noLoad (nd : MNode) : NoLoad (alloc nd) (fun _ => True) :=
  NoLoad.of_ts fun s => (alloc_ts nd s).conseq (Nat.le_refl _) (fun _ _ _ _ _ => trivial)

theorem write_noLoad (m a : Nat) (nd : MNode) : NoLoad (write m a nd) (fun _ => True) := fun s => write_ts m a nd s

theorem layerM_noLoad (E : Env) (k : Nat) : NoLoad (layerM E k) (fun _ => True) :=
  NoLoad.of_ts fun s => (layerM_ts E k s).conseq (Nat.le_refl _) (fun _ _ _ _ _ => trivial)

theorem load_ptr_noLoad (E : Env) (a : Nat) : NoLoad (load E (.ptr a)) (fun b => b = a) := NoLoad.pure rfl

end Mast.Ptr
