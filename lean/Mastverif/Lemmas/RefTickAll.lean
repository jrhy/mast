import Mastverif.Lemmas.RefTickExample
import Mastverif.Lemmas.RefTickGo
/-! The axiom audit of the load bounds that are not themselves `C16_*` theorems of `Props/C16O.lean`. -/
open Mast.Ptr

#print axioms loadMast_ts
#print axioms clone_ts
#print axioms flush_ts
#print axioms get_ts
#print axioms split_rsp
#print axioms split_ts
#print axioms insertPlan_ts
#print axioms insert_state_tick
#print axioms insert_tick
#print axioms insert_tick'
#print axioms mergeNodes_ts
#print axioms deletePlan_ts
#print axioms delete_tick
#print axioms delete_tick'
#print axioms delete_tick_cases
#print axioms delete_tick_all
#print axioms depthLe_of_repTree
#print axioms Sys.apply_tick
#print axioms Sys.run_tick
#print axioms opDeep_of_den
#print axioms ws_fstep
#print axioms Sys.deep_of_refines
#print axioms Sys.run_tick_refines
#print axioms Sys.run_tick_init
#print axioms Sys.run_tick_scratch
#print axioms insertGo_tick
#print axioms deleteGo_tick
#print axioms loadWF_of_tree
