import Mastverif.Model.PtrCursor
import Mastverif.Lemmas.RefTickDepth
/-!
# Store loads of cursor calls (bounds on `PS.tick`)

`PathD s H path`: every object on the path is at most `H + 1` levels deep (it hangs below a top
node of a tree of height `H`).  A placement and a move then cost at most `H` store loads, `Get`
none, and they keep the invariant — for every outcome that carries a state, with a node cache or
none, under any fault oracle.
-/
namespace Mast.Ptr
open Mast.Heap

def PathD (s : PS) (H : Nat) (path : CPath) : Prop :=
  ∀ x ∈ path, DepthLe s.heap s.store (H + 1) (.ptr x.1)

theorem PathD.ext {s s' : PS} {H : Nat} {path : CPath} (h : PathD s H path) (e : AExt s s') : PathD s' H path :=
  fun x hx => DepthLe.ext e (h x hx)

theorem PathD.head {s : PS} {H : Nat} {x : Nat × Nat} {path : CPath} (h : PathD s H (x :: path)) :
    DepthLe s.heap s.store (H + 1) (.ptr x.1) := h x (List.mem_cons_self ..)

theorem PathD.tail {s : PS} {H : Nat} {x : Nat × Nat} {path : CPath} (h : PathD s H (x :: path)) : PathD s H path :=
  fun y hy => h y (List.mem_cons_of_mem _ hy)

theorem PathD.cons {s : PS} {H a i : Nat} {path : CPath} (ha : DepthLe s.heap s.store (H + 1) (.ptr a))
    (h : PathD s H path) : PathD s H ((a, i) :: path) := by
  intro x hx
  rcases List.mem_cons.mp hx with rfl | hx
  · exact ha
  · exact h x hx

theorem tryE_ts {α : Type} {R : PS → PS → Prop} {x : M α} {s : PS} {n : Nat} {Q : α → PS → Prop}
    (h : TS R n x s Q) (hR : ∀ s', x s = .err s' → R s s') :
    TS R n (tryE x) s (fun r s' => match r with | some a => Q a s' | none => True) := by
  unfold TS tryE
  unfold TS at h
  cases hx : x s with
  | ok a s' => rw [hx] at h; exact h
  | err s' => rw [hx] at h; exact ⟨h, hR s' hx, trivial⟩
  | panic => trivial
  | stuck => trivial
  | oof => trivial

theorem load_err_aext {E : Env} {l : HLink} {s s' : PS} (h : load E l s = .err s') : AExt s s' := by
  obtain ⟨h1, h2, h3, h4⟩ := load_err h
  refine ⟨by rw [h1]; exact AllocOnly.refl _, h2, ?_⟩
  intro hc hu
  have := hc (by rw [← h4]; exact hu)
  unfold CacheInv at this ⊢
  rw [h1, h2, h3]; exact this

/-- the step every navigation call is made of: load the child behind a link at most `k` levels deep and go
    on from it with what is left of the budget; a failed load ends the call with `p`, after one store load -/
theorem tryLoad_ts {β : Type} (E : Env) {l : HLink} {s : PS} (hc : CacheS s) {k : Nat}
    (hd : DepthLe s.heap s.store k l) (hne : l ≠ .nil) {p : β} {K : Nat → M β} {Q : β → PS → Prop}
    (hp : ∀ s1, AExt s s1 → Q p s1)
    (hK : ∀ c s1, AExt s s1 → CacheS s1 → DepthLe s1.heap s1.store k (.ptr c) → TS AExt (k - 1) (K c) s1 Q) :
    TS AExt k (do
      match ← tryE (load E l) with
      | none => pure p
      | some c => K c) s Q := by
  refine TS.bind (tryE_ts (load_depth E l s hc hd) fun s' h => load_err_aext h) ?_
    (Nat.le_of_eq (Nat.add_sub_of_le (hd.pos hne)))
  intro r s1 _ e hq
  cases r with
  | none => exact TS.pure (hp s1 e)
  | some c => exact hK c s1 e (e.cache hc) hq.2

theorem cMinLoop_ts (E : Env) (H f : Nat) : ∀ (d a : Nat) (path : CPath) (s : PS), CacheS s →
    DepthLe s.heap s.store d (.ptr a) → d ≤ H + 1 → PathD s H path →
    TS AExt (d - 1) (cMinLoop E f a path) s (fun r s' => PathD s' H r.1) := by
  induction f with
  | zero => exact fun _ _ _ _ _ _ _ _ => TS.oof
  | succ f ih =>
    intro d a path s hc hd hdH hp
    unfold cMinLoop
    refine TS.read fun nd hnd => TS.link (fun _ => TS.pure hp) (fun _ => TS.pure hp) fun l hl hne => ?_
    refine tryLoad_ts E hc (hd.child hnd (List.mem_of_getElem? hl)) hne (fun _ e => hp.ext e) fun c s1 e hc1 hdc => ?_
    have hle : d - 1 ≤ H + 1 := Nat.le_trans (Nat.sub_le _ _) hdH
    exact ih (d - 1) c _ s1 hc1 hdc hle (PathD.cons (hdc.mono hle) (hp.ext e))

/-- `path` is the path below `a` (`cMaxLoop` pushes `a` itself) -/
theorem cMaxLoop_ts (E : Env) (H f : Nat) : ∀ (d a : Nat) (path : CPath) (s : PS), CacheS s →
    DepthLe s.heap s.store d (.ptr a) → d ≤ H + 1 → PathD s H path →
    TS AExt (d - 1) (cMaxLoop E f a path) s (fun r s' => PathD s' H r.1) := by
  induction f with
  | zero => exact fun _ _ _ _ _ _ _ _ => TS.oof
  | succ f ih =>
    intro d a path s hc hd hdH hp
    have hpa : ∀ i, PathD s H ((a, i) :: path) := fun i => PathD.cons (hd.mono hdH) hp
    unfold cMaxLoop
    refine TS.read fun nd hnd => TS.link (fun _ => TS.pure (hpa _)) (fun _ => TS.pure (hpa _)) fun l hl hne => ?_
    have hmem : l ∈ nd.links := by
      by_cases h0 : nd.links.length = 0
      · rw [if_pos h0] at hl; cases hl
      · rw [if_neg h0] at hl; exact List.mem_of_getElem? hl
    refine tryLoad_ts E hc (hd.child hnd hmem) hne (fun _ e => (hpa _).ext e) fun c s1 e hc1 hdc => ?_
    exact ih (d - 1) c _ s1 hc1 hdc (Nat.le_trans (Nat.sub_le _ _) hdH) ((hpa _).ext e)

theorem cPopFwd_ts (H : Nat) (path : CPath) (s : PS) (hp : PathD s H path) :
    TS AExt 0 (cPopFwd path) s (fun r s' => PathD s' H r) := by
  induction path with
  | nil => exact TS.pure hp
  | cons x rest ih => exact TS.read fun _ _ => TS.ite (fun _ => TS.pure hp) fun _ => ih hp.tail

theorem cPopCeil_ts (H : Nat) (path : CPath) (s : PS) (hp : PathD s H path) :
    TS AExt 0 (cPopCeil path) s (fun r s' => PathD s' H r) := by
  induction path with
  | nil => exact TS.pure hp
  | cons x rest ih => exact TS.read fun _ _ => TS.ite (fun _ => ih hp.tail) fun _ => TS.pure hp

theorem pathD_popBwd {s : PS} {H : Nat} (path : CPath) (hp : PathD s H path) : PathD s H (cPopBwd path) := by
  induction path with
  | nil => exact hp
  | cons x rest ih =>
    unfold cPopBwd
    by_cases hi : x.2 > 0
    · rw [if_pos hi]; exact PathD.cons hp.head hp.tail
    · rw [if_neg hi]; exact ih hp.tail

/-- the descent of `Forward` / `Backward` into the child behind `l`, then along `loop`; when it fails the
    cursor is left on `path` -/
theorem descend_ts (E : Env) {H : Nat} {s : PS} (hc : CacheS s) {path : CPath} (hp : PathD s H path) {l : HLink}
    (hd : DepthLe s.heap s.store H l) (hne : l ≠ .nil) {loop : Nat → M (CPath × Bool)}
    (hloop : ∀ c s1, AExt s s1 → CacheS s1 → DepthLe s1.heap s1.store H (.ptr c) →
      TS AExt (H - 1) (loop c) s1 (fun r s' => PathD s' H r.1)) :
    TS AExt H (do
      match ← tryE (load E l) with
      | none => pure (path, true)
      | some c =>
        let r ← loop c
        if r.2 then pure (path, true) else pure r) s (fun r s' => PathD s' H r.1) :=
  tryLoad_ts E hc hd hne (fun _ e => hp.ext e) fun c s1 e hc1 hdc =>
    TS.bind_tail0 (hloop c s1 e hc1 hdc) fun _ _ _ e3 hq =>
      TS.ite (fun _ => TS.pure ((hp.ext e).ext e3)) fun _ => TS.pure hq

theorem cForward_ts (E : Env) (H f : Nat) (path : CPath) (s : PS) (hc : CacheS s) (hp : PathD s H path) :
    TS AExt H (cForward E f path) s (fun r s' => PathD s' H r.1) := by
  cases path with
  | nil => exact TS.pure hp
  | cons x rest =>
    obtain ⟨a, i⟩ := x
    unfold cForward
    refine TS.read fun nd hnd => ?_
    have hstep : TS AExt H (if i + 1 < nd.keys.length then pure (((a, i + 1) :: rest : CPath), false)
        else do let p ← cPopFwd rest; pure (p, false)) s (fun r s' => PathD s' H r.1) :=
      TS.ite (fun _ => TS.pure (PathD.cons hp.head hp.tail)) fun _ =>
        TS.bind0 ((cPopFwd_ts H rest s hp.tail).mono (Nat.zero_le _)) fun _ _ _ _ hq => TS.pure hq
    have hdesc : ∀ c s1, AExt s s1 → CacheS s1 → DepthLe s1.heap s1.store H (.ptr c) →
        TS AExt (H - 1) (cMinLoop E f c ((c, 0) :: (a, i + 1) :: rest)) s1 (fun r s' => PathD s' H r.1) :=
      fun c s1 e hc1 hdc => cMinLoop_ts E H f H c _ s1 hc1 hdc (Nat.le_succ H)
        (PathD.cons (hdc.mono (Nat.le_succ H)) (PathD.cons (DepthLe.ext e hp.head) (hp.tail.ext e)))
    cases ho : (if i + 1 < nd.links.length then nd.links[i + 1]? else none) with
    | none => exact hstep
    | some l =>
      have hdl : DepthLe s.heap s.store H l := by
        by_cases hlt : i + 1 < nd.links.length
        · rw [if_pos hlt] at ho; exact hp.head.child hnd (List.mem_of_getElem? ho)
        · rw [if_neg hlt] at ho; cases ho
      cases l with
      | nil => exact hstep
      | ptr b => exact descend_ts E hc hp hdl (fun h => HLink.noConfusion h) hdesc
      | ref n => exact descend_ts E hc hp hdl (fun h => HLink.noConfusion h) hdesc

theorem cBackward_ts (E : Env) (H f : Nat) (path : CPath) (s : PS) (hc : CacheS s) (hp : PathD s H path) :
    TS AExt H (cBackward E f path) s (fun r s' => PathD s' H r.1) := by
  cases path with
  | nil => exact TS.pure hp
  | cons x rest =>
    obtain ⟨a, i⟩ := x
    unfold cBackward
    refine TS.read fun nd hnd => TS.link (fun _ => TS.panic) (fun _ => ?_) fun l hl hne => ?_
    · exact TS.ite (fun _ => TS.pure (PathD.cons hp.head hp.tail)) fun _ => TS.pure (pathD_popBwd rest hp.tail)
    · exact descend_ts E hc hp (hp.head.child hnd (List.mem_of_getElem? hl)) hne fun c s1 e hc1 hdc =>
        cMaxLoop_ts E H f H c _ s1 hc1 hdc (Nat.le_succ H) (hp.ext e)

theorem cCeil_ts (E : Env) (H k f : Nat) : ∀ (d a i : Nat) (rest : CPath) (s : PS), CacheS s → PathD s H rest →
    DepthLe s.heap s.store d (.ptr a) → d ≤ H + 1 →
    TS AExt (d - 1) (cCeil E k f ((a, i) :: rest)) s (fun r s' => PathD s' H r.1) := by
  induction f with
  | zero => exact fun _ _ _ _ _ _ _ _ _ => TS.oof
  | succ f ih =>
    intro d a _ rest s hc hp hd hdH
    have hpa : ∀ i, PathD s H ((a, i) :: rest) := fun i => PathD.cons (hd.mono hdH) hp
    unfold cCeil
    refine TS.read fun nd hnd => TS.ite (fun _ => TS.pure (hpa _)) fun _ =>
      TS.link (fun _ => TS.panic) (fun _ => ?_) fun l hl hne => ?_
    · exact TS.bind0 ((cPopCeil_ts H _ s (hpa _)).mono (Nat.zero_le _)) fun _ _ _ _ hq => TS.pure hq
    · refine tryLoad_ts E hc (hd.child hnd (List.mem_of_getElem? hl)) hne (fun _ e => (hpa _).ext e) fun c s1 e hc1 hdc => ?_
      exact ih (d - 1) c 0 _ s1 hc1 ((hpa _).ext e) hdc (Nat.le_trans (Nat.sub_le _ _) hdH)

theorem cPlace_ts (E : Env) (H f : Nat) (path : CPath) (pl : CPlace) (s : PS) (hc : CacheS s) (hp : PathD s H path) :
    TS AExt H (cPlace E f path pl) s (fun r s' => PathD s' H r.1) := by
  cases path with
  | nil =>
    cases pl with
    | min => exact TS.pure hp
    | max => exact TS.pure hp
    | ceil k => cases f with
      | zero => exact TS.oof
      | succ f => exact TS.pure hp
  | cons x rest =>
    obtain ⟨a, i⟩ := x
    cases pl with
    | min => exact cMinLoop_ts E H f (H + 1) a _ s hc hp.head (Nat.le_refl _) hp
    | max => exact cMaxLoop_ts E H f (H + 1) a _ s hc hp.head (Nat.le_refl _) hp.tail
    | ceil k => exact cCeil_ts E H k f (H + 1) a i rest s hc hp.tail hp.head (Nat.le_refl _)

theorem cStep_ts (E : Env) (H f : Nat) (path : CPath) (mv : CMove) (s : PS) (hc : CacheS s) (hp : PathD s H path) :
    TS AExt H (cStep E f path mv) s (fun r s' => PathD s' H r.1) := by
  cases mv with
  | fwd => exact cForward_ts E H f path s hc hp
  | bwd => exact cBackward_ts E H f path s hc hp

/-- the bound, and the hypotheses of the next call -/
theorem TS.nav_bounds {x : M (CPath × Bool)} {s : PS} {n H : Nat}
    (h : TS AExt n x s (fun r s' => PathD s' H r.1)) (hc : CacheS s) :
    (∀ r s', x s = .ok r s' → s'.tick ≤ s.tick + n ∧ PathD s' H r.1 ∧ CacheS s') ∧
    (∀ s', x s = .err s' → s'.tick ≤ s.tick + n) :=
  ⟨fun _ _ hok => ⟨(h.ok hok).1, (h.ok hok).2.2, (h.ok hok).2.1.cache hc⟩, fun _ herr => h.err herr⟩

theorem cGet_ts (path : CPath) (s : PS) : TS AExt 0 (cGet path) s (fun _ s' => s' = s) := by
  cases path with
  | nil => exact TS.pure rfl
  | cons x rest =>
    obtain ⟨a, i⟩ := x
    unfold cGet
    refine TS.read fun nd _ => TS.ite (fun _ => TS.pure rfl) fun _ => ?_
    cases nd.keys[i]? with
    | none => exact TS.panic
    | some k =>
      cases nd.vals[i]? with
      | none => exact TS.panic
      | some v => exact TS.pure rfl

theorem cWalk_ts (E : Env) (H f : Nat) (ms : List CMove) : ∀ (path : CPath) (s : PS), CacheS s → PathD s H path →
    TS AExt (ms.length * H) (cWalk E f ms path) s (fun r s' => PathD s' H r.1) := by
  induction ms with
  | nil => exact fun _ _ _ hp => TS.pure hp
  | cons mv ms ih =>
    intro path s hc hp
    unfold cWalk
    refine TS.bind (cStep_ts E H f path mv s hc hp) ?_ (Nat.le_of_eq ((Nat.add_comm _ _).trans (Nat.succ_mul _ _).symm))
    intro r s1 _ e hq
    exact TS.ite (fun _ => TS.pure hq) fun _ => ih r.1 s1 (e.cache hc) hq

/-- the one load is that of a root that is a name, inside `Clone` -/
theorem cursorNew_ts (E : Env) (t : PTree) (newId fuel : Nat) (s : PS) :
    TS AnyR 1 (cursorNew E t newId fuel) s (fun _ _ => True) := by
  refine TS.bind_tail0 (clone_ts E t newId fuel s) fun t' s1 _ _ hroot => ?_
  rcases hroot with h | ⟨a, h⟩
  · rw [if_pos h]; exact TS.pure trivial
  · rw [if_neg (h ▸ fun h' => HLink.noConfusion h'), h]
    exact NoLoad.ts ((load_ptr_noLoad E a).bind fun _ _ => .pure trivial)

end Mast.Ptr
