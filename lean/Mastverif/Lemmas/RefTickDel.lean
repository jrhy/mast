import Mastverif.Lemmas.RefTickDepth
/-!
# Store loads of `Delete`

Under a depth bound `DepthLe … (height + 1) root` (and a sound cache): the descent costs at most
`1 + (height - target)` store loads, `mergeNodes` at most two per level below the entry, the commit nothing;
the height reduction is excluded by `t'.height = t.height`.  Total: at most `2 * height + 1`.  As for `Insert`
the general statements allow `e` more levels than the `height` field says, which the merge walks twice.
-/
namespace Mast.Ptr
open Mast.Heap

/-- `mergeNodes`: two loads per level, along the spine below the left link -/
theorem mergeNodes_ts (E : Env) (m f : Nat) : ∀ (l r : HLink) (s : PS) (k : Nat), CacheS s →
    DepthLe s.heap s.store k l → TS AExt (2 * k) (mergeNodes E m f l r) s Tr := by
  induction f with
  | zero => exact fun _ _ _ _ _ _ => TS.oof
  | succ f ih =>
    intro l r s k hc hd
    unfold mergeNodes
    refine TS.ite (fun _ => TS.pure trivial) fun hl => TS.ite (fun _ => TS.pure trivial) fun _ => ?_
    obtain ⟨k', rfl⟩ : ∃ k', k = k' + 1 := ⟨k - 1, (Nat.sub_add_cancel (hd.pos hl)).symm⟩
    refine TS.bind (b := 1 + 2 * k') (load_depth E l s hc hd) ?_
      (Nat.le_of_eq (by rw [Nat.mul_succ, Nat.add_comm 1, Nat.add_comm 1, Nat.add_assoc]))
    intro la s1 _ hext1 ⟨_, hla⟩
    refine TS.bind (load_ts_tr E r s1) ?_ (Nat.le_refl _)
    intro ra s2 _ hext2 _
    obtain ⟨ln0, hln0, hlk⟩ := depthLe_ptr_succ.mp (DepthLe.ext hext2 hla)
    refine TS.read fun ln hln => TS.read fun rn _ => ?_
    obtain rfl : ln0 = ln := Option.some.inj (hln0.symm.trans hln)
    cases hll : ln0.links.getLast? with
    | none => exact TS.panic
    | some ll =>
      cases rn.links with
      | nil => exact TS.panic
      | cons rl rrest =>
        refine TS.bind_tail0
          (ih ll rl s2 k' (hext2.cache (hext1.cache hc)) (hlk ll (List.mem_of_getLast? hll)))
          fun merged s4 _ _ _ => ?_
        exact TS.ite (fun _ => TS.fail) fun _ => TS.bind0 (alloc_ts _ s4) fun _ _ _ _ _ => TS.pure trivial

theorem deletePlan_ts (E : Env) (t : PTree) (fuel key val : Nat) (s : PS) (hc : CacheS s) {e : Nat}
    (hd : DepthLe s.heap s.store (t.height + 1 + e) t.root) :
    TS AExt (1 + t.height + min (E.layer key) t.height + 2 * e) (deletePlan E t fuel key val) s Tr := by
  unfold deletePlan
  refine TS.ite (fun _ => TS.fail) fun _ => TS.bind0 (layerM_ts E key s) ?_
  rintro lay s1 _ hext1 rfl
  have hc1 := hext1.cache hc
  have hmin : min (E.layer key) t.height ≤ t.height := Nat.min_le_right _ _
  refine TS.bind (load_depth E t.root s1 hc1 (DepthLe.ext hext1 hd)) ?_
    (Nat.le_of_eq (by rw [Nat.add_assoc 1, Nat.add_assoc 1]))
  intro a0 s2 _ hext2 ⟨_, ha0⟩
  have hc2 := hext2.cache hc1
  -- the descent stops `target` levels above the leaves; the merge walks them twice
  refine TS.bind (b := 2 * (min (E.layer key) t.height + e))
    (findNode_depth E t.id key _ e false fuel a0 t.height [] s2 hc2 hmin
      (ChildD.of_depth (Nat.add_right_comm t.height 1 e ▸ ha0))) ?_
    (Nat.le_of_eq (by rw [Nat.mul_add, Nat.two_mul (min _ _), ← Nat.add_assoc, ← Nat.add_assoc, Nat.sub_add_cancel hmin]))
  intro fd s3 _ hext3 ⟨_, nd0, hnd0, _, hdl⟩
  refine TS.read fun nd hnd => ?_
  obtain rfl : nd0 = nd := Option.some.inj (hnd0.symm.trans hnd)
  refine TS.ite (fun _ => TS.fail) fun hcur => TS.ite (fun _ => TS.fail) fun _ => TS.ite (fun _ => TS.fail) fun _ => ?_
  have hcur' : fd.cur = min (E.layer key) t.height := Decidable.of_not_not fun h => hcur (Or.inl h)
  cases hl : nd0.links[fd.idx]? with
  | none => exact TS.panic
  | some l =>
    cases nd0.links[fd.idx + 1]? with
    | none => exact TS.panic
    | some r =>
      exact TS.bind_tail0 (mergeNodes_ts E t.id fuel l r s3 _ (hext3.cache hc2) (hcur' ▸ hdl l hl))
        fun _ _ _ _ _ => TS.pure trivial

/-! ## the height reduction -/

theorem spec_anyR {α : Type} {x : M α} {s : PS} : Spec AnyR x s Tr := by
  unfold Spec
  cases x s <;> trivial

theorem shrink_height (E : Env) (t : PTree) (s : PS) :
    Spec AnyR (shrink E t) s (fun t' _ => t'.height + 1 = t.height) := by
  unfold shrink
  by_cases h0 : t.height = 0
  · rw [if_pos h0]; exact Spec.fail
  · rw [if_neg h0]
    by_cases hr : t.root = .nil
    · rw [if_pos hr]; exact Spec.fail
    · rw [if_neg hr]
      refine Spec.bind spec_anyR fun a s1 _ _ _ => Spec.bind spec_anyR fun nd s2 _ _ _ =>
        Spec.bind spec_anyR fun top s3 _ _ _ => ?_
      by_cases hv : (!validOK top) = true
      · rw [if_pos hv]; exact Spec.panic
      · rw [if_neg hv]
        exact Spec.bind spec_anyR fun r s4 _ _ _ => Spec.pure (Nat.sub_add_cancel (Nat.pos_of_ne_zero h0))

theorem topEntryless_same (t : PTree) (s : PS) : Spec AnyR (topEntryless t) s (fun _ s' => s' = s) := by
  unfold topEntryless
  cases t.root with
  | ptr a => exact Spec.bind (read_spec a s) fun nd s1 _ _ h => h.1 ▸ Spec.pure rfl
  | nil => exact Spec.pure rfl
  | ref n => exact Spec.pure rfl

/-- a height reduction that ends `.ok` with the height it started from did not run `shrink` at all: the state
    is the one it started from -/
theorem shrinkAll_same (E : Env) (f : Nat) : ∀ (t : PTree) (s : PS),
    Spec AnyR (shrinkAll E f t) s (fun t' s' => t'.height ≤ t.height ∧ (t'.height = t.height → s' = s)) := by
  induction f with
  | zero => exact fun _ _ => Spec.oof
  | succ f ih =>
    intro t s
    unfold shrinkAll
    refine Spec.bind (topEntryless_same t s) ?_
    rintro el s1 _ _ rfl
    by_cases hc : t.height > 0 ∧ (t.size ≤ t.shrinkBelow ∨ el = true)
    · rw [if_pos hc]
      refine Spec.bind (shrink_height E t s1) fun t' s2 _ _ hh => (ih t' s2).conseq ?_
      intro t'' s3 _ _ h
      have hlt : t''.height < t.height := hh ▸ Nat.lt_succ_of_le h.1
      exact ⟨Nat.le_of_lt hlt, fun he => absurd he (Nat.ne_of_lt hlt)⟩
    · rw [if_neg hc]; exact Spec.pure ⟨Nat.le_refl _, fun _ => rfl⟩

theorem deleteBody_ts (E : Env) (t : PTree) (fuel key val : Nat) (s : PS) (hc : CacheS s)
    (hd : DepthLe s.heap s.store (t.height + 1) t.root) :
    TS AnyR (1 + t.height + min (E.layer key) t.height)
      (do let p ← deletePlan E t fuel key val; deleteCommit t p) s (fun l _ => ∃ a, l = .ptr a) :=
  TS.bind_tail0 (deletePlan_ts E t fuel key val s hc (e := 0) hd).any (fun p s1 _ _ _ => deleteCommit_noLoad t p s1)

/-- every outcome of `Delete`: the bound holds unless the height reduction ran — in which case it either
    lowered the height or failed (a failing height reduction leaves the height as it was, see the
    counterexample in `RefTickExample`) -/
theorem delete_tick_cases (E : Env) (fuel : Nat) (s s' : PS) (t t' : PTree) (key val : Nat) (o : Outcome) (hc : CacheS s)
    {e : Nat} (hd : DepthLe s.heap s.store (t.height + 1 + e) t.root)
    (h : delete E fuel s t key val = (s', t', o)) :
    s'.tick ≤ s.tick + (1 + t.height + min (E.layer key) t.height + 2 * e) ∨
    ∃ p s1 root s2, deletePlan E t fuel key val s = .ok p s1 ∧ deleteCommit t p s1 = .ok root s2 ∧
      ((o = .ok ∧ t'.height < t.height) ∨
       (o = .err ∧ shrinkAll E fuel { t with root := root, size := t.size - 1 } s2 = .err s')) := by
  have hP := deletePlan_ts E t fuel key val s hc hd
  obtain rfl : (delete E fuel s t key val).1 = s' := by rw [h]
  obtain rfl : (delete E fuel s t key val).2.1 = t' := by rw [h]
  obtain rfl : (delete E fuel s t key val).2.2 = o := by rw [h]
  clear h
  unfold delete
  cases hp : deletePlan E t fuel key val s with
  | err s1 => exact Or.inl (hP.err hp)
  | panic => exact Or.inl (Nat.le_add_right _ _)
  | stuck => exact Or.inl (Nat.le_add_right _ _)
  | oof => exact Or.inl (Nat.le_add_right _ _)
  | ok p s1 =>
    have h1 := (hP.ok hp).1
    have hC := deleteCommit_noLoad t p s1
    dsimp only
    cases hcm : deleteCommit t p s1 with
    | err s2 => exact Or.inl (Nat.le_trans (hC.err hcm) h1)
    | panic => exact Or.inl h1
    | stuck => exact Or.inl h1
    | oof => exact Or.inl h1
    | ok root s2 =>
      have h12 := Nat.le_trans (hC.ok hcm).1 h1
      have hS := shrinkAll_same E fuel { t with root := root, size := t.size - 1 } s2
      dsimp only [afterCommit]
      cases hsa : shrinkAll E fuel { t with root := root, size := t.size - 1 } s2 with
      | err s3 => exact Or.inr ⟨p, s1, root, s2, rfl, hcm, Or.inr ⟨rfl, hsa⟩⟩
      | panic => exact Or.inl h12
      | stuck => exact Or.inl h12
      | oof => exact Or.inl h12
      | ok t3 s3 =>
        obtain ⟨_, hle, hsame⟩ := hS.ok hsa
        by_cases hh : t3.height = t.height
        · exact Or.inl (hsame hh ▸ h12)
        · exact Or.inr ⟨p, s1, root, s2, rfl, hcm, Or.inl ⟨rfl, Nat.lt_of_le_of_ne hle hh⟩⟩

theorem delete_tick_all (E : Env) (fuel : Nat) (s s' : PS) (t t' : PTree) (key val : Nat) (o : Outcome) (hc : CacheS s)
    (hd : DepthLe s.heap s.store (t.height + 1) t.root)
    (h : delete E fuel s t key val = (s', t', o)) :
    s'.tick ≤ s.tick + (1 + t.height + min (E.layer key) t.height) ∨
    ∃ p s1 root s2, deletePlan E t fuel key val s = .ok p s1 ∧ deleteCommit t p s1 = .ok root s2 ∧
      ((o = .ok ∧ t'.height < t.height) ∨
       (o = .err ∧ shrinkAll E fuel { t with root := root, size := t.size - 1 } s2 = .err s')) :=
  delete_tick_cases E fuel s s' t t' key val o hc (e := 0) hd h

/-- C16, delete: the call ends `.ok` without changing the height -/
theorem delete_tick (E : Env) (fuel : Nat) (s s' : PS) (t t' : PTree) (key val : Nat) (hc : CacheS s)
    (hd : DepthLe s.heap s.store (t.height + 1) t.root)
    (h : delete E fuel s t key val = (s', t', .ok)) (hh : t'.height = t.height) :
    s'.tick ≤ s.tick + (1 + t.height + min (E.layer key) t.height) := by
  rcases delete_tick_all E fuel s s' t t' key val .ok hc hd h with hb | ⟨_, _, _, _, _, _, ⟨_, hlt⟩ | ⟨ho, _⟩⟩
  · exact hb
  · exact absurd hh (Nat.ne_of_lt hlt)
  · cases ho

theorem delete_tick' (E : Env) (fuel : Nat) (s s' : PS) (t t' : PTree) (key val : Nat) (hc : CacheS s)
    (hd : DepthLe s.heap s.store (t.height + 1) t.root)
    (h : delete E fuel s t key val = (s', t', .ok)) (hh : t'.height = t.height) :
    s'.tick ≤ s.tick + 2 * (t.height + 1) := by
  refine Nat.le_trans (delete_tick E fuel s s' t t' key val hc hd h hh) (Nat.add_le_add_left ?_ _)
  rw [Nat.two_mul, Nat.add_comm 1]
  exact Nat.add_le_add_left (Nat.le_trans (Nat.min_le_right _ _) (Nat.le_add_right _ _)) _

end Mast.Ptr
