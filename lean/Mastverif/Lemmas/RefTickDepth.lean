import Mastverif.Lemmas.RefTickGet
/-!
# A depth bound on what hangs below a link, and the descent under it

`DepthLe h st n l`: below the link `l` there are at most `n` levels of nodes (objects of the heap `h`,
stored nodes of `st`).  Nothing else is demanded of the nodes (no validity, no order, no layers); a name
that the store does not resolve counts as a leaf (the load fails after one store load).
-/
namespace Mast.Ptr
open Mast.Heap

def DepthLe (h : Heap) (st : List SNode) : Nat → HLink → Prop
  | _, .nil => True
  | 0, _ => False
  | n+1, .ptr a => ∃ nd, h[a]? = some nd ∧ ∀ l ∈ nd.links, DepthLe h st n l
  | n+1, .ref k => ∀ sn, storeAt st k = some sn → ∀ l ∈ expandLinks sn, DepthLe h st n l

@[simp] theorem depthLe_nil (h : Heap) (st : List SNode) (n : Nat) : DepthLe h st n .nil := by
  cases n <;> simp [DepthLe]

theorem depthLe_ptr_succ {h : Heap} {st : List SNode} {n a : Nat} :
    DepthLe h st (n + 1) (.ptr a) ↔ ∃ nd, h[a]? = some nd ∧ ∀ l ∈ nd.links, DepthLe h st n l := by
  simp only [DepthLe]

theorem depthLe_ref_succ {h : Heap} {st : List SNode} {n k : Nat} :
    DepthLe h st (n + 1) (.ref k) ↔ ∀ sn, storeAt st k = some sn → ∀ l ∈ expandLinks sn, DepthLe h st n l := by
  simp only [DepthLe]

theorem DepthLe.zero {h : Heap} {st : List SNode} {l : HLink} (hd : DepthLe h st 0 l) : l = .nil := by
  cases l with
  | nil => rfl
  | ptr a => exact hd.elim
  | ref k => exact hd.elim

theorem DepthLe.pos {h : Heap} {st : List SNode} {n : Nat} {l : HLink} (hd : DepthLe h st n l) (hl : l ≠ .nil) :
    0 < n := Nat.pos_of_ne_zero fun h0 => hl (h0 ▸ hd).zero

theorem DepthLe.child {h : Heap} {st : List SNode} {d a : Nat} {nd : MNode} {l : HLink}
    (hd : DepthLe h st d (.ptr a)) (hnd : h[a]? = some nd) (hl : l ∈ nd.links) : DepthLe h st (d - 1) l := by
  cases d with
  | zero => exact hd.elim
  | succ d =>
    obtain ⟨nd', hnd', hall⟩ := depthLe_ptr_succ.mp hd
    obtain rfl : nd = nd' := Option.some.inj (hnd.symm.trans hnd')
    exact hall l hl

theorem DepthLe.mono_alloc {h h' : Heap} {st : List SNode} (ha : AllocOnly h h') {n n' : Nat} {l : HLink}
    (hn : n ≤ n') (hd : DepthLe h st n l) : DepthLe h' st n' l := by
  induction n generalizing n' l with
  | zero => exact hd.zero ▸ depthLe_nil _ _ _
  | succ n ih =>
    obtain ⟨n', rfl⟩ : ∃ m, n' = m + 1 := ⟨n' - 1, (Nat.sub_add_cancel (Nat.le_trans (Nat.succ_pos n) hn)).symm⟩
    have hn' := Nat.le_of_succ_le_succ hn
    cases l with
    | nil => exact depthLe_nil _ _ _
    | ptr a =>
      obtain ⟨nd, hnd, hl⟩ := depthLe_ptr_succ.mp hd
      exact depthLe_ptr_succ.mpr ⟨nd, ha a nd hnd, fun l hl' => ih hn' (hl l hl')⟩
    | ref k => exact depthLe_ref_succ.mpr fun sn hsn l hl => ih hn' (depthLe_ref_succ.mp hd sn hsn l hl)

theorem DepthLe.mono {h : Heap} {st : List SNode} {n n' : Nat} {l : HLink} (hd : DepthLe h st n l) (hn : n ≤ n') :
    DepthLe h st n' l := DepthLe.mono_alloc (AllocOnly.refl h) hn hd

theorem DepthLe.ext {s s' : PS} (e : AExt s s') {n : Nat} {l : HLink} (hd : DepthLe s.heap s.store n l) :
    DepthLe s'.heap s'.store n l := by
  rw [e.store]; exact DepthLe.mono_alloc e.alloc (Nat.le_refl n) hd

/-- a load keeps the depth bound: the object that comes back is at most as deep as the link was -/
theorem load_depth (E : Env) (l : HLink) (s : PS) (hc : CacheS s) {k : Nat} (hd : DepthLe s.heap s.store k l) :
    TS AExt 1 (load E l) s (fun a s' => l ≠ .nil ∧ DepthLe s'.heap s'.store k (.ptr a)) := by
  refine (load_ts E l s).conseq (Nat.le_refl _) ?_
  intro a s' _ hext ⟨h1, h2, h3⟩
  refine ⟨h1, ?_⟩
  cases l with
  | nil => exact absurd rfl h1
  | ptr b =>
    obtain ⟨rfl, rfl⟩ := h2 b rfl
    exact hd
  | ref n =>
    obtain ⟨nd, sn, hnd, hsn, hlk⟩ := h3 n rfl hc
    cases k with
    | zero => exact hd.elim
    | succ k =>
      refine depthLe_ptr_succ.mpr ⟨nd, hnd, fun l' hl' => ?_⟩
      rw [hlk] at hl'
      exact DepthLe.ext hext (depthLe_ref_succ.mp hd sn hsn l' hl')

/-- the child of node `a` on the way to `key` is at most `n` levels deep -/
def ChildD (s : PS) (key a n : Nat) : Prop :=
  ∃ nd, s.heap[a]? = some nd ∧ ∀ l, nd.links[keyIdx nd.keys key]? = some l → DepthLe s.heap s.store n l

theorem ChildD.of_depth {s : PS} {key a n : Nat} (hd : DepthLe s.heap s.store (n + 1) (.ptr a)) : ChildD s key a n := by
  obtain ⟨nd, hnd, hl⟩ := depthLe_ptr_succ.mp hd
  exact ⟨nd, hnd, fun l hl' => hl l (List.mem_of_getElem? hl')⟩

theorem alloc_empty_childD (m key n : Nat) (s : PS) :
    TS AExt 0 (alloc (emptyNode m)) s (fun c s' => ChildD s' key c n) := by
  refine (alloc_ts (emptyNode m) s).conseq (Nat.le_refl _) ?_
  rintro c s' _ _ ⟨rfl, rfl⟩
  refine ⟨emptyNode m, getElem?_append_self _ _, fun l hl => ?_⟩
  obtain rfl : l = .nil := List.mem_singleton.mp (List.mem_of_getElem? hl)
  exact depthLe_nil _ _ _

/-- `follow` on the way to `key`: one level down (or, at an absent link without `create`, staying put) -/
theorem follow_depth (E : Env) (m key a : Nat) (create : Bool) (s : PS) (hc : CacheS s) {nd : MNode} {k : Nat}
    (hnd : s.heap[a]? = some nd) (hk : 0 < k)
    (hd : ∀ l, nd.links[keyIdx nd.keys key]? = some l → DepthLe s.heap s.store k l) :
    TS AExt 1 (follow E m a (keyIdx nd.keys key) create) s (fun c s' => ChildD s' key c (k - 1)) := by
  unfold follow
  refine TS.read fun nd' hnd' => ?_
  obtain rfl : nd = nd' := Option.some.inj (hnd.symm.trans hnd')
  refine TS.link (fun _ => TS.panic) (fun hl => ?_) (fun l hl _ => ?_)
  · refine TS.ite (fun _ => (alloc_empty_childD m key _ s).mono (Nat.zero_le 1)) fun _ => TS.pure ⟨nd, hnd, fun l hl' => ?_⟩
    obtain rfl : HLink.nil = l := Option.some.inj (hl.symm.trans hl')
    exact depthLe_nil _ _ _
  · exact (load_depth E l s hc (hd l hl)).conseq (Nat.le_refl _) fun c s' _ _ h =>
      ChildD.of_depth (Nat.sub_add_cancel hk ▸ h.2)

/-- the descent under a depth bound: one store load per level, and the child below the place where it stops is
    as much shallower (`e`: by how much the tree is deeper than the level counter `cur` says) -/
theorem findNode_depth (E : Env) (m key target e : Nat) (create : Bool) (f : Nat) :
    ∀ (a cur : Nat) (path : List (Nat × Nat)) (s : PS), CacheS s → target ≤ cur → ChildD s key a (cur + e) →
      TS AExt (cur - target) (findNode E m key target create f a cur path) s (fun fd s' =>
        target ≤ fd.cur ∧ ∃ nd, s'.heap[fd.node]? = some nd ∧ fd.idx = keyIdx nd.keys key ∧
          ∀ l, nd.links[fd.idx]? = some l → DepthLe s'.heap s'.store (fd.cur + e) l) := by
  induction f with
  | zero => exact fun _ _ _ _ _ _ _ => TS.oof
  | succ f ih =>
    intro a cur path s hc htc ⟨nd0, hnd0, hd0⟩
    unfold findNode
    refine TS.read fun nd hnd => ?_
    obtain rfl : nd0 = nd := Option.some.inj (hnd0.symm.trans hnd)
    refine TS.ite (fun _ => TS.panic) fun _ => TS.ite (fun _ => TS.pure ⟨htc, nd0, hnd0, rfl, hd0⟩) fun hcont => ?_
    have hstep := descent_step htc (fun h => hcont (Or.inr h))
    exact TS.bind (follow_depth E m key a create s hc hnd0 (Nat.lt_of_lt_of_le hstep.1 (Nat.le_add_right _ _)) hd0)
      (fun c s2 _ hext hch => ih c _ _ s2 (hext.cache hc) hstep.2.1 (Nat.sub_add_comm hstep.1 ▸ hch)) hstep.2.2

end Mast.Ptr
