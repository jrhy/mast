import Mastverif.Lemmas.RefTickHist
import Mastverif.Lemmas.PtrDecEq
/-!
# Non-vacuity and counterexamples for the load bounds (all `decide +kernel`)

* a persisted tree of height 2, no cache: `Get` of a layer-0 key performs exactly `height + 1 = 3` store loads,
  an `Insert` exactly `height + 1 = 3`, a `Delete` of a top-level key exactly `2 * height + 1 = 5` (the bounds
  are attained), and the hypothesis `DepthLe` of the theorems holds there;
* FINDING 1: without the depth bound the insert / delete bounds are false — a root opened with a height that
  is too small (`LoadMast` takes the height from the caller);
* FINDING 2: the delete bound is false for the outcome `.err`: a `Delete` whose height reduction fails on its
  last child has loaded every child of the top node and leaves the height as it was.
-/
namespace Mast.Ptr
open Mast.Heap

/-- executable version of `DepthLe` -/
def depthB (h : Heap) (st : List SNode) : Nat → HLink → Bool
  | _, .nil => true
  | 0, _ => false
  | n+1, .ptr a =>
    match h[a]? with
    | some nd => nd.links.all (depthB h st n)
    | none => false
  | n+1, .ref k =>
    match storeAt st k with
    | some sn => (expandLinks sn).all (depthB h st n)
    | none => true

theorem depthB_sound {h : Heap} {st : List SNode} : ∀ (n : Nat) (l : HLink), depthB h st n l = true → DepthLe h st n l := by
  intro n
  induction n with
  | zero =>
    intro l hb
    cases l with
    | nil => simp
    | ptr a => simp [depthB] at hb
    | ref k => simp [depthB] at hb
  | succ n ih =>
    intro l hb
    cases l with
    | nil => simp
    | ptr a =>
      simp only [depthB] at hb
      split at hb
      · next nd hnd =>
        exact depthLe_ptr_succ.mpr ⟨nd, hnd, fun l hl => ih l (List.all_eq_true.mp hb l hl)⟩
      · cases hb
    | ref k =>
      simp only [depthB] at hb
      refine depthLe_ref_succ.mpr ?_
      intro sn hsn l hl
      rw [hsn] at hb
      exact ih l (List.all_eq_true.mp hb l hl)

/-! ## a persisted tree of height 2 (branch factor 2, eleven entries), cache off -/

def tkLayer : Nat → Nat := fun k => if k % 16 = 0 then 2 else if k % 4 = 0 then 1 else 0
def tkEnv : Env := { layer := tkLayer, failAt := fun _ => false }

/-- build, persist (root name 9), open the persisted version as a second tree -/
def tkOps : List Op :=
  [.load 0 0 0 2, .ins 0 1 10, .ins 0 2 20, .ins 0 4 40, .ins 0 5 50, .ins 0 8 80, .ins 0 9 90, .ins 0 16 160,
   .ins 0 17 170, .ins 0 32 320, .ins 0 33 330, .ins 0 3 30, .flush 0, .load 9 11 2 2]

def tkSys : Sys := (Sys.run tkEnv 20 {} tkOps).1

/-- heap, store and counters of `tkSys`: the nine stored nodes, the objects the first tree built them from,
    and the top node decoded once more for the second tree -/
def tkPS : PS :=
  { heap := [
      ⟨[1, 2, 4], [10, 20, 40], [.nil, .nil, .nil, .nil], true, false, 1, none⟩,
      ⟨[1, 2, 3], [10, 20, 30], [.nil, .nil, .nil, .nil], false, true, 1, some 1⟩,
      ⟨[4, 8, 16], [40, 80, 160], [.ptr 1, .ptr 4, .ptr 6, .nil], true, false, 1, none⟩,
      ⟨[5], [50], [.nil, .nil], true, false, 1, none⟩,
      ⟨[5], [50], [.nil, .nil], false, true, 1, some 2⟩,
      ⟨[9], [90], [.nil, .nil], true, false, 1, none⟩,
      ⟨[9], [90], [.nil, .nil], false, true, 1, some 3⟩,
      ⟨[4, 8], [40, 80], [.ref 1, .ref 2, .ref 3], false, true, 1, some 4⟩,
      ⟨[16, 32], [160, 320], [.ref 4, .ref 6, .ref 8], false, true, 1, some 9⟩,
      ⟨[], [], [.ptr 10], true, false, 1, none⟩,
      ⟨[17], [170], [.nil, .nil], true, false, 1, none⟩,
      ⟨[17], [170], [.nil, .nil], false, true, 1, some 5⟩,
      ⟨[], [], [.ref 5], false, true, 1, some 6⟩,
      ⟨[], [], [.ref 7], false, true, 1, some 8⟩,
      ⟨[33], [330], [.nil, .nil], false, true, 1, some 7⟩,
      ⟨[16, 32], [160, 320], [.ref 4, .ref 6, .ref 8], false, true, 0, some 9⟩],
    store := [
      ⟨[1, 2, 3], [10, 20, 30], []⟩,
      ⟨[5], [50], []⟩,
      ⟨[9], [90], []⟩,
      ⟨[4, 8], [40, 80], [.ref 1, .ref 2, .ref 3]⟩,
      ⟨[17], [170], []⟩,
      ⟨[], [], [.ref 5]⟩,
      ⟨[33], [330], []⟩,
      ⟨[], [], [.ref 7]⟩,
      ⟨[16, 32], [160, 320], [.ref 4, .ref 6, .ref 8]⟩],
    cache := [], useCache := false, tick := 1, ltick := 33 }

/-- The build-up history is evaluated once; the examples below start from its result. -/
theorem tkSys_eq :
    tkSys = { ps := tkPS, trees := [⟨1, .ref 9, 11, 2, 2, 8, 4⟩, ⟨2, .ref 9, 11, 2, 2, 8, 4⟩], nextId := 3 } := by
  decide +kernel

/-- (outcome, store loads so far, (root, height, size) of every tree) after more calls -/
def tkRun (ops : List Op) : Outcome × Nat × List (HLink × Nat × Nat) :=
  let r := Sys.run tkEnv 20 tkSys ops
  (r.2, r.1.ps.tick, r.1.trees.map (fun t => (t.root, t.height, t.size)))

/-- building and persisting loads nothing; opening the persisted version: one store load -/
example : tkRun [] = (.ok, 1, [(.ref 9, 2, 11), (.ref 9, 2, 11)]) := by rw [tkRun, tkSys_eq]; decide +kernel

/-- the hypotheses of `insert_tick` / `delete_tick` hold for both trees -/
example : tkSys.trees.map (fun t => depthB tkSys.ps.heap tkSys.ps.store (t.height + 1) t.root) = [true, true] := by
  rw [tkSys_eq]; decide +kernel
example : ∀ t ∈ tkSys.trees, DepthLe tkSys.ps.heap tkSys.ps.store (t.height + 1) t.root := by
  have h : tkSys.trees.all (fun t => depthB tkSys.ps.heap tkSys.ps.store (t.height + 1) t.root) = true := by
    rw [tkSys_eq]; decide +kernel
  exact fun t ht => depthB_sound _ _ (List.all_eq_true.mp h t ht)
example : CacheS tkSys.ps := by
  intro h
  have : tkSys.ps.useCache = false := by rw [tkSys_eq]; rfl
  rw [this] at h; cases h

/-- `Get` of a layer-0 key: exactly `height + 1 = 3` store loads (1 → 4) -/
example : (tkRun [.get 1 3]).2.1 = 4 := by rw [tkRun, tkSys_eq]; decide +kernel
/-- `Get` of a top-layer key: the top node only -/
example : (tkRun [.get 1 16]).2.1 = 2 := by rw [tkRun, tkSys_eq]; decide +kernel
/-- `Clone`: the top node only -/
example : (tkRun [.clone 1]).2.1 = 2 := by rw [tkRun, tkSys_eq]; decide +kernel
/-- `Insert` of a key of layer 0, 1, 2: exactly `height + 1 = 3` store loads each, height unchanged -/
example : tkRun [.ins 1 6 60] = (.ok, 4, [(.ref 9, 2, 11), (.ptr 20, 2, 12)]) := by rw [tkRun, tkSys_eq]; decide +kernel
example : tkRun [.ins 1 12 120] = (.ok, 4, [(.ref 9, 2, 11), (.ptr 21, 2, 12)]) := by rw [tkRun, tkSys_eq]; decide +kernel
example : tkRun [.ins 1 48 480] = (.ok, 4, [(.ref 9, 2, 11), (.ptr 21, 2, 12)]) := by rw [tkRun, tkSys_eq]; decide +kernel
/-- `Delete` of a top-layer key: exactly `2 * height + 1 = 5` store loads, height unchanged -/
example : tkRun [.del 1 16 160] = (.ok, 6, [(.ref 9, 2, 11), (.ptr 23, 2, 10)]) := by rw [tkRun, tkSys_eq]; decide +kernel

/-! ## FINDING 1: the insert / delete bounds need the depth bound

`LoadMast` takes `height` from the caller.  Opening the root of the height-2 tree with `height := 0` (and a
branch factor of 100, so that the insert does not grow the tree): an `Insert` then performs 3 store loads and
a `Delete` 5 — more than `2 * (0 + 1) = 2` — and the height stays 0. -/

def tkBad : List Op := tkOps.dropLast ++ [.load 9 11 0 100]
def tkBadSys : Sys := (Sys.run tkEnv 20 {} tkBad).1

/-- the same heap and store as `tkSys`; only the record of the second tree differs -/
theorem tkBadSys_eq :
    tkBadSys = { ps := tkPS, trees := [⟨1, .ref 9, 11, 2, 2, 8, 4⟩, ⟨2, .ref 9, 11, 0, 100, 100, 1⟩], nextId := 3 } := by
  decide +kernel

example : (tkBadSys.ps.tick, tkBadSys.trees.map (fun t => (t.root, t.height))) =
    (1, [(.ref 9, 2), (.ref 9, 0)]) := by rw [tkBadSys_eq]; decide +kernel
/-- the depth hypothesis fails for the tree opened with the wrong height -/
example : tkBadSys.trees.map (fun t => depthB tkBadSys.ps.heap tkBadSys.ps.store (t.height + 1) t.root) =
    [true, false] := by rw [tkBadSys_eq]; decide +kernel
/-- insert: outcome `.ok`, height unchanged (0), 3 store loads > `2 * (height + 1) = 2` -/
example :
    (match tkBadSys.trees[1]? with
     | none => none
     | some t =>
       let r := insert tkEnv 20 tkBadSys.ps t 24 240
       some (r.2.2, t.height, r.2.1.height, r.1.tick - tkBadSys.ps.tick)) = some (.ok, 0, 0, 3) := by rw [tkBadSys_eq]; decide +kernel
/-- delete: outcome `.ok`, height unchanged (0), 5 store loads > 2 -/
example :
    (match tkBadSys.trees[1]? with
     | none => none
     | some t =>
       let r := delete tkEnv 20 tkBadSys.ps t 16 160
       some (r.2.2, t.height, r.2.1.height, r.1.tick - tkBadSys.ps.tick)) = some (.ok, 0, 0, 5) := by rw [tkBadSys_eq]; decide +kernel

/-! ## FINDING 2: a `Delete` that FAILS in the height reduction exceeds the bound with the height unchanged

Branch factor 8, nine entries, height 1 (a consistent configuration: `shrinkBelow = 8`).  Deleting one entry
makes `size = 8 ≤ shrinkBelow`: `shrink` loads every child of the top node.  When the load of the last child
fails, the call has performed 2 + 4 = 6 store loads, ends `.err`, and the height is still 1:
`6 > 2 * (1 + 1) = 4`.  (The depth bound holds here — the hypothesis that must be added is "the outcome is
`.ok`", see `delete_tick` / `delete_tick_all`.) -/

def t8Env (fail : Nat → Bool) : Env := { layer := tkLayer, failAt := fail }
def t8Ops : List Op :=
  [.load 0 0 0 8, .ins 0 1 10, .ins 0 4 40, .ins 0 5 50, .ins 0 8 80, .ins 0 9 90, .ins 0 12 120, .ins 0 13 130,
   .ins 0 20 200, .ins 0 21 210, .flush 0, .load 6 9 1 8]
def t8Sys : Sys := (Sys.run (t8Env fun _ => false) 20 {} t8Ops).1

def t8PS : PS :=
  { heap := [
      ⟨[1, 4, 5, 8, 9, 12, 13, 20, 21], [10, 40, 50, 80, 90, 120, 130, 200, 210],
       [.nil, .nil, .nil, .nil, .nil, .nil, .nil, .nil, .nil, .nil], true, false, 1, none⟩,
      ⟨[1], [10], [.nil, .nil], false, true, 1, some 1⟩,
      ⟨[5], [50], [.nil, .nil], false, true, 1, some 2⟩,
      ⟨[9], [90], [.nil, .nil], false, true, 1, some 3⟩,
      ⟨[13], [130], [.nil, .nil], false, true, 1, some 4⟩,
      ⟨[21], [210], [.nil, .nil], false, true, 1, some 5⟩,
      ⟨[4, 8, 12, 20], [40, 80, 120, 200], [.ref 1, .ref 2, .ref 3, .ref 4, .ref 5], false, true, 1, some 6⟩,
      ⟨[4, 8, 12, 20], [40, 80, 120, 200], [.ref 1, .ref 2, .ref 3, .ref 4, .ref 5], false, true, 0, some 6⟩],
    store := [
      ⟨[1], [10], []⟩, ⟨[5], [50], []⟩, ⟨[9], [90], []⟩, ⟨[13], [130], []⟩, ⟨[21], [210], []⟩,
      ⟨[4, 8, 12, 20], [40, 80, 120, 200], [.ref 1, .ref 2, .ref 3, .ref 4, .ref 5]⟩],
    cache := [], useCache := false, tick := 1, ltick := 20 }

theorem t8Sys_eq :
    t8Sys = { ps := t8PS, trees := [⟨1, .ref 6, 9, 1, 8, 64, 8⟩, ⟨2, .ref 6, 9, 1, 8, 64, 8⟩], nextId := 3 } := by
  decide +kernel

example : (t8Sys.ps.tick, t8Sys.trees.map (fun t => (t.root, t.height, t.size, t.bf, t.shrinkBelow))) =
    (1, [(.ref 6, 1, 9, 8, 8), (.ref 6, 1, 9, 8, 8)]) := by rw [t8Sys_eq]; decide +kernel
example : t8Sys.trees.map (fun t => depthB t8Sys.ps.heap t8Sys.ps.store (t.height + 1) t.root) = [true, true] := by
  rw [t8Sys_eq]; decide +kernel

/-- no fault: the delete succeeds, the height drops to 0, 6 store loads (allowed: the height changed) -/
example :
    (match t8Sys.trees[1]? with
     | none => none
     | some t =>
       let r := delete (t8Env fun _ => false) 20 t8Sys.ps t 1 10
       some (r.2.2, t.height, r.2.1.height, r.1.tick - t8Sys.ps.tick)) = some (.ok, 1, 0, 6) := by rw [t8Sys_eq]; decide +kernel

/-- the 7th store load of the session (the last child read by `shrink`) fails: outcome `.err`, height
    unchanged (1), 6 store loads > `2 * (height + 1) = 4` -/
example :
    (match t8Sys.trees[1]? with
     | none => none
     | some t =>
       let r := delete (t8Env fun n => n == 6) 20 t8Sys.ps t 1 10
       some (r.2.2, t.height, r.2.1.height, r.1.tick - t8Sys.ps.tick)) = some (.err, 1, 1, 6) := by rw [t8Sys_eq]; decide +kernel

/-- the same as a history -/
example :
    (let r := Sys.run (t8Env fun n => n == 6) 20 {} (t8Ops ++ [.del 1 1 10])
     (r.1.ps.tick, r.1.trees.map (fun t => t.height))) = (7, [1, 1]) := by decide +kernel

/-! ## history level: `Sys.run_tick` on a concrete run -/

/-- executable version of `OpDeep` for systems that run without cache -/
def opDeepB (σ : Sys) : Op → Bool
  | .ins i _ _ => match σ.trees[i]? with
    | some t => !σ.ps.useCache && depthB σ.ps.heap σ.ps.store (t.height + 1) t.root
    | none => true
  | .del i _ _ => match σ.trees[i]? with
    | some t => !σ.ps.useCache && depthB σ.ps.heap σ.ps.store (t.height + 1) t.root
    | none => true
  | _ => true

theorem opDeepB_sound {σ : Sys} {op : Op} (h : opDeepB σ op = true) : OpDeep σ op := by
  have key : ∀ (i : Nat), (match σ.trees[i]? with
      | some t => !σ.ps.useCache && depthB σ.ps.heap σ.ps.store (t.height + 1) t.root
      | none => true) = true →
      ∀ t, σ.trees[i]? = some t → CacheS σ.ps ∧ DepthLe σ.ps.heap σ.ps.store (t.height + 1) t.root := by
    intro i hb t ht
    rw [ht] at hb
    simp only [Bool.and_eq_true, Bool.not_eq_true'] at hb
    exact ⟨fun hu => (by rw [hb.1] at hu; cases hu), depthB_sound _ _ hb.2⟩
  cases op with
  | ins i k v => exact key i h
  | del i k v => exact key i h
  | get i k => trivial
  | iter i => trivial
  | flush i => trivial
  | clone i => trivial
  | load _ _ _ _ => trivial

def Sys.deepB (E : Env) (fuel : Nat) : Sys → List Op → Bool
  | _, [] => true
  | σ, op :: ops =>
    opDeepB σ op &&
      (match σ.apply E fuel op with
       | (σ', .ok) => Sys.deepB E fuel σ' ops
       | (σ', .err) => Sys.deepB E fuel σ' ops
       | _ => true)

theorem Sys.deepB_sound (E : Env) (fuel : Nat) : ∀ (ops : List Op) (σ : Sys), Sys.deepB E fuel σ ops = true →
    Sys.Deep E fuel σ ops := by
  intro ops
  induction ops with
  | nil => intro σ _; trivial
  | cons op ops ih =>
    intro σ h
    simp only [Sys.deepB, Bool.and_eq_true] at h
    refine ⟨opDeepB_sound h.1, ?_⟩
    have h2 := h.2
    generalize σ.apply E fuel op = r at h2 ⊢
    obtain ⟨σ', o⟩ := r
    cases o with
    | ok => exact ih σ' h2
    | err => exact ih σ' h2
    | panic => trivial
    | stuck => trivial
    | oof => trivial

/-- lookups, inserts, a delete, a clone, a flush and a re-opening on the persisted tree of height 2 -/
def tkHist : List Op :=
  [.get 1 3, .ins 1 6 60, .get 1 6, .del 1 16 160, .clone 1, .get 2 5, .flush 1, .load 9 11 2 2, .ins 3 48 480]

theorem tkHist_deep : Sys.Deep tkEnv 20 tkSys tkHist := Sys.deepB_sound _ _ _ _ (by rw [tkSys_eq]; decide +kernel)
example : Sys.Deep tkEnv 20 tkSys tkHist := tkHist_deep
/-- the budgets: 3 + 3 + 3 + 5 + 1 + 3 + 1 + 1 + 3 -/
example : Sys.budget tkEnv 20 tkSys tkHist = 23 := by rw [tkSys_eq]; decide +kernel
/-- the store loads of the run (the first lookup and the insert load the path; later calls find pointers) -/
example : (tkSys.ps.tick, (Sys.run tkEnv 20 tkSys tkHist).1.ps.tick, (Sys.run tkEnv 20 tkSys tkHist).2) = (1, 14, .ok) := by
  rw [tkSys_eq]; decide +kernel
/-- `Sys.run_tick` instantiated -/
example : (Sys.run tkEnv 20 tkSys tkHist).1.ps.tick ≤ tkSys.ps.tick + Sys.budget tkEnv 20 tkSys tkHist :=
  Sys.run_tick tkEnv 20 tkHist tkSys tkHist_deep

/-! ## the unconditional history theorem `Sys.run_tick_scratch` on a concrete run -/

def loadsZeroB (ops : List Op) : Bool :=
  ops.all (fun op => match op with
    | .load l _ _ _ => l == 0
    | _ => true)

theorem loadsZeroB_sound {ops : List Op} (h : loadsZeroB ops = true) :
    ∀ op ∈ ops, ∀ l sz ht b, op = .load l sz ht b → l = 0 := by
  intro op hop l sz ht b he
  subst he
  have := List.all_eq_true.mp h _ hop
  simpa using this

/-- build from scratch, persist, then work on the persisted tree and on a clone of it -/
def tkScratch : List Op :=
  tkOps.dropLast ++ [.get 0 3, .clone 0, .ins 0 6 60, .del 1 16 160, .flush 1, .get 1 9]

example : (Sys.run tkEnv 20 {} tkScratch).1.ps.tick ≤ Sys.budget tkEnv 20 {} tkScratch :=
  Sys.run_tick_scratch tkEnv 20 tkScratch false 1 (by decide) (loadsZeroB_sound (by decide +kernel))
example : ((Sys.run tkEnv 20 {} tkScratch).1.ps.tick, Sys.budget tkEnv 20 {} tkScratch, (Sys.run tkEnv 20 {} tkScratch).2) =
    (14, 41, .ok) := by decide +kernel

end Mast.Ptr
