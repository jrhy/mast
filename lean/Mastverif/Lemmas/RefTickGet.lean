import Mastverif.Lemmas.RefTickNoLoad
/-!
# Store loads of `LoadMast`, `Clone`, `flush` and `Get` — no hypothesis on the state

* `loadMast`, `clone`, `flush`: at most one store load (the top node);
* `get`: at most `1 + (height - layer key) ≤ height + 1` store loads.

For every start state, environment (faults included: a failing load counts), fuel, and outcome that carries a
state.  Nothing is assumed about the heap, the store or the cache.
-/
namespace Mast.Ptr
open Mast.Heap

/-! ## LoadMast, Clone, flush: the top node -/

theorem loadMast_ts (E : Env) (id link size height bf : Nat) (s : PS) :
    TS AnyR 1 (loadMast E id link size height bf) s Tr :=
  TS.bind_tail0 (Q1 := Tr)
    (TS.ite (fun _ => TS.bind0 (alloc_ts _ s).any fun _ _ _ _ _ => TS.pure trivial)
      fun _ => TS.bind_tail0 (loadRef_ts E link s).any fun _ _ _ _ _ => TS.pure trivial)
    fun _ _ _ _ _ => TS.pure trivial

theorem clone_ts (E : Env) (t : PTree) (newId fuel : Nat) (s : PS) :
    TS AnyR 1 (clone E t newId fuel) s (fun t' _ => t'.root = .nil ∨ ∃ a, t'.root = .ptr a) := by
  refine TS.ite (fun h => TS.pure (Or.inl h)) fun _ =>
    TS.bind_tail0 (load_ts_tr E t.root s).any fun a _ _ _ _ => ?_
  exact NoLoad.ts ((toShared_noLoad newId fuel a).bind fun a' _ => .pure (Or.inr ⟨a', rfl⟩))

theorem flush_ts (E : Env) (t : PTree) (fuel : Nat) (s : PS) : TS AnyR 1 (flush E t fuel) s Tr :=
  TS.ite (fun _ => TS.pure trivial) fun _ =>
    TS.bind_tail0 (load_ts_tr E t.root s).any fun a _ _ _ _ =>
      NoLoad.ts ((read_noLoad a).bind fun _ _ =>
        .ite
          (fun _ => NoLoad.bind (Q1 := fun _ => True) (.ite (fun _ => write_noLoad _ _ _) fun _ => .pure trivial)
            fun _ _ => .pure trivial)
          fun _ => (storeNode_noLoad fuel a).bind fun (_, cms) _ =>
            (commitAll_noLoad t.id cms).bind fun _ _ => .pure trivial)

/-! ## Get -/

theorem follow_ts (E : Env) (m a i : Nat) (create : Bool) (s : PS) : TS AnyR 1 (follow E m a i create) s Tr := by
  unfold follow
  exact TS.read fun nd _ => TS.link (fun _ => TS.panic)
    (fun _ => TS.ite (fun _ => NoLoad.ts (alloc_noLoad _)) fun _ => TS.pure trivial)
    (fun l _ _ => (load_ts_tr E l s).any)

theorem descent_step {cur target : Nat} (h : target ≤ cur) (hne : cur ≠ target) :
    0 < cur ∧ target ≤ cur - 1 ∧ 1 + (cur - 1 - target) ≤ cur - target := by
  have hlt : target < cur := Nat.lt_of_le_of_ne h (Ne.symm hne)
  refine ⟨Nat.zero_lt_of_lt hlt, Nat.le_sub_one_of_lt hlt, ?_⟩
  rw [Nat.sub_right_comm]
  exact Nat.le_of_eq (Nat.add_sub_of_le (Nat.sub_pos_of_lt hlt))

/-- the descent: one `follow` per level between `cur` and `target`, also when the key is met early, also
    when the descent runs into an absent link (it then stays on the same node) -/
theorem findNode_ts (E : Env) (m key target : Nat) (create : Bool) (f : Nat) :
    ∀ (a cur : Nat) (path : List (Nat × Nat)) (s : PS), target ≤ cur →
      TS AnyR (cur - target) (findNode E m key target create f a cur path) s Tr := by
  induction f with
  | zero => exact fun _ _ _ _ _ => TS.oof
  | succ f ih =>
    intro a cur path s htc
    unfold findNode
    refine TS.read fun nd _ => TS.ite (fun _ => TS.panic) fun _ => TS.ite (fun _ => TS.pure trivial) fun hcont => ?_
    have hd := descent_step htc (fun h => hcont (Or.inr h))
    exact TS.bind (follow_ts E m a _ create s) (fun c s2 _ _ _ => ih c _ _ s2 hd.2.1) hd.2.2

theorem sub_min_self (l h : Nat) : h - min l h = h - l := by
  rcases Nat.le_total l h with hle | hge
  · rw [Nat.min_eq_left hle]
  · rw [Nat.min_eq_right hge, Nat.sub_self, Nat.sub_eq_zero_of_le hge]

/-- the top node and one node per level down to the key's layer: a key of layer `≥ height` is answered from
    the top node alone -/
theorem get_ts (E : Env) (t : PTree) (fuel key : Nat) (s : PS) :
    TS AnyR (1 + (t.height - E.layer key)) (get E t fuel key) s Tr := by
  rw [← sub_min_self]
  refine TS.ite (fun _ => TS.pure trivial) fun _ => TS.bind (load_ts_tr E t.root s).any ?_ (Nat.le_refl _)
  intro a s1 _ _ _
  refine TS.bind0 (layerM_ts E key s1).any ?_
  rintro lay s2 _ _ rfl
  refine TS.bind_tail0 (findNode_ts E t.id key _ false fuel a t.height [] s2 (Nat.min_le_right _ _)) ?_
  intro fd _ _ _ _
  exact NoLoad.ts ((read_noLoad fd.node).bind fun _ _ =>
    .ite (fun _ => .pure trivial) fun _ => .ite (fun _ => .pure trivial) fun _ => .pure trivial)

theorem get_ts_height (E : Env) (t : PTree) (fuel key : Nat) (s : PS) : TS AnyR (t.height + 1) (get E t fuel key) s Tr :=
  (get_ts E t fuel key s).mono (Nat.add_comm 1 t.height ▸ Nat.add_le_add_left (Nat.sub_le _ _) 1)

end Mast.Ptr
