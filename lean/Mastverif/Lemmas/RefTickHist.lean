import Mastverif.Lemmas.RefTickSys
import Mastverif.Lemmas.RefHistory
/-!
# The depth hypothesis holds along every history of the refinement invariant

`WS layer A`: the root row of the functional tree `A` is well-formed at level `A.height` and its entries are
sorted (the shape part of `Tree.Inv`; sizes and thresholds are not needed).  Every functional step `FStep`
(every outcome, including the recorded deviations: an insert or delete that fails after the commit, a delete
that empties the tree) keeps `WS`, provided a root that is opened with `LoadMast` is opened with the height at
which its row is well-formed (`LoadWF`).  With `Sys.apply_refines` this gives `Sys.Deep`, hence the history-level
load bound `Sys.run_tick` for every run from a state that satisfies the refinement invariant `RSys`.
-/
namespace Mast.Ptr
open Mast.Heap

/-- shape and order of a functional tree -/
structure WS (layer : Nat → Nat) (A : Tree) : Prop where
  wf : T.WF layer A.height A.root
  sorted : T.Sorted A.root.toList

theorem ws_growLoop (layer : Nat → Nat) (fuel : Nat) (A : Tree) (h : WS layer A) : WS layer (Tree.growLoop layer fuel A) :=
  Tree.growLoop_induct layer (P := WS layer)
    (fun m hm _ => ⟨T.grow_WF layer m.height m.root hm.wf,
      (T.toList_grow layer m.height m.root m.height hm.wf).symm ▸ hm.sorted⟩) fuel A h

theorem ws_shrinkLoop (layer : Nat → Nat) (fuel : Nat) (A : Tree) (h : WS layer A) : WS layer (Tree.shrinkLoop fuel A) :=
  Tree.shrinkLoop_induct (P := WS layer)
    (fun m hm hc => ⟨T.shrink_WF layer (m.height - 1) m.root ((Nat.sub_add_cancel hc.1).symm ▸ hm.wf),
      (T.toList_shrink m.root).symm ▸ hm.sorted⟩) fuel A h

theorem ws_ins_root (layer : Nat → Nat) {A : Tree} {k v : Nat} {r : T} (h : WS layer A)
    (hr : T.ins k v (A.levels layer k) A.root = some r) (p d : Bool) :
    WS layer { A with root := r, rootP := p, dirty := d } := by
  obtain ⟨tgt, h1, h2, h3⟩ := Tree.levels_spec layer A k
  obtain ⟨r', hr', hl, hw⟩ := T.ins_spec layer k v h2 A.root (A.levels layer k) (Or.inr (h1 ▸ h.wf)) h.sorted h3
  obtain rfl : r' = r := Option.some.inj (hr'.symm.trans hr)
  exact ⟨h1 ▸ hw, hl ▸ T.sorted_insL k v _ h.sorted⟩

theorem ws_del_root (layer : Nat → Nat) {A : Tree} {k : Nat} {r : T} (h : WS layer A)
    (hr : T.del k (A.levels layer k) A.root = some r) (p d : Bool) (sz : Nat) :
    WS layer { A with root := r, rootP := p, dirty := d, size := sz } := by
  obtain ⟨tgt, h1, h2, h3⟩ := Tree.levels_spec layer A k
  obtain ⟨hl, hw⟩ := T.del_spec layer k h2 A.root (A.levels layer k) (Or.inr (h1 ▸ h.wf)) h.sorted h3 r hr
  exact ⟨h1 ▸ hw, hl ▸ T.sorted_delL k _ h.sorted⟩

theorem ws_insert (layer : Nat → Nat) {A A' : Tree} {k v : Nat} (h : WS layer A)
    (hi : Tree.insert layer A k v = .ok A') : WS layer A' := by
  rcases Tree.insert_ok layer hi with rfl | ⟨r, hr, rfl | rfl⟩
  · exact h
  · exact ws_ins_root layer h hr false true
  · have := ws_growLoop layer (A.size + 1) _ (ws_ins_root layer h hr false true)
    exact ⟨this.wf, this.sorted⟩

theorem ws_delete (layer : Nat → Nat) {A A' : Tree} {k v : Nat} (h : WS layer A)
    (hd : Tree.delete layer A k v = .ok A') : WS layer A' := by
  obtain ⟨r, hr, rfl⟩ := Tree.delete_ok layer hd
  exact ws_shrinkLoop layer (A.height + 1) _ (ws_del_root layer h hr false true (A.size - 1))

/-! `WF` ignores the residency flags that `flush` sets -/

theorem erase_persistT : ∀ t : T, T.erase (persistT t) = T.erase t := by
  intro t
  induction t with
  | nil => rfl
  | last p c ih => simp only [persistT, T.erase, ih]
  | cons p c k v r ihc ihr => simp only [persistT, T.erase, ihc, ihr]

theorem ws_flushTree (layer : Nat → Nat) {A : Tree} (h : WS layer A) : WS layer (flushTree A) := by
  unfold flushTree
  split
  · exact ⟨h.wf, h.sorted⟩
  · refine ⟨?_, ?_⟩
    · show T.WF layer A.height (persistT A.root)
      rw [← T.WF_erase, erase_persistT, T.WF_erase]
      exact h.wf
    · show T.Sorted (persistT A.root).toList
      rw [persistT_toList]; exact h.sorted

/-- a root is opened with the height at which the row of that name is well-formed (and its entries sorted) -/
def LoadWF (layer : Nat → Nat) (st : List SNode) : Op → Prop
  | .load link _ height _ => ∀ r, NameRow st link r → T.WF layer height r ∧ T.Sorted r.toList
  | _ => True

theorem forall_mem_set {α : Type} {P : α → Prop} {l : List α} {i : Nat} {a : α} (hl : ∀ x ∈ l, P x) (ha : P a) :
    ∀ x ∈ l.set i a, P x := by
  intro x hx
  rcases List.mem_or_eq_of_mem_set hx with h | h
  · exact hl x h
  · exact h ▸ ha

theorem forall_mem_append_single {α : Type} {P : α → Prop} {l : List α} {a : α} (hl : ∀ x ∈ l, P x) (ha : P a) :
    ∀ x ∈ l ++ [a], P x := by
  intro x hx
  rcases List.mem_append.mp hx with h | h
  · exact hl x h
  · simp only [List.mem_singleton] at h; exact h ▸ ha

theorem ws_fstep (layer : Nat → Nat) {st st' : List SNode} {As As' : List Tree} {op : Op} {o : Outcome}
    (hws : ∀ A ∈ As, WS layer A) (hld : LoadWF layer st op) (h : FStep layer st st' As op o As') :
    ∀ A ∈ As', WS layer A := by
  cases op with
  | ins i k v =>
    dsimp only [FStep] at h
    cases hA : As[i]? with
    | none => rw [hA] at h; exact (h : As' = As) ▸ hws
    | some A =>
      rw [hA] at h
      have hwA := hws A (List.mem_of_getElem? hA)
      have herr : (As' = As ∨ ∃ r, Tree.lookup layer A k = none ∧ T.ins k v (A.levels layer k) A.root = some r ∧
          As' = As.set i { A with root := r, rootP := false, dirty := true }) → ∀ A ∈ As', WS layer A := by
        rintro (rfl | ⟨r, _, hr, rfl⟩)
        · exact hws
        · exact forall_mem_set hws (ws_ins_root layer hwA hr false true)
      cases o with
      | ok =>
        obtain ⟨A', hi, rfl⟩ := h
        exact forall_mem_set hws (ws_insert layer hwA hi)
      | err => exact herr h
      | panic => exact herr h
      | stuck => exact herr h
      | oof => exact herr h
  | del i k v =>
    dsimp only [FStep] at h
    cases hA : As[i]? with
    | none => rw [hA] at h; exact (h : As' = As) ▸ hws
    | some A =>
      rw [hA] at h
      have hwA := hws A (List.mem_of_getElem? hA)
      have herr : (As' = As ∨ ∃ r, Tree.lookup layer A k = some v ∧ T.del k (A.levels layer k) A.root = some r ∧
          As' = As.set i (delRec A r)) → ∀ A ∈ As', WS layer A := by
        rintro (rfl | ⟨r, _, hr, rfl⟩)
        · exact hws
        · exact forall_mem_set hws (ws_del_root layer hwA hr false true (A.size - 1))
      cases o with
      | ok =>
        obtain ⟨A', rfl, hd | ⟨hroot, _, _⟩⟩ := h
        · exact forall_mem_set hws (ws_delete layer hwA hd)
        · refine forall_mem_set hws ⟨?_, ?_⟩
          · rw [hroot]; exact (T.WF_last_iff layer).mpr (Or.inl rfl)
          · rw [hroot]; simp [T.toList, T.Sorted]
      | err => exact herr h
      | panic => exact herr h
      | stuck => exact herr h
      | oof => exact herr h
  | get i k => exact (h : As' = As) ▸ hws
  | iter i => exact (h : As' = As) ▸ hws
  | flush i =>
    dsimp only [FStep] at h
    split at h
    · next A hA =>
      obtain ⟨rfl, _⟩ := h
      exact forall_mem_set hws (ws_flushTree layer (hws A (List.mem_of_getElem? hA)))
    · subst h; exact hws
  | clone i =>
    dsimp only [FStep] at h
    split at h
    · next A hA =>
      subst h
      have hwA := hws A (List.mem_of_getElem? hA)
      exact forall_mem_append_single hws ⟨hwA.wf, hwA.sorted⟩
    · subst h; exact hws
  | load link size height bf =>
    dsimp only [FStep] at h
    cases o with
    | ok =>
      dsimp only at h
      split at h
      · subst h
        refine forall_mem_append_single hws ⟨?_, ?_⟩
        · exact (T.WF_last_iff layer).mpr (Or.inl rfl)
        · simp [loadedTree, T.toList, T.Sorted]
      · obtain ⟨r, hr, rfl⟩ := h
        obtain ⟨h1, h2⟩ := hld r hr
        exact forall_mem_append_single hws ⟨h1, h2⟩
    | err => exact (h : As' = As) ▸ hws
    | panic => exact (h : As' = As) ▸ hws
    | stuck => exact (h : As' = As) ▸ hws
    | oof => exact (h : As' = As) ▸ hws

/-! ## along a history -/

/-- every `LoadMast` of the run opens its root with a height at which the row of that name is well-formed -/
def Sys.LoadsWF (E : Env) (fuel : Nat) : Sys → List Op → Prop
  | _, [] => True
  | σ, op :: ops =>
    LoadWF E.layer σ.ps.store op ∧
      (match σ.apply E fuel op with
       | (σ', .ok) => Sys.LoadsWF E fuel σ' ops
       | (σ', .err) => Sys.LoadsWF E fuel σ' ops
       | _ => True)

theorem Sys.deep_of_refines (E : Env) (fuel : Nat) : ∀ (ops : List Op) (σ : Sys) (As : List Tree), RSys σ → Den σ As →
    (∀ A ∈ As, WS E.layer A) → (∀ op ∈ ops, OpCovered op) → Sys.LoadsWF E fuel σ ops → Sys.Deep E fuel σ ops := by
  intro ops
  induction ops with
  | nil => intro σ As _ _ _ _ _; trivial
  | cons op ops ih =>
    intro σ As hR hD hws hops hlw
    have hstep := Sys.apply_refines E fuel σ op As hR hD (hops op (List.mem_cons_self ..))
    refine ⟨opDeep_of_den E.layer σ As op hR.good hD (fun A hA => (hws A hA).wf), ?_⟩
    have hl2 := hlw.2
    generalize hr : σ.apply E fuel op = r at hstep hl2 ⊢
    obtain ⟨σ1, o⟩ := r
    cases o with
    | ok =>
      obtain ⟨hR1, _, As1, hD1, hf⟩ := hstep (Or.inl rfl)
      exact ih σ1 As1 hR1 hD1 (ws_fstep E.layer hws hlw.1 hf) (fun o ho => hops o (List.mem_cons_of_mem _ ho)) hl2
    | err =>
      obtain ⟨hR1, _, As1, hD1, hf⟩ := hstep (Or.inr rfl)
      exact ih σ1 As1 hR1 hD1 (ws_fstep E.layer hws hlw.1 hf) (fun o ho => hops o (List.mem_cons_of_mem _ ho)) hl2
    | panic => trivial
    | stuck => trivial
    | oof => trivial

/-- C16, history level, under the refinement invariant -/
theorem Sys.run_tick_refines (E : Env) (fuel : Nat) (ops : List Op) (σ : Sys) (As : List Tree) (hR : RSys σ)
    (hD : Den σ As) (hws : ∀ A ∈ As, WS E.layer A) (hops : ∀ op ∈ ops, OpCovered op)
    (hlw : Sys.LoadsWF E fuel σ ops) :
    (Sys.run E fuel σ ops).1.ps.tick ≤ σ.ps.tick + Sys.budget E fuel σ ops :=
  Sys.run_tick E fuel ops σ (Sys.deep_of_refines E fuel ops σ As hR hD hws hops hlw)

theorem Sys.run_tick_init (E : Env) (fuel : Nat) (ops : List Op) (uc : Bool) (nid : Nat)
    (hops : ∀ op ∈ ops, OpCovered op)
    (hlw : Sys.LoadsWF E fuel { ps := { useCache := uc }, nextId := nid } ops) :
    (Sys.run E fuel { ps := { useCache := uc }, nextId := nid } ops).1.ps.tick ≤
      Sys.budget E fuel { ps := { useCache := uc }, nextId := nid } ops := by
  have := Sys.run_tick_refines E fuel ops { ps := { useCache := uc }, nextId := nid } [] (RSys.init' uc nid)
    (den_empty _ rfl) (fun A hA => by cases hA) hops hlw
  exact Nat.le_trans this (Nat.le_of_eq (Nat.zero_add _))

/-- opening the empty root needs no hypothesis -/
theorem loadWF_of_zero (layer : Nat → Nat) (st : List SNode) (op : Op)
    (h : ∀ l sz ht b, op = .load l sz ht b → l = 0) : LoadWF layer st op := by
  cases op with
  | load link size height bf =>
    obtain rfl := h link size height bf rfl
    intro r ⟨g, x, hx, _⟩
    obtain ⟨_, sn, _, _, hsn, _⟩ := repLink_ref_some.mp hx
    simp [storeAt] at hsn
  | ins i k v => trivial
  | del i k v => trivial
  | get i k => trivial
  | iter i => trivial
  | flush i => trivial
  | clone i => trivial

theorem Sys.loadsWF_of_zero (E : Env) (fuel : Nat) : ∀ (ops : List Op) (σ : Sys),
    (∀ op ∈ ops, ∀ l sz ht b, op = .load l sz ht b → l = 0) → Sys.LoadsWF E fuel σ ops := by
  intro ops
  induction ops with
  | nil => intro σ _; trivial
  | cons op ops ih =>
    intro σ h
    refine ⟨loadWF_of_zero E.layer σ.ps.store op (h op (List.mem_cons_self ..)), ?_⟩
    have hrest : ∀ op' ∈ ops, ∀ l sz ht b, op' = .load l sz ht b → l = 0 := fun o ho => h o (List.mem_cons_of_mem _ ho)
    generalize σ.apply E fuel op = r
    obtain ⟨σ1, o⟩ := r
    cases o with
    | ok => exact ih σ1 hrest
    | err => exact ih σ1 hrest
    | panic => trivial
    | stuck => trivial
    | oof => trivial

/-- unconditional: a history that builds its trees from scratch (`LoadMast` of the empty root with a branch
    factor ≥ 2, then any calls; cache on or off; any fault oracle; any fuel) -/
theorem Sys.run_tick_scratch (E : Env) (fuel : Nat) (ops : List Op) (uc : Bool) (nid : Nat)
    (hops : ∀ op ∈ ops, OpCovered op) (hl : ∀ op ∈ ops, ∀ l sz ht b, op = .load l sz ht b → l = 0) :
    (Sys.run E fuel { ps := { useCache := uc }, nextId := nid } ops).1.ps.tick ≤
      Sys.budget E fuel { ps := { useCache := uc }, nextId := nid } ops :=
  Sys.run_tick_init E fuel ops uc nid hops (Sys.loadsWF_of_zero E fuel ops _ hl)

/-- re-opening the persisted root of a tree of the system, with that tree's height, needs no hypothesis:
    this is "opening a persisted version" -/
theorem loadWF_of_tree (layer : Nat → Nat) (σ : Sys) (As : List Tree) (hR : RSys σ) (hD : Den σ As)
    (hws : ∀ A ∈ As, WS layer A) {t : PTree} (ht : t ∈ σ.trees) {n : Nat} (hroot : t.root = .ref n) (size bf : Nat) :
    LoadWF layer σ.ps.store (.load n size t.height bf) := by
  intro r ⟨g', x', hx', hr⟩
  obtain ⟨i, hi⟩ := List.getElem?_of_mem ht
  obtain ⟨A, hA, g, hrep⟩ := hD.2 i t hi
  have hw := hws A (List.mem_of_getElem? hA)
  obtain ⟨x, hx, _, rfl⟩ := repTree_eq_some.mp hrep
  rw [hroot] at hx
  have hx2 := nameRow_rep hR.good hx'
  -- the tree's root and the name were resolved with different fuel: at the larger of the two they agree
  have e1 := repLink_mono_le hx (Nat.le_max_left g g')
  have e2 := repLink_mono_le hx2 (Nat.le_max_right g g')
  rw [e1] at e2; injection e2 with e2; subst e2
  have hne : x.2.1 ≠ T.nil := repLink_row_ne_nil hx (fun h => HLink.noConfusion h)
  have hun : T.unmk x.2.1 = x.2.1 := unmk_of_ne_nil hne
  subst hr
  have h1 := hw.wf
  have h2 := hw.sorted
  simp only [treeRec, hun] at h1 h2
  exact ⟨h1, h2⟩

end Mast.Ptr
