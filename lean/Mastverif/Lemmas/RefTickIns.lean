import Mastverif.Lemmas.RefTickSplit
/-!
# Store loads of `Insert`

Under a depth bound `DepthLe … (height + 1) root` (and a sound cache) an `Insert` performs at most
`height + 1` store loads — whatever its outcome, whether or not the tree grows: one for the top node, one per
level of the descent down to the key's layer, one for the child below the insertion point, and one per level
of the single spine that `split` walks below it.  The commit and the growth loop load nothing (the root is a
pointer after the commit).  `e` is by how much the tree may be deeper than its `height` field says (`LoadMast`
takes the height from the caller): each such level costs at most one more load.
-/
namespace Mast.Ptr
open Mast.Heap

theorem insertPlan_ts (E : Env) (t : PTree) (fuel key val : Nat) (s : PS) (hc : CacheS s) {e : Nat}
    (hd : DepthLe s.heap s.store (t.height + 1 + e) t.root) :
    TS AExt (t.height + 1 + e) (insertPlan E t fuel key val) s Tr := by
  unfold insertPlan
  refine TS.bind0 (layerM_ts E key s) ?_
  rintro lay s1 _ hext1 rfl
  have hc1 := hext1.cache hc
  have hmin : min (E.layer key) t.height ≤ t.height := Nat.min_le_right _ _
  -- the top node
  refine TS.bind (a := 1) (Q1 := fun a0 s2 => ChildD s2 key a0 (t.height + e))
    (TS.ite (fun _ => (alloc_empty_childD t.id key _ s1).mono (Nat.zero_le 1)) fun _ =>
      (load_depth E t.root s1 hc1 (DepthLe.ext hext1 hd)).conseq (Nat.le_refl _) fun _ _ _ _ h =>
        ChildD.of_depth (Nat.add_right_comm t.height 1 e ▸ h.2))
    ?_ (Nat.le_of_eq (by rw [Nat.add_comm 1, Nat.add_right_comm]))
  intro a0 s2 _ hext2 hch
  have hc2 := hext2.cache hc1
  -- the descent stops `target` levels above the leaves
  refine TS.bind (b := min (E.layer key) t.height + e)
    (findNode_depth E t.id key _ e true fuel a0 t.height [] s2 hc2 hmin hch) ?_
    (Nat.le_of_eq (by rw [← Nat.add_assoc, Nat.sub_add_cancel hmin]))
  intro fd s3 _ hext3 ⟨_, nd0, hnd0, _, hdl⟩
  have hc3 := hext3.cache hc2
  refine TS.ite (fun _ => TS.panic) fun hcur => TS.read fun nd hnd => ?_
  obtain rfl : nd0 = nd := Option.some.inj (hnd0.symm.trans hnd)
  refine TS.ite (fun _ => TS.pure trivial) fun _ =>
    TS.link (fun _ => TS.panic) (fun _ => TS.pure trivial) fun l hl hne => ?_
  -- the child below the insertion point and the spine `split` walks
  have hdl' : DepthLe s3.heap s3.store (min (E.layer key) t.height + e) l := Decidable.of_not_not hcur ▸ hdl l hl
  refine TS.bind (load_depth E l s3 hc3 hdl') (fun c s5 _ hext5 h5 => ?_) (Nat.le_of_eq (Nat.add_sub_of_le (hdl'.pos hne)))
  exact TS.bind_tail0 (split_ts E t.id key fuel c s5 _ (hext5.cache hc3) h5.2) fun (_, _) _ _ _ _ => TS.pure trivial

theorem insert_state_tick (E : Env) (fuel : Nat) (s : PS) (t : PTree) (key val : Nat) (hc : CacheS s) {e : Nat}
    (hd : DepthLe s.heap s.store (t.height + 1 + e) t.root) :
    (insert E fuel s t key val).1.tick ≤ s.tick + (t.height + 1 + e) := by
  have hP := insertPlan_ts E t fuel key val s hc hd
  unfold insert
  cases hp : insertPlan E t fuel key val s with
  | err s1 => exact hP.err hp
  | panic => exact Nat.le_add_right _ _
  | stuck => exact Nat.le_add_right _ _
  | oof => exact Nat.le_add_right _ _
  | ok p s1 =>
    have h1 := (hP.ok hp).1
    have hC := insertCommit_noLoad t p key val s1
    dsimp only
    by_cases hsame : (p.present && p.same) = true
    · rw [if_pos hsame]; exact h1
    · rw [if_neg hsame]
      cases hcm : insertCommit t p key val s1 with
      | err s2 => exact Nat.le_trans (hC.err hcm) h1
      | panic => exact h1
      | stuck => exact h1
      | oof => exact h1
      | ok root s2 =>
        obtain ⟨h2, _, a, rfl⟩ := hC.ok hcm
        have h12 := Nat.le_trans h2 h1
        dsimp only
        by_cases hpr : p.present = true
        · rw [if_pos hpr]; exact h12
        · -- the root is a pointer now, so the growth loop loads nothing
          rw [if_neg hpr]
          have h3 := afterCommit_tick (growAll_noLoad E fuel { t with root := .ptr a } rfl s2) { t with root := .ptr a }
          generalize afterCommit (growAll E fuel { t with root := .ptr a }) s2 { t with root := .ptr a } = r at h3 ⊢
          obtain ⟨s3, t3, o3⟩ := r
          cases o3 <;> exact Nat.le_trans h3 h12

/-- C16, insert, sharper than the property: every outcome (`o` arbitrary), also when the tree grows -/
theorem insert_tick (E : Env) (fuel : Nat) (s s' : PS) (t t' : PTree) (key val : Nat) (o : Outcome) (hc : CacheS s)
    (hd : DepthLe s.heap s.store (t.height + 1) t.root)
    (h : insert E fuel s t key val = (s', t', o)) :
    s'.tick ≤ s.tick + t.height + 1 := by
  have := insert_state_tick E fuel s t key val hc (e := 0) hd
  rw [h] at this
  exact this

/-- the property's form: an insert that does not change the height reads at most `2 * (height + 1)` nodes -/
theorem insert_tick' (E : Env) (fuel : Nat) (s s' : PS) (t t' : PTree) (key val : Nat) (o : Outcome) (hc : CacheS s)
    (hd : DepthLe s.heap s.store (t.height + 1) t.root)
    (h : insert E fuel s t key val = (s', t', o)) (_ho : o = .ok ∨ o = .err) (_hh : t'.height = t.height) :
    s'.tick ≤ s.tick + 2 * (t.height + 1) := by
  have := insert_tick E fuel s s' t t' key val o hc hd h
  rw [Nat.add_assoc] at this
  exact Nat.le_trans this (Nat.add_le_add_left (Nat.le_mul_of_pos_left _ Nat.zero_lt_two) _)

end Mast.Ptr
