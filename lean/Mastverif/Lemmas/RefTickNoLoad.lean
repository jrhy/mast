import Mastverif.Lemmas.RefTick
/-!
# The programs that perform no store load

Everything that only reads, allocates, writes and publishes objects: `toMut`, both loops of `savePathForRoot`,
the in-place parts of `Insert` and `Delete`, `ToShared`, `node.store` with the commit closures of `flush` — and
`grow` / the growth loop on a tree whose root link is a pointer, which it is after the commit.
-/
namespace Mast.Ptr
open Mast.Heap

theorem publish_noLoad (m a : Nat) (links : List HLink) : NoLoad (publish m a links) (fun _ => True) := by
  intro s
  unfold TS publish
  cases applyAct s.heap (.publish m a links) with
  | none => trivial
  | some h' => exact ⟨Nat.le_refl _, trivial, trivial⟩

theorem intern_noLoad (sn : SNode) : NoLoad (intern sn) (fun _ => True) := by
  intro s
  unfold TS intern
  cases internIdx sn s.store 0 with
  | some i => exact ⟨Nat.le_refl _, trivial, trivial⟩
  | none => exact ⟨Nat.le_refl _, trivial, trivial⟩

theorem cacheAdd_noLoad (n a : Nat) : NoLoad (cacheAdd n a) (fun _ => True) := by
  intro s
  refine ⟨?_, trivial, trivial⟩
  by_cases hu : s.useCache = true
  · rw [if_pos hu]; exact Nat.le_refl _
  · rw [if_neg hu]; exact Nat.le_refl _

/-! ## copy-on-write and the commit of `Insert` / `Delete` -/

theorem toMut_noLoad (m a : Nat) : NoLoad (toMut m a) (fun _ => True) :=
  (read_noLoad a).bind fun _ _ => .ite (fun _ => .panic) fun _ => .ite (fun _ => .pure trivial) fun _ => alloc_noLoad _

theorem mutPath_noLoad (m : Nat) (path : List (Nat × Nat)) : NoLoad (mutPath m path) (fun _ => True) := by
  induction path with
  | nil => exact .pure trivial
  | cons x rest ih =>
    exact (read_noLoad x.1).bind fun _ _ =>
      NoLoad.bind (Q1 := fun _ => True)
        (.ite (fun _ => .pure trivial) fun _ =>
          (toMut_noLoad m x.1).bind fun a' _ => (read_noLoad a').bind fun _ _ =>
            (write_noLoad m a' _).bind fun _ _ => .pure trivial)
        fun _ _ => ih.bind fun _ _ => .pure trivial

theorem relink_noLoad (m : Nat) (path : List (Nat × Nat)) : NoLoad (relink m path) (fun _ => True) := by
  induction path with
  | nil => exact .pure trivial
  | cons x rest ih =>
    cases rest with
    | nil => exact .pure trivial
    | cons y rest =>
      exact ih.bind fun _ _ => (read_noLoad y.1).bind fun _ _ => (read_noLoad x.1).bind fun _ _ =>
        .ite (fun _ => .panic) fun _ => write_noLoad m x.1 _

theorem savePath_noLoad (m : Nat) (path : List (Nat × Nat)) : NoLoad (savePath m path) (fun l => ∃ a, l = .ptr a) :=
  (mutPath_noLoad m path).bind fun p _ => (relink_noLoad m p).bind fun _ _ =>
    match p with
    | [] => .panic
    | (a, _) :: _ => .pure ⟨a, rfl⟩

theorem insertCommit_noLoad (t : PTree) (p : InsPlan) (key val : Nat) :
    NoLoad (insertCommit t p key val) (fun l => ∃ a, l = .ptr a) :=
  (toMut_noLoad t.id p.found.node).bind fun a' _ => (read_noLoad a').bind fun _ _ =>
    .ite (fun _ => (write_noLoad _ _ _).bind fun _ _ => savePath_noLoad _ _)
      fun _ => (write_noLoad _ _ _).bind fun _ _ => savePath_noLoad _ _

theorem deleteCommit_noLoad (t : PTree) (p : DelPlan) : NoLoad (deleteCommit t p) (fun l => ∃ a, l = .ptr a) :=
  (toMut_noLoad t.id p.found.node).bind fun a' _ => (read_noLoad a').bind fun _ _ =>
    (write_noLoad _ _ _).bind fun _ _ => savePath_noLoad _ _

/-! ## the growth loop on a root held by pointer -/

theorem linkNew_ts (nd : MNode) (s : PS) :
    TS AExt 0 (linkNew nd) s (fun l s' => l = .nil ∨ ∃ a, l = .ptr a ∧ s'.heap[a]? = some nd) :=
  TS.ite (fun _ => TS.pure (Or.inl rfl)) fun _ =>
    TS.bind0 (alloc_ts nd s) fun _ _ _ _ h => TS.pure (Or.inr ⟨_, rfl, h.1 ▸ h.2 ▸ getElem?_append_self _ _⟩)

theorem linkNew_noLoad (nd : MNode) : NoLoad (linkNew nd) (fun _ => True) :=
  NoLoad.of_ts fun s => (linkNew_ts nd s).conseq (Nat.le_refl _) (fun _ _ _ _ _ => trivial)

theorem growLoop_noLoad (E : Env) (m height : Nat) (nd : MNode) (es : List (Nat × Nat)) :
    ∀ (i start : Nat) (ks vs : List Nat) (ls : List HLink),
      NoLoad (growLoop E m height nd es i start ks vs ls) (fun _ => True) := by
  induction es with
  | nil => exact fun _ _ _ _ _ => .pure trivial
  | cons e rest ih =>
    exact fun _ _ _ _ _ => (layerM_noLoad E e.1).bind fun _ _ =>
      .ite (fun _ => ih _ _ _ _ _) fun _ => (linkNew_noLoad _).bind fun _ _ => ih _ _ _ _ _

theorem canGrowM_noLoad (E : Env) (h : Nat) (ks : List Nat) : NoLoad (canGrowM E h ks) (fun _ => True) := by
  induction ks with
  | nil => exact .pure trivial
  | cons k ks ih => exact (layerM_noLoad E k).bind fun _ _ => .ite (fun _ => .pure trivial) fun _ => ih

theorem grow_noLoad (E : Env) (t : PTree) {a0 : Nat} (hr : t.root = .ptr a0) :
    NoLoad (grow E t) (fun t' => ∃ a, t'.root = .ptr a) := by
  unfold grow
  rw [hr]
  exact (load_ptr_noLoad E a0).bind fun a _ => (read_noLoad a).bind fun nd _ =>
    (growLoop_noLoad E t.id t.height nd _ 0 0 [] [] []).bind fun (_, _, _, _) _ =>
      (linkNew_noLoad _).bind fun _ _ => .ite (fun _ => .fail) fun _ => (alloc_noLoad _).bind fun na _ => .pure ⟨na, rfl⟩

theorem growAll_noLoad (E : Env) (f : Nat) : ∀ (t : PTree) {a0 : Nat}, t.root = .ptr a0 →
    NoLoad (growAll E f t) (fun _ => True) := by
  induction f with
  | zero => exact fun _ _ _ => .oof
  | succ f ih =>
    intro t a0 hr
    unfold growAll
    rw [hr]
    exact .ite (fun _ => .pure trivial) fun _ =>
      (load_ptr_noLoad E a0).bind fun a _ => (read_noLoad a).bind fun nd _ =>
        (canGrowM_noLoad E t.height nd.keys).bind fun cg _ =>
          .ite (fun _ => (grow_noLoad E t hr).bind fun t' ⟨_, hr'⟩ => ih t' hr') fun _ => .pure trivial

/-! ## `ToShared` copies objects, it does not load -/

theorem mapLinks_noLoad (g : Nat → M Nat) (hg : ∀ c, NoLoad (g c) (fun _ => True)) (ls : List HLink) :
    NoLoad (mapLinks g ls) (fun _ => True) := by
  induction ls with
  | nil => exact .pure trivial
  | cons l ls ih =>
    cases l with
    | nil => exact ih.bind fun _ _ => .pure trivial
    | ref n => exact ih.bind fun _ _ => .pure trivial
    | ptr c =>
      exact (read_noLoad c).bind fun _ _ =>
        NoLoad.bind (Q1 := fun _ => True)
          (.ite (fun _ => .pure trivial) fun _ => (hg c).bind fun _ _ => .pure trivial)
          fun _ _ => ih.bind fun _ _ => .pure trivial

theorem toShared_noLoad (newId f : Nat) : ∀ a, NoLoad (toShared newId f a) (fun _ => True) := by
  induction f with
  | zero => exact fun _ => .oof
  | succ f ih =>
    exact fun a => (read_noLoad a).bind fun nd _ => .ite (fun _ => .pure trivial) fun _ =>
      (mapLinks_noLoad _ ih nd.links).bind fun _ _ => alloc_noLoad _

/-! ## `node.store` and the commit closures of `flush` -/

theorem storeLinks_noLoad (g : Nat → M (Nat × List (Nat × List HLink × Nat))) (hg : ∀ c, NoLoad (g c) (fun _ => True))
    (ls : List HLink) : NoLoad (storeLinks g ls) (fun _ => True) := by
  induction ls with
  | nil => exact .pure trivial
  | cons l ls ih =>
    cases l with
    | nil => exact ih.bind fun (_, _) _ => .pure trivial
    | ref n => exact ih.bind fun (_, _) _ => .pure trivial
    | ptr c => exact (hg c).bind fun (_, _) _ => ih.bind fun (_, _) _ => .pure trivial

theorem storeNode_noLoad (f : Nat) : ∀ a, NoLoad (storeNode f a) (fun _ => True) := by
  induction f with
  | zero => exact fun _ => .oof
  | succ f ih =>
    refine fun a => (read_noLoad a).bind fun nd _ => ?_
    split
    · exact .pure trivial
    · exact (storeLinks_noLoad _ ih nd.links).bind fun (_, _) _ => (intern_noLoad _).bind fun _ _ => .pure trivial

theorem commitAll_noLoad (m : Nat) (cms : List (Nat × List HLink × Nat)) : NoLoad (commitAll m cms) (fun _ => True) := by
  induction cms with
  | nil => exact .pure trivial
  | cons c rest ih =>
    exact (read_noLoad c.1).bind fun _ _ =>
      NoLoad.bind (Q1 := fun _ => True)
        (.ite (fun _ => .pure trivial) fun _ => (write_noLoad m c.1 _).bind fun _ _ => publish_noLoad m c.1 c.2.1)
        fun _ _ => (cacheAdd_noLoad c.2.2 c.1).bind fun _ _ => ih

end Mast.Ptr
