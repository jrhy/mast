import Mastverif.Lemmas.RefTickDepth
/-!
# Store loads of `split`: one spine

`split` calls itself twice per level: on `leftMax`, and on `tooBig` — the right half that the first call
returned.  That right half is a freshly built object whose keys are all above the split key and whose first
link is again such a right half (or nil): a *right spine*, `RSp`.  Splitting a right spine reads only
pointers, so it performs NO store load (at any depth, without any well-formedness of the tree).  Hence the
store loads of `split` are those of the descent along `leftMax`: at most `depth - 1`.
-/
namespace Mast.Ptr
open Mast.Heap

/-- right spine of a split at `key`: built objects, entered through the first link, no key below `key` first -/
inductive RSp (h : Heap) (key : Nat) : HLink → Prop
  | nil : RSp h key .nil
  | ptr {a : Nat} {nd : MNode} : h[a]? = some nd → keyIdx nd.keys key = 0 →
      (∀ l, nd.links[0]? = some l → RSp h key l) → RSp h key (.ptr a)

theorem RSp.allocOnly {h h' : Heap} {key : Nat} (ha : AllocOnly h h') {l : HLink} (hr : RSp h key l) : RSp h' key l := by
  induction hr with
  | nil => exact RSp.nil
  | ptr h1 h2 _ ih => exact RSp.ptr (ha _ _ h1) h2 (fun l hl => ih l hl)

theorem keyIdx_drop (ks : List Nat) (key : Nat) : keyIdx (ks.drop (keyIdx ks key)) key = 0 := by
  induction ks with
  | nil => rfl
  | cons k ks ih =>
    simp only [keyIdx]
    split
    · simpa using ih
    · next h => simp [keyIdx, h]

/-- the postcondition: the right result is a right spine -/
def SplitR (key : Nat) (lr : HLink × HLink) (s' : PS) : Prop := RSp s'.heap key lr.2

/-- statement A: splitting a right spine performs no store load -/
def SplitA (E : Env) (m key f : Nat) : Prop :=
  ∀ (a : Nat) (s : PS), RSp s.heap key (.ptr a) → TS AExt 0 (split E m key f a) s (SplitR key)

theorem subsplitA (E : Env) (m key f : Nat) (hA : SplitA E m key f) (lk : HLink) (s : PS) (hr : RSp s.heap key lk) :
    TS AExt 0 (if lk = .nil then (pure (HLink.nil, HLink.nil) : M (HLink × HLink)) else do
        let c ← load E lk
        split E m key f c) s (SplitR key) := by
  refine TS.ite (fun _ => TS.pure RSp.nil) fun h0 => ?_
  cases hr with
  | nil => exact absurd rfl h0
  | ptr h1 h2 h3 =>
    refine TS.bind0 (Q1 := fun c s1 => c = _ ∧ s1 = s) (TS.pure ⟨rfl, rfl⟩) ?_
    rintro c s1 _ _ ⟨rfl, rfl⟩
    exact hA _ _ (RSp.ptr h1 h2 h3)

/-- one level of `split`, given the cost `k` of the recursive call on `leftMax` and statement A below -/
theorem split_step (E : Env) (m key f : Nat) (hA : SplitA E m key f) (a : Nat) (s : PS) (nd : MNode) (k : Nat)
    (hnd : s.heap[a]? = some nd)
    (h1 : ∀ leftMax, (nd.links.take (keyIdx nd.keys key + 1)).getLast? = some leftMax →
      TS AExt k (if leftMax = .nil then (pure (HLink.nil, HLink.nil) : M (HLink × HLink)) else do
        let c ← load E leftMax
        split E m key f c) s (SplitR key)) :
    TS AExt k (split E m key (f + 1) a) s (SplitR key) := by
  unfold split
  refine TS.read fun nd' hnd' => ?_
  obtain rfl : nd = nd' := Option.some.inj (hnd.symm.trans hnd')
  refine TS.ite (fun _ => TS.panic) fun _ => ?_
  dsimp only
  cases hlm : (nd.links.take (keyIdx nd.keys key + 1)).getLast? with
  | none => exact TS.panic
  | some leftMax =>
    refine TS.bind_tail0 (h1 leftMax hlm) ?_
    rintro ⟨lm, tooBig⟩ s2 _ _ htb
    refine TS.bind0 (linkNew_ts _ s2) fun leftLink s3 _ hext3 _ => ?_
    cases nd.links.drop (keyIdx nd.keys key) with
    | nil => exact TS.panic
    | cons _ rightRest =>
      refine TS.bind0 (subsplitA E m key f hA tooBig s3 (RSp.allocOnly hext3.alloc htb)) ?_
      rintro ⟨tooSmall, rm⟩ s5 _ _ hrm
      refine TS.ite (fun _ => TS.panic) fun _ => TS.bind0 (linkNew_ts _ s5) fun rightLink s6 _ hext6 hrl => TS.pure ?_
      show RSp s6.heap key rightLink
      rcases hrl with rfl | ⟨b, rfl, hb⟩
      · exact RSp.nil
      · refine RSp.ptr hb (keyIdx_drop nd.keys key) fun l hl => ?_
        obtain rfl : rm = l := Option.some.inj hl
        exact RSp.allocOnly hext6.alloc hrm

/-- **A**: splitting a right spine performs no store load -/
theorem split_rsp (E : Env) (m key f : Nat) : SplitA E m key f := by
  induction f with
  | zero => exact fun _ _ _ => TS.oof
  | succ f ih =>
    intro a s hr
    cases hr with
    | @ptr _ nd hnd hk hl =>
      refine split_step E m key f ih a s nd 0 hnd fun leftMax hlm => ?_
      refine subsplitA E m key f ih leftMax s (hl leftMax ?_)
      rw [hk] at hlm
      cases hlk : nd.links with
      | nil => rw [hlk] at hlm; cases hlm
      | cons l0 rest => rw [hlk] at hlm; exact hlm

/-- **B**: `split` of a node that is at most `n` levels deep performs at most `n - 1` store loads -/
theorem split_ts (E : Env) (m key f : Nat) : ∀ (a : Nat) (s : PS) (n : Nat), CacheS s →
    DepthLe s.heap s.store n (.ptr a) → TS AExt (n - 1) (split E m key f a) s (SplitR key) := by
  induction f with
  | zero => exact fun _ _ _ _ _ => TS.oof
  | succ f ih =>
    intro a s n hc hd
    obtain ⟨n, rfl⟩ : ∃ k, n = k + 1 := ⟨n - 1, (Nat.sub_add_cancel (hd.pos (fun h => HLink.noConfusion h))).symm⟩
    obtain ⟨nd, hnd, hl⟩ := depthLe_ptr_succ.mp hd
    refine split_step E m key f (split_rsp E m key f) a s nd n hnd fun leftMax hlm => ?_
    have hdl := hl leftMax (List.mem_of_mem_take (List.mem_of_getLast? hlm))
    refine TS.ite (fun _ => TS.pure RSp.nil) fun h0 => ?_
    exact TS.bind (load_depth E leftMax s hc hdl)
      (fun c s1 _ hext1 hc1 => ih c s1 n (hext1.cache hc) hc1.2)
      (Nat.le_of_eq (Nat.add_sub_of_le (hdl.pos h0)))

end Mast.Ptr
