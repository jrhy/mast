import Mastverif.Lemmas.RefTickIns
import Mastverif.Lemmas.RefTickDel
import Mastverif.Lemmas.RefTickWF
import Mastverif.Lemmas.RefSysInv
/-!
# One call and a whole run, under the depth hypothesis

Every public call has a budget (`opBudget`): `height + 1` for `Insert` and `Get`, `2 * height + 1` for a
`Delete` that ends `.ok` without changing the height, `1` for `flush`, `Clone`, `LoadMast`; the calls that the
property does not cover (full iteration, a `Delete` that changes the height or fails) are charged what they
cost.  Along `Sys.run` the total number of store loads is at most the sum of the budgets, provided the trees
that `Insert` / `Delete` work on satisfy the depth bound at the time of the call (`Sys.Deep`), which holds for
every tree that denotes a well-formed functional tree (`opDeep_of_den`).  `RefTickHist` discharges `Sys.Deep`
along every history of the refinement invariant.
-/
namespace Mast.Ptr
open Mast.Heap

/-! ## one call -/

/-- the tree an `Insert` / `Delete` works on satisfies the depth bound (and the cache is sound) -/
def OpDeep (σ : Sys) : Op → Prop
  | .ins i _ _ => ∀ t, σ.trees[i]? = some t → CacheS σ.ps ∧ DepthLe σ.ps.heap σ.ps.store (t.height + 1) t.root
  | .del i _ _ => ∀ t, σ.trees[i]? = some t → CacheS σ.ps ∧ DepthLe σ.ps.heap σ.ps.store (t.height + 1) t.root
  | _ => True

/-- the budget of one call; calls that the property does not cover are charged what they cost -/
def opBudget (E : Env) (fuel : Nat) (σ : Sys) : Op → Nat
  | .ins i _ _ => match σ.trees[i]? with
    | some t => t.height + 1
    | none => 0
  | .get i _ => match σ.trees[i]? with
    | some t => t.height + 1
    | none => 0
  | .del i k v => match σ.trees[i]? with
    | some t =>
      let r := delete E fuel σ.ps t k v
      if r.2.2 = .ok ∧ r.2.1.height = t.height then 2 * t.height + 1 else r.1.tick - σ.ps.tick
    | none => 0
  | .iter i => (σ.apply E fuel (.iter i)).1.ps.tick - σ.ps.tick
  | .flush _ => 1
  | .clone _ => 1
  | .load _ _ _ _ => 1

theorem Sys.apply_tick (E : Env) (fuel : Nat) (σ : Sys) (op : Op) (hd : OpDeep σ op) :
    (σ.apply E fuel op).1.ps.tick ≤ σ.ps.tick + opBudget E fuel σ op := by
  cases op with
  | ins i k v =>
    dsimp only [Sys.apply, opBudget]
    cases ht : σ.trees[i]? with
    | none => exact Nat.le_add_right _ _
    | some t =>
      obtain ⟨hc, hdl⟩ := hd t ht
      exact insert_state_tick E fuel σ.ps t k v hc (e := 0) hdl
  | del i k v =>
    dsimp only [Sys.apply, opBudget]
    cases ht : σ.trees[i]? with
    | none => exact Nat.le_add_right _ _
    | some t =>
      obtain ⟨hc, hdl⟩ := hd t ht
      dsimp only
      by_cases hok : (delete E fuel σ.ps t k v).2.2 = .ok ∧ (delete E fuel σ.ps t k v).2.1.height = t.height
      · rw [if_pos hok]
        refine Nat.le_trans (delete_tick E fuel σ.ps _ t _ k v hc hdl (by rw [← hok.1]) hok.2) (Nat.add_le_add_left ?_ _)
        rw [Nat.two_mul, Nat.add_assoc, Nat.add_comm (t.height + t.height) 1]
        exact Nat.add_le_add_left (Nat.add_le_add_left (Nat.min_le_right _ _) _) 1
      · rw [if_neg hok]
        exact le_add_sub_self _ _
  | get i k =>
    dsimp only [Sys.apply, opBudget]
    cases ht : σ.trees[i]? with
    | none => exact Nat.le_add_right _ _
    | some t => exact runM_tick (get_ts_height E t fuel k σ.ps)
  | iter i => exact le_add_sub_self _ _
  | flush i =>
    dsimp only [Sys.apply, opBudget]
    cases ht : σ.trees[i]? with
    | none => exact Nat.le_add_right _ _
    | some t => exact runM_tick (flush_ts E t fuel σ.ps)
  | clone i =>
    dsimp only [Sys.apply, opBudget]
    cases ht : σ.trees[i]? with
    | none => exact Nat.le_add_right _ _
    | some t => exact runM_tick (clone_ts E t σ.nextId fuel σ.ps)
  | load link size height bf =>
    dsimp only [Sys.apply, opBudget]
    exact runM_tick (loadMast_ts E σ.nextId link size height bf σ.ps)

/-! ## a whole history -/

/-- the sum of the budgets of the calls, each taken in the state in which the call is made -/
def Sys.budget (E : Env) (fuel : Nat) : Sys → List Op → Nat
  | _, [] => 0
  | σ, op :: ops =>
    opBudget E fuel σ op +
      (match σ.apply E fuel op with
       | (σ', .ok) => Sys.budget E fuel σ' ops
       | (σ', .err) => Sys.budget E fuel σ' ops
       | _ => 0)

/-- at every `Insert` / `Delete` of the run the tree satisfies the depth bound -/
def Sys.Deep (E : Env) (fuel : Nat) : Sys → List Op → Prop
  | _, [] => True
  | σ, op :: ops =>
    OpDeep σ op ∧
      (match σ.apply E fuel op with
       | (σ', .ok) => Sys.Deep E fuel σ' ops
       | (σ', .err) => Sys.Deep E fuel σ' ops
       | _ => True)

/-- C16, history level -/
theorem Sys.run_tick (E : Env) (fuel : Nat) : ∀ (ops : List Op) (σ : Sys), Sys.Deep E fuel σ ops →
    (Sys.run E fuel σ ops).1.ps.tick ≤ σ.ps.tick + Sys.budget E fuel σ ops := by
  intro ops
  induction ops with
  | nil => intro σ _; exact Nat.le_refl _
  | cons op ops ih =>
    intro σ hd
    have h1 := Sys.apply_tick E fuel σ op hd.1
    have h2 := hd.2
    dsimp only [Sys.run, Sys.budget]
    generalize σ.apply E fuel op = r at h1 h2 ⊢
    obtain ⟨σ', o⟩ := r
    cases o with
    | ok => exact tick_chain h1 (ih σ' h2) (Nat.le_refl _)
    | err => exact tick_chain h1 (ih σ' h2) (Nat.le_refl _)
    | panic => exact h1
    | stuck => exact h1
    | oof => exact h1

/-! ## the depth hypothesis from the refinement invariant -/

/-- in a system whose trees denote functional trees with well-formed root rows (as `Tree.Inv` says), every
    call satisfies the depth hypothesis -/
theorem opDeep_of_den (layer : Nat → Nat) (σ : Sys) (As : List Tree) (op : Op) (hg : Good σ.ps) (hD : Den σ As)
    (hw : ∀ A ∈ As, T.WF layer A.height A.root) : OpDeep σ op := by
  have key : ∀ (i : Nat) (t : PTree), σ.trees[i]? = some t →
      CacheS σ.ps ∧ DepthLe σ.ps.heap σ.ps.store (t.height + 1) t.root := by
    intro i t ht
    obtain ⟨A, hA, g, hrep⟩ := hD.2 i t ht
    exact ⟨hg.cacheS, depthLe_of_repTree layer hrep (hw A (List.mem_of_getElem? hA))⟩
  cases op with
  | ins i k v => exact fun t ht => key i t ht
  | del i k v => exact fun t ht => key i t ht
  | get i k => trivial
  | iter i => trivial
  | flush i => trivial
  | clone i => trivial
  | load _ _ _ _ => trivial

end Mast.Ptr
