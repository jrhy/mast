import Mastverif.Lemmas.RefTickDepth
import Mastverif.Lemmas.RefGet
import Mastverif.Lemmas.TreeInv
/-!
# The depth bound follows from well-formedness

A tree that denotes (`repTree s g t = some A`) a functional tree whose root row is well-formed at level
`A.height` (`T.WF`, part of `Tree.Inv`) is at most `height + 1` levels deep: `DepthLe … (t.height + 1) t.root`.
This is what turns the depth hypothesis of `RefTickIns` / `RefTickDel` into the refinement invariant and `Tree.Inv`
(`C16_object_level_insert_wf` / `_delete_wf` in `Props/C16O.lean`, `opDeep_of_den` in `RefTickSys`).
-/
namespace Mast.Ptr
open Mast.Heap

theorem wf_mkRow_child (layer : Nat → Nat) (d : Nat) (ks : List Nat) : ∀ (cs : List (Bool × T)) (vs : List Nat),
    cs.length = ks.length + 1 → vs.length = ks.length → T.WF layer d (mkRow cs ks vs) →
    ∀ c ∈ cs, T.ChildOK layer d c.2 := by
  induction ks with
  | nil =>
    intro cs vs hl _ hw c hc
    cases cs with
    | nil => cases hl
    | cons x ls =>
      obtain rfl : ls = [] := List.length_eq_zero_iff.mp (Nat.succ.inj hl)
      obtain rfl := List.mem_singleton.mp hc
      obtain ⟨p, c0⟩ := c
      rw [mkRow_single] at hw
      exact (T.WF_last_iff layer).mp hw
  | cons k ks ih =>
    intro cs vs hl hv hw c hc
    cases cs with
    | nil => cases hl
    | cons x ls =>
      cases ls with
      | nil => cases Nat.succ.inj hl
      | cons y ls =>
        cases vs with
        | nil => cases hv
        | cons v vs =>
          obtain ⟨p, c0⟩ := x
          rw [mkRow_cons] at hw
          obtain ⟨_, hwr, hc0⟩ := (T.WF_cons_iff layer).mp hw
          rcases List.mem_cons.mp hc with rfl | hc'
          · exact hc0
          · exact ih (y :: ls) vs (Nat.succ.inj hl) (Nat.succ.inj hv) hwr c hc'

/-- the links of a node whose row is well-formed at level `d` are at most `d` levels deep, if that holds of
    each child that is resolved with fuel `g` -/
theorem depthLe_links (layer : Nat → Nat) {h : Heap} {st : List SNode} {g d : Nat}
    (ih : ∀ (l : HLink) (c : Bool × T × List Nat) (d' : Nat), repLink h st g l = some c → T.WF layer d' c.2.1 →
      DepthLe h st (d' + 1) l)
    {links : List HLink} {ks vs : List Nat} {cs : List (Bool × T × List Nat)} (hl : links.length = ks.length + 1)
    (hv : vs.length = ks.length) (h1 : seqO (links.map (repLink h st g)) = some cs)
    (hw : mkRow (cs.map pr) ks vs = T.nil ∨ T.WF layer d (mkRow (cs.map pr) ks vs)) :
    ∀ l ∈ links, DepthLe h st d l := by
  intro l hmem
  have hcl : (cs.map pr).length = ks.length + 1 := by rw [List.length_map, seqO_map_length h1]; exact hl
  have hw' : T.WF layer d (mkRow (cs.map pr) ks vs) :=
    hw.resolve_left (mkRow_ne_nil (fun h0 => by rw [h0] at hcl; cases hcl))
  obtain ⟨c, hc1, hc2⟩ := seqO_map_mem h1 hmem
  rcases wf_mkRow_child layer d ks (cs.map pr) vs hcl hv hw' (pr c) (List.mem_map_of_mem hc2) with h0 | ⟨d', rfl, _, hwc, _⟩
  · by_cases hnil : l = .nil
    · exact hnil ▸ depthLe_nil _ _ _
    · exact absurd h0 (repLink_row_ne_nil hc1 hnil)
  · exact ih l c d' hc1 hwc

theorem depthLe_of_wf (layer : Nat → Nat) {h : Heap} {st : List SNode} (g : Nat) : ∀ (l : HLink)
    (x : Bool × T × List Nat) (d : Nat), repLink h st g l = some x → (x.2.1 = T.nil ∨ T.WF layer d x.2.1) →
    DepthLe h st (d + 1) l := by
  induction g with
  | zero =>
    intro l x d hx _
    cases l with
    | nil => exact depthLe_nil _ _ _
    | ptr a => cases hx
    | ref n => cases hx
  | succ g ih =>
    intro l x d hx hw
    have ih' := fun l c d' hc hwc => ih l c d' hc (Or.inr hwc)
    cases l with
    | nil => exact depthLe_nil _ _ _
    | ptr a =>
      obtain ⟨g', nd, cs, hg, hnd, hv, h1, rfl⟩ := repLink_ptr_some.mp hx
      cases hg
      exact depthLe_ptr_succ.mpr ⟨nd, hnd, depthLe_links layer ih' hv.1 hv.2 h1 hw⟩
    | ref n =>
      obtain ⟨g', sn, cs, hg, hsn, hv, h1, rfl⟩ := repLink_ref_some.mp hx
      cases hg
      refine depthLe_ref_succ.mpr fun sn' hsn' => ?_
      obtain rfl : sn = sn' := Option.some.inj (hsn.symm.trans hsn')
      exact depthLe_links layer ih' hv.1 hv.2 h1 hw

theorem depthLe_of_repTree (layer : Nat → Nat) {s : PS} {g : Nat} {t : PTree} {A : Tree}
    (hA : repTree s g t = some A) (hw : T.WF layer A.height A.root) :
    DepthLe s.heap s.store (t.height + 1) t.root := by
  unfold repTree at hA
  cases hx : repLink s.heap s.store g t.root with
  | none => rw [hx] at hA; cases hA
  | some x =>
    obtain ⟨p, r, fp⟩ := x
    rw [hx] at hA
    simp only at hA
    split at hA
    · injection hA with hA
      subst hA
      simp only at hw
      refine depthLe_of_wf layer g t.root _ t.height hx ?_
      by_cases hr : r = T.nil
      · exact Or.inl hr
      · right
        have : T.unmk r = r := unmk_of_ne_nil hr
        rw [this] at hw
        exact hw
    · cases hA

end Mast.Ptr
