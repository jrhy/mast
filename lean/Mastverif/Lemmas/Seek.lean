import Mastverif.Model.Cursor
import Mastverif.Lemmas.WF
/-!
# Rows under an index, and what lies ahead of a cursor path

One node row at an index (`seekRow`, `linkAt`, `entryAt`); the three descents `minFrom` / `maxFrom` /
`ceil`; the recursive specification `seekT` of "the entries not smaller than the probe"; and
`Cursor.out path`: what `SeekIter` emits from every path entry, deepest first.
-/
namespace Mast
open T

namespace T

theorem restOf_eq_toList : ∀ r : T, Cursor.seekRow.restOf r = toList r := by
  intro r
  induction r with
  | nil => rfl
  | last p c _ => rfl
  | cons p c k v r _ ihr =>
    show toList c ++ (k, v) :: Cursor.seekRow.restOf r = _
    rw [ihr]; rfl

theorem toList_link0 (node : T) : toList node = toList (linkAt node 0) ++ Cursor.seekRow node 0 := by
  cases node with
  | nil => rfl
  | last p c => exact (List.append_nil _).symm
  | cons p c k v r =>
    show _ = toList c ++ (k, v) :: Cursor.seekRow.restOf r
    rw [restOf_eq_toList]; rfl

/-- a node is: something, then the subtree of link `i`, then entry `i` and everything after it -/
theorem row_split : ∀ (node : T) (i : Nat),
    ∃ a, toList node = a ++ (toList (linkAt node i) ++ Cursor.seekRow node i) := by
  intro node
  induction node with
  | nil => intro i; cases i <;> exact ⟨[], rfl⟩
  | last p c _ =>
    intro i
    cases i with
    | zero => exact ⟨[], toList_link0 _⟩
    | succ i => exact ⟨toList c, (List.append_nil _).symm⟩
  | cons p c k v r _ ihr =>
    intro i
    cases i with
    | zero => exact ⟨[], toList_link0 _⟩
    | succ i =>
      obtain ⟨a, ha⟩ := ihr i
      refine ⟨toList c ++ (k, v) :: a, ?_⟩
      show toList c ++ (k, v) :: toList r = _
      rw [ha, List.append_assoc]; rfl

theorem seekRow_lt : ∀ (node : T) (i : Nat), i < rowLen node →
    ∃ e, entryAt node i = some e ∧
      Cursor.seekRow node i = e :: (toList (linkAt node (i + 1)) ++ Cursor.seekRow node (i + 1)) := by
  intro node
  induction node with
  | nil => intro i h; exact absurd h (Nat.not_lt_zero _)
  | last p c _ => intro i h; exact absurd h (Nat.not_lt_zero _)
  | cons p c k v r _ ihr =>
    intro i h
    cases i with
    | zero =>
      refine ⟨(k, v), rfl, ?_⟩
      show (k, v) :: Cursor.seekRow.restOf r = _
      rw [restOf_eq_toList, toList_link0 r]; rfl
    | succ i => exact ihr i (Nat.lt_of_succ_lt_succ h)

theorem seekRow_ge : ∀ (node : T) (i : Nat), rowLen node ≤ i → Cursor.seekRow node i = [] := by
  intro node
  induction node with
  | nil => intro i _; cases i <;> rfl
  | last p c _ => intro i _; cases i <;> rfl
  | cons p c k v r _ ihr =>
    intro i h
    cases i with
    | zero => exact absurd h (Nat.not_succ_le_zero _)
    | succ i => exact ihr i (Nat.le_of_succ_le_succ h)

theorem le_rowLen_of_link : ∀ {node : T} {i : Nat}, (linkAt node i).isNil = false → i ≤ rowLen node := by
  intro node
  induction node with
  | nil => intro i h; cases i <;> cases h
  | last p c _ =>
    intro i h
    cases i with
    | zero => exact Nat.le_refl 0
    | succ i => cases h
  | cons p c k v r _ ihr =>
    intro i h
    cases i with
    | zero => exact Nat.zero_le _
    | succ i => exact Nat.succ_le_succ (ihr h)

theorem entryAt_some_lt : ∀ {node : T} {i : Nat} {e : Nat × Nat}, entryAt node i = some e → i < rowLen node := by
  intro node
  induction node with
  | nil => intro i e h; cases i <;> cases h
  | last p c _ => intro i e h; cases i <;> cases h
  | cons p c k v r _ ihr =>
    intro i e h
    cases i with
    | zero => exact Nat.succ_pos _
    | succ i => exact Nat.succ_lt_succ (ihr h)

theorem lowerBound_le (k : Nat) : ∀ node : T, lowerBound k node ≤ rowLen node := by
  intro node
  induction node with
  | nil => exact Nat.le_refl 0
  | last p c _ => exact Nat.le_refl 0
  | cons p c k' v' r _ ihr =>
    unfold lowerBound
    split
    · exact Nat.succ_le_succ ihr
    · exact Nat.zero_le _

theorem lvl_linkAt_lt : ∀ (node : T) (i : Nat), (linkAt node i).isNil = false → lvl (linkAt node i) < lvl node := by
  intro node
  induction node with
  | nil => intro i h; cases i <;> cases h
  | last p c _ =>
    intro i h
    cases i with
    | zero => exact lvl_last p c h ▸ Nat.lt_succ_self _
    | succ i => cases h
  | cons p c k v r _ ihr =>
    intro i h
    cases i with
    | zero => exact lvl_cons_ge p c k v r h
    | succ i => exact Nat.lt_of_lt_of_le (ihr i h) (lvl_le_cons p c k v r)

def seekT (k : Nat) : T → List Entry
  | nil => []
  | last _ c => seekT k c
  | cons _ c k' v' r =>
      if k' < k then seekT k r
      else if k' = k then (k', v') :: toList r
      else seekT k c ++ (k', v') :: toList r

theorem dropWhile_append_all {α} (p : α → Bool) (a b : List α) (h : ∀ x ∈ a, p x = true) :
    (a ++ b).dropWhile p = b.dropWhile p := by
  induction a with
  | nil => rfl
  | cons y a ih =>
    rw [List.cons_append, List.dropWhile_cons_of_pos (h y List.mem_cons_self)]
    exact ih fun x hx => h x (List.mem_cons_of_mem _ hx)

theorem dropWhile_append_stop {α} (p : α → Bool) (a : List α) (y : α) (b : List α) (hy : p y = false) :
    (a ++ y :: b).dropWhile p = a.dropWhile p ++ y :: b := by
  induction a with
  | nil => exact List.dropWhile_cons_of_neg (by rw [hy]; exact Bool.false_ne_true)
  | cons x a ih =>
    cases hx : p x with
    | true => rw [List.cons_append, List.dropWhile_cons_of_pos hx, List.dropWhile_cons_of_pos hx]; exact ih
    | false =>
      have hx' : ¬ p x = true := by rw [hx]; exact Bool.false_ne_true
      rw [List.cons_append, List.dropWhile_cons_of_neg hx', List.dropWhile_cons_of_neg hx']; rfl

theorem seekT_spec (k : Nat) : ∀ t : T, Sorted (toList t) →
    seekT k t = (toList t).dropWhile (fun e => decide (e.1 < k)) := by
  intro t
  induction t with
  | nil => intro _; rfl
  | last p c ih => exact ih
  | cons p c k' v' r ihc ihr =>
    intro hs
    obtain ⟨h1, h2, h3⟩ := sorted_append (a := toList c) (b := (k', v') :: toList r) hs
    have hc : ∀ b, k' ≤ b → ∀ x ∈ toList c, decide (x.1 < b) = true := fun b hb x hx =>
      decide_eq_true (Nat.lt_of_lt_of_le (h3 x hx (k', v') List.mem_cons_self) hb)
    show (if k' < k then seekT k r else if k' = k then (k', v') :: toList r else seekT k c ++ (k', v') :: toList r) =
      (toList c ++ (k', v') :: toList r).dropWhile _
    split
    · next hlt =>
      rw [dropWhile_append_all _ _ _ (hc k (Nat.le_of_lt hlt)),
        List.dropWhile_cons_of_pos (p := fun e : Entry => decide (e.1 < k)) (decide_eq_true hlt)]
      exact ihr (List.Pairwise.of_cons h2)
    · next hnlt =>
      rw [dropWhile_append_stop (fun e : Entry => decide (e.1 < k)) _ _ _ (decide_eq_false hnlt)]
      split
      · next heq =>
        have := dropWhile_append_all _ (toList c) [] (hc k (Nat.le_of_eq heq))
        rw [List.append_nil] at this
        rw [this]; rfl
      · rw [ihc h1]

/-- the recursive specification in terms of the in-node index that `search1` computes -/
theorem seekT_index (k : Nat) : ∀ row : T,
    seekT k row =
      match entryAt row (lowerBound k row) with
      | some (k', _) => if k' = k then Cursor.seekRow row (lowerBound k row)
                        else seekT k (linkAt row (lowerBound k row)) ++ Cursor.seekRow row (lowerBound k row)
      | none => seekT k (linkAt row (lowerBound k row)) ++ Cursor.seekRow row (lowerBound k row) := by
  intro row
  induction row with
  | nil => rfl
  | last p c _ => exact (List.append_nil _).symm
  | cons p c k' v' r _ ihr =>
    by_cases hlt : k' < k
    · rw [show lowerBound k (cons p c k' v' r) = lowerBound k r + 1 from if_pos hlt]
      exact (if_pos hlt).trans ihr
    · rw [show lowerBound k (cons p c k' v' r) = 0 from if_neg hlt,
        show seekT k (cons p c k' v' r) = _ from if_neg hlt, ← restOf_eq_toList r]
      rfl

end T

namespace Cursor

theorem minFrom_stop {fuel : Nat} {node : T} (path : Path) (h : (linkAt node 0).isNil = true) :
    minFrom (fuel + 1) node path = path := by
  rw [minFrom]; exact if_pos h

theorem minFrom_down {fuel : Nat} {node : T} (path : Path) (h : (linkAt node 0).isNil = false) :
    minFrom (fuel + 1) node path = minFrom fuel (linkAt node 0) ((linkAt node 0, 0) :: path) := by
  rw [minFrom]; exact if_neg (by rw [h]; exact Bool.false_ne_true)

theorem maxFrom_stop {fuel : Nat} {node : T} (path : Path) (h : (linkAt node (rowLen node)).isNil = true) :
    maxFrom (fuel + 1) node path = (node, rowLen node - 1) :: path := by
  rw [maxFrom]; exact if_pos h

theorem maxFrom_down {fuel : Nat} {node : T} (path : Path) (h : (linkAt node (rowLen node)).isNil = false) :
    maxFrom (fuel + 1) node path =
      maxFrom fuel (linkAt node (rowLen node)) ((node, rowLen node) :: path) := by
  rw [maxFrom]; exact if_neg (by rw [h]; exact Bool.false_ne_true)

theorem match_key {α : Sort _} (o : Option (Nat × Nat)) (k : Nat) (A B : α) :
    (match o with
     | some (k', _) => if k' = k then A else B
     | none => B) = if o.map (·.1) = some k then A else B := by
  cases o with
  | none => rfl
  | some e => simp

/-- where `Ceil` goes from a node: `none` = it ends in this node (key found, or no child to enter) -/
def ceilDown (k : Nat) (node : T) : Option (T × Nat) :=
  match entryAt node (lowerBound k node) with
  | some (k', _) => if k' = k then none else if (linkAt node (lowerBound k node)).isNil then none
      else some (linkAt node (lowerBound k node), lowerBound k node)
  | none => if (linkAt node (lowerBound k node)).isNil then none
      else some (linkAt node (lowerBound k node), lowerBound k node)

theorem ceilDown_eq (k : Nat) (node : T) :
    ceilDown k node =
      if (entryAt node (lowerBound k node)).map (·.1) = some k then none
      else if (linkAt node (lowerBound k node)).isNil then none
      else some (linkAt node (lowerBound k node), lowerBound k node) := by
  rw [ceilDown, match_key]

theorem ceilDown_some {k : Nat} {node c : T} {i : Nat} (h : ceilDown k node = some (c, i)) :
    i = lowerBound k node ∧ c = linkAt node i ∧ c.isNil = false := by
  rw [ceilDown_eq] at h
  split at h
  · cases h
  · split at h
    · cases h
    · next hn => cases h; exact ⟨rfl, rfl, Bool.eq_false_iff.mpr hn⟩

theorem ceilDown_elim {α : Type} (k : Nat) (node : T) (stay : α) (down : T → Nat → α) :
    (match ceilDown k node with
     | some (c, i) => down c i
     | none => stay) =
      match entryAt node (lowerBound k node) with
      | some (k', _) => if k' = k then stay
          else if (linkAt node (lowerBound k node)).isNil then stay
          else down (linkAt node (lowerBound k node)) (lowerBound k node)
      | none => if (linkAt node (lowerBound k node)).isNil then stay
          else down (linkAt node (lowerBound k node)) (lowerBound k node) := by
  rw [match_key, ceilDown_eq]
  by_cases hk : (entryAt node (lowerBound k node)).map (·.1) = some k
  · rw [if_pos hk, if_pos hk]
  · rw [if_neg hk, if_neg hk]
    by_cases hn : (linkAt node (lowerBound k node)).isNil = true
    · rw [if_pos hn, if_pos hn]
    · rw [if_neg hn, if_neg hn]

/-- when the key was found the index is below `rowLen`, and `popCeil` does nothing -/
theorem ceil_step (k f : Nat) (node : T) (j : Nat) (rest : Path) :
    ceil k (f + 1) ((node, j) :: rest) =
      match ceilDown k node with
      | some (c, i) => ceil k f ((c, 0) :: (node, i) :: rest)
      | none => popCeil ((node, lowerBound k node) :: rest) := by
  rw [ceilDown_elim, ceil]
  cases he : entryAt node (lowerBound k node) with
  | none => rfl
  | some kv =>
    obtain ⟨k', v'⟩ := kv
    simp only []
    by_cases hk : k' = k
    · rw [if_pos hk, if_pos hk, popCeil, if_neg (Nat.ne_of_lt (entryAt_some_lt he))]
    · rw [if_neg hk, if_neg hk]

theorem ceil_down {k : Nat} {node c : T} {i : Nat} (h : ceilDown k node = some (c, i)) (f j : Nat) (rest : Path) :
    ceil k (f + 1) ((node, j) :: rest) = ceil k f ((c, 0) :: (node, i) :: rest) := by
  rw [ceil_step, h]

theorem ceil_stop {k : Nat} {node : T} (h : ceilDown k node = none) (f j : Nat) (rest : Path) :
    ceil k (f + 1) ((node, j) :: rest) = popCeil ((node, lowerBound k node) :: rest) := by
  rw [ceil_step, h]

theorem ceil_found {k : Nat} {node : T} (h : (entryAt node (lowerBound k node)).map (·.1) = some k) (f j : Nat)
    (rest : Path) : ceil k (f + 1) ((node, j) :: rest) = (node, lowerBound k node) :: rest := by
  rw [ceil]
  exact (match_key _ _ _ _).trans (if_pos h)

theorem seekT_ceilDown (k : Nat) (node : T) :
    seekT k node =
      match ceilDown k node with
      | some (c, i) => seekT k c ++ seekRow node i
      | none => seekRow node (lowerBound k node) := by
  rw [seekT_index, match_key, ceilDown_eq]
  by_cases hk : (entryAt node (lowerBound k node)).map (·.1) = some k
  · rw [if_pos hk, if_pos hk]
  · rw [if_neg hk, if_neg hk]
    by_cases hn : (linkAt node (lowerBound k node)).isNil = true
    · rw [if_pos hn, isNil_iff.mp hn]; rfl
    · rw [if_neg hn]

def out (path : Path) : List (Nat × Nat) := (path.map fun (n, i) => seekRow n i).flatten

theorem out_cons (node : T) (i : Nat) (rest : Path) : out ((node, i) :: rest) = seekRow node i ++ out rest :=
  rfl

theorem out_cons_ge {node : T} {i : Nat} (rest : Path) (h : rowLen node ≤ i) : out ((node, i) :: rest) = out rest := by
  rw [out_cons, seekRow_ge node i h]; rfl

end Cursor
end Mast
