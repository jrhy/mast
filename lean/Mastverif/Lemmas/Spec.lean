import Mastverif.Lemmas.Basic
/-!
# M0 — the sorted association list that the tree refines

`insL` / `delL` / `getL` on strictly ascending entry lists, and the algebra that the
refinement proofs need.
-/
namespace Mast
namespace T

def insL (k v : Nat) : List Entry → List Entry
  | [] => [(k, v)]
  | (k', v') :: l =>
      if k' < k then (k', v') :: insL k v l else if k' = k then (k, v) :: l else (k, v) :: (k', v') :: l

def delL (k : Nat) (l : List Entry) : List Entry := l.filter (fun e => e.1 != k)

def getL (k : Nat) : List Entry → Option Nat
  | [] => none
  | (k', v') :: l => if k' = k then some v' else getL k l

theorem insL_cons_lt {k v : Nat} {x : Entry} (l : List Entry) (h : x.1 < k) :
    insL k v (x :: l) = x :: insL k v l := by
  obtain ⟨k', v'⟩ := x; exact if_pos h

theorem insL_cons_eq {k v v' : Nat} (l : List Entry) : insL k v ((k, v') :: l) = (k, v) :: l := by
  rw [insL, if_neg (Nat.lt_irrefl k), if_pos rfl]

theorem insL_cons_gt {k v : Nat} {x : Entry} (l : List Entry) (h : k < x.1) :
    insL k v (x :: l) = (k, v) :: x :: l := by
  obtain ⟨k', v'⟩ := x
  rw [insL, if_neg (Nat.lt_asymm h), if_neg (Nat.ne_of_gt h)]

theorem insL_append_lt {k v} (a b : List Entry) (h : ∀ e ∈ a, e.1 < k) :
    insL k v (a ++ b) = a ++ insL k v b := by
  induction a with
  | nil => rfl
  | cons x a ih =>
    rw [List.cons_append, insL_cons_lt _ (h x List.mem_cons_self),
      ih (fun e he => h e (List.mem_cons_of_mem _ he)), List.cons_append]

theorem insL_all_gt {k v} (a : List Entry) (h : ∀ e ∈ a, k < e.1) :
    insL k v a = (k, v) :: a := by
  cases a with
  | nil => rfl
  | cons x a => exact insL_cons_gt a (h x List.mem_cons_self)

theorem insL_append_gt {k v} (a b : List Entry) (h : ∀ e ∈ b, k < e.1) :
    insL k v (a ++ b) = insL k v a ++ b := by
  induction a with
  | nil => exact insL_all_gt b h
  | cons x a ih =>
    rcases Nat.lt_trichotomy x.1 k with hlt | heq | hgt
    · rw [List.cons_append, insL_cons_lt _ hlt, insL_cons_lt _ hlt, ih]; rfl
    · obtain ⟨k', v'⟩ := x; cases heq; rw [List.cons_append, insL_cons_eq, insL_cons_eq]; rfl
    · rw [List.cons_append, insL_cons_gt _ hgt, insL_cons_gt _ hgt]; rfl

theorem insL_mid {k v} (a b : List Entry) (ha : ∀ e ∈ a, e.1 < k) (hb : ∀ e ∈ b, k < e.1) :
    insL k v (a ++ b) = a ++ (k, v) :: b := by
  rw [insL_append_lt a b ha, insL_all_gt b hb]

theorem mem_insL {k v : Nat} {l : List Entry} {e : Entry} (h : e ∈ insL k v l) : e = (k, v) ∨ e ∈ l := by
  fun_induction insL k v l with
  | case1 => exact Or.inl (List.mem_singleton.mp h)
  | case2 k' v' l hlt ih =>
    rcases List.mem_cons.mp h with h | h
    · exact Or.inr (h ▸ List.mem_cons_self)
    · exact (ih h).imp_right (List.mem_cons_of_mem _)
  | case3 v' l hlt => exact (List.mem_cons.mp h).imp_right (List.mem_cons_of_mem _)
  | case4 k' v' l hlt hne => exact List.mem_cons.mp h

theorem mem_insL_self (k v : Nat) (l : List Entry) : (k, v) ∈ insL k v l := by
  fun_induction insL k v l with
  | case2 k' v' l hlt ih => exact List.mem_cons_of_mem _ ih
  | _ => exact List.mem_cons_self

theorem mem_insL_of_mem {k v : Nat} {l : List Entry} {e : Entry} (he : e ∈ l) (hk : e.1 ≠ k) :
    e ∈ insL k v l := by
  fun_induction insL k v l with
  | case1 => cases he
  | case2 k' v' l hlt ih =>
    exact (List.mem_cons.mp he).elim (· ▸ List.mem_cons_self) (fun h => List.mem_cons_of_mem _ (ih h))
  | case3 v' l hlt =>
    rcases List.mem_cons.mp he with rfl | he
    · exact absurd rfl hk
    · exact List.mem_cons_of_mem _ he
  | case4 k' v' l hlt hne => exact List.mem_cons_of_mem _ he

theorem key_mem_insL {k v : Nat} {l : List Entry} {P : Nat → Prop} (h : ∃ e ∈ l, P e.1) :
    ∃ e ∈ insL k v l, P e.1 := by
  obtain ⟨e, he, hp⟩ := h
  by_cases hk : e.1 = k
  · exact ⟨(k, v), mem_insL_self k v l, hk ▸ hp⟩
  · exact ⟨e, mem_insL_of_mem he hk, hp⟩

theorem insL_ne_nil (k v : Nat) (l : List Entry) : insL k v l ≠ [] :=
  List.ne_nil_of_mem (mem_insL_self k v l)

theorem keys_insL {k v : Nat} {l : List Entry} {e : Entry} (h : e ∈ insL k v l) : e.1 = k ∨ e ∈ l := by
  rcases mem_insL h with rfl | h
  · exact Or.inl rfl
  · exact Or.inr h

theorem sorted_insL (k v : Nat) (l : List Entry) (hs : Sorted l) : Sorted (insL k v l) := by
  fun_induction insL k v l with
  | case1 => exact List.pairwise_singleton _ _
  | case2 k' v' l hlt ih =>
    obtain ⟨h1, h2⟩ := List.pairwise_cons.mp hs
    refine List.pairwise_cons.mpr ⟨fun e he => ?_, ih h2⟩
    rcases mem_insL he with rfl | he
    · exact hlt
    · exact h1 e he
  | case3 v' l hlt => exact List.pairwise_cons.mpr (List.pairwise_cons.mp hs)
  | case4 k' v' l hlt hne =>
    have hgt : k < k' := Nat.lt_of_le_of_ne (Nat.le_of_not_lt hlt) (Ne.symm hne)
    refine List.pairwise_cons.mpr ⟨fun e he => ?_, hs⟩
    rcases List.mem_cons.mp he with rfl | he
    · exact hgt
    · exact Nat.lt_trans hgt ((List.pairwise_cons.mp hs).1 e he)

theorem length_insL_absent (k v : Nat) (l : List Entry) (h : ∀ e ∈ l, e.1 ≠ k) :
    (insL k v l).length = l.length + 1 := by
  fun_induction insL k v l with
  | case2 k' v' l hlt ih => exact congrArg (· + 1) (ih (fun e he => h e (List.mem_cons_of_mem _ he)))
  | case3 v' l hlt => exact absurd rfl (h (k, v') List.mem_cons_self)
  | _ => rfl

theorem delL_append (k : Nat) (a b : List Entry) : delL k (a ++ b) = delL k a ++ delL k b :=
  List.filter_append ..

theorem delL_of_not_mem (k : Nat) (a : List Entry) (h : ∀ e ∈ a, e.1 ≠ k) : delL k a = a :=
  List.filter_eq_self.mpr (fun e he => bne_iff_ne.mpr (h e he))

theorem delL_cons_self (k v : Nat) (l : List Entry) : delL k ((k, v) :: l) = delL k l :=
  List.filter_cons_of_neg (by simp)

theorem delL_cons_ne {k : Nat} {x : Entry} (l : List Entry) (h : x.1 ≠ k) : delL k (x :: l) = x :: delL k l :=
  List.filter_cons_of_pos (bne_iff_ne.mpr h)

theorem mem_delL {k : Nat} {l : List Entry} {e : Entry} (h : e ∈ delL k l) : e ∈ l :=
  (List.mem_filter.mp h).1

theorem sorted_delL (k : Nat) (l : List Entry) (hs : Sorted l) : Sorted (delL k l) :=
  List.Pairwise.filter _ hs

theorem getL_cons_ne {k : Nat} {x : Entry} (l : List Entry) (h : x.1 ≠ k) : getL k (x :: l) = getL k l := by
  obtain ⟨k', v'⟩ := x; exact if_neg h

theorem getL_cons_self (k v : Nat) (l : List Entry) : getL k ((k, v) :: l) = some v :=
  if_pos rfl

theorem getL_none_iff {k : Nat} {l : List Entry} : getL k l = none ↔ ∀ e ∈ l, e.1 ≠ k := by
  fun_induction getL k l with
  | case1 => exact ⟨fun _ => nofun, fun _ => rfl⟩
  | case2 v' l => exact ⟨nofun, fun h => absurd rfl (h _ List.mem_cons_self)⟩
  | case3 k' v' l hne ih =>
    rw [List.forall_mem_cons]
    exact ⟨fun h => ⟨hne, ih.mp h⟩, fun h => ih.mpr h.2⟩

theorem getL_some_mem {k v : Nat} {l : List Entry} (h : getL k l = some v) : (k, v) ∈ l := by
  fun_induction getL k l with
  | case1 => cases h
  | case2 v' l => cases h; exact List.mem_cons_self
  | case3 k' v' l hne ih => exact List.mem_cons_of_mem _ (ih h)

theorem getL_append_lt {k : Nat} (a b : List Entry) (h : ∀ e ∈ a, e.1 < k) :
    getL k (a ++ b) = getL k b := by
  induction a with
  | nil => rfl
  | cons x a ih =>
    rw [List.cons_append, getL_cons_ne _ (Nat.ne_of_lt (h x List.mem_cons_self))]
    exact ih (fun e he => h e (List.mem_cons_of_mem _ he))

theorem getL_all_gt {k : Nat} (a : List Entry) (h : ∀ e ∈ a, k < e.1) : getL k a = none :=
  getL_none_iff.mpr (fun e he => Nat.ne_of_gt (h e he))

theorem getL_append_none {k : Nat} (a b : List Entry) (h : ∀ e ∈ b, e.1 ≠ k) :
    getL k (a ++ b) = getL k a := by
  induction a with
  | nil => exact getL_none_iff.mpr h
  | cons x a ih =>
    obtain ⟨k', v'⟩ := x
    simp only [List.cons_append, getL]
    split
    · rfl
    · exact ih

theorem getL_insL_same (k v : Nat) (l : List Entry) (hs : Sorted l) : getL k (insL k v l) = some v := by
  fun_induction insL k v l with
  | case2 k' v' l hlt ih => rw [getL_cons_ne _ (Nat.ne_of_lt hlt)]; exact ih (sorted_tail hs)
  | _ => exact getL_cons_self k v _

theorem getL_delL_same (k : Nat) (l : List Entry) : getL k (delL k l) = none :=
  getL_none_iff.mpr (fun _ he => bne_iff_ne.mp (List.mem_filter.mp he).2)

/-! ## a present key: the sorted list splits around its entry -/

theorem getL_some_split {k v : Nat} {l : List Entry} (hs : Sorted l) (h : getL k l = some v) :
    ∃ a b, l = a ++ (k, v) :: b ∧ (∀ e ∈ a, e.1 < k) ∧ (∀ e ∈ b, k < e.1) := by
  fun_induction getL k l with
  | case1 => cases h
  | case2 v' l => cases h; exact ⟨[], l, rfl, nofun, (List.pairwise_cons.mp hs).1⟩
  | case3 k' v' l hne ih =>
    obtain ⟨h1, h2⟩ := List.pairwise_cons.mp hs
    obtain ⟨a, b, rfl, ha, hb⟩ := ih h2 h
    refine ⟨(k', v') :: a, b, rfl, fun e he => ?_, hb⟩
    rcases List.mem_cons.mp he with rfl | he
    · exact h1 (k, v) (List.mem_append_right _ List.mem_cons_self)
    · exact ha e he

theorem insL_present {k v v' : Nat} {a b : List Entry} (ha : ∀ e ∈ a, e.1 < k) :
    insL k v (a ++ (k, v') :: b) = a ++ (k, v) :: b := by
  rw [insL_append_lt a _ ha, insL_cons_eq]

theorem length_insL_present {k v v' : Nat} (l : List Entry) (hs : Sorted l) (h : getL k l = some v') :
    (insL k v l).length = l.length := by
  obtain ⟨a, b, rfl, ha, _⟩ := getL_some_split hs h
  rw [insL_present ha, List.length_append, List.length_append]; rfl

theorem insL_same {k v : Nat} (l : List Entry) (hs : Sorted l) (h : getL k l = some v) : insL k v l = l := by
  obtain ⟨a, b, rfl, ha, _⟩ := getL_some_split hs h
  exact insL_present ha

theorem length_delL_present {k v' : Nat} (l : List Entry) (hs : Sorted l) (h : getL k l = some v') :
    (delL k l).length + 1 = l.length := by
  obtain ⟨a, b, rfl, ha, hb⟩ := getL_some_split hs h
  rw [delL_append, delL_cons_self, delL_of_not_mem k a (fun e he => Nat.ne_of_lt (ha e he)),
    delL_of_not_mem k b (fun e he => Nat.ne_of_gt (hb e he)), List.length_append, List.length_append]
  rfl

end T
end Mast
