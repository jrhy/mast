import Mastverif.Model.Store
import Mastverif.Lemmas.Basic
/-! Names and store traces: independence from residency flags, reachability of what is stored;
`makeRoot` by cases and by component. -/
namespace Mast
namespace T

/-- the bytes and names of a node do not depend on where its parts currently reside -/
theorem rowB_erase (e : Enc) : ∀ t : T, rowB e (erase t) = rowB e t := by
  intro t
  induction t with
  | nil => rfl
  | last p c ih => simp only [erase, rowB, isNil_erase, ih]
  | cons p c k v r ihc ihr => simp only [erase, rowB, isNil_erase, ihc, ihr]

theorem nodeName_erase (e : Enc) (t : T) : nodeName e (erase t) = nodeName e t := by
  simp only [nodeName, nodeBytes, rowB_erase]

theorem rowB_persistAll (e : Enc) (t : T) : rowB e (persistAll t) = rowB e t := by
  rw [← rowB_erase e (persistAll t), erase_persistAll, rowB_erase]

theorem nodeName_persistAll (e : Enc) (t : T) : nodeName e (persistAll t) = nodeName e t := by
  simp only [nodeName, nodeBytes, rowB_persistAll]

theorem reachBelow_persistAll (e : Enc) : ∀ t : T, reachBelow e (persistAll t) = reachBelow e t := by
  intro t
  induction t with
  | nil => rfl
  | last p c ih => simp only [persistAll, reachBelow, isNil_persistAll, nodeName_persistAll, ih]
  | cons p c k v r ihc ihr =>
    simp only [persistAll, reachBelow, isNil_persistAll, nodeName_persistAll, ihc, ihr]

theorem mem_linkStores {e : Enc} {p : Bool} {c : T} {x : Bytes × Bytes} :
    x ∈ (if p || c.isNil then [] else storesBelow e c ++ [(nodeName e c, nodeBytes e c)]) ↔
      (p || c.isNil) = false ∧ (x ∈ storesBelow e c ∨ x = (nodeName e c, nodeBytes e c)) := by
  cases (p || c.isNil) <;> simp

theorem mem_linkReach {e : Enc} {c : T} {n : Bytes} :
    n ∈ (if c.isNil then [] else nodeName e c :: reachBelow e c) ↔
      c.isNil = false ∧ (n = nodeName e c ∨ n ∈ reachBelow e c) := by
  cases c.isNil <;> simp

/-- every name written for the nodes below a row is the name of a node reachable below it -/
theorem storesBelow_sub_reach (e : Enc) : ∀ t : T, ∀ x ∈ storesBelow e t, x.1 ∈ reachBelow e t := by
  intro t
  induction t with
  | nil => intro x hx; cases hx
  | last p c ih =>
    intro x hx
    have ⟨hw, hx⟩ := mem_linkStores.mp hx
    exact mem_linkReach.mpr ⟨(Bool.or_eq_false_iff.mp hw).2, hx.symm.imp (congrArg Prod.fst) (ih x)⟩
  | cons p c k v r ihc ihr =>
    intro x hx
    refine List.mem_append.mpr ((List.mem_append.mp hx).imp (fun hx => ?_) (ihr x))
    have ⟨hw, hx⟩ := mem_linkStores.mp hx
    exact mem_linkReach.mpr ⟨(Bool.or_eq_false_iff.mp hw).2, hx.symm.imp (congrArg Prod.fst) (ihc x)⟩

/-- every stored pair is a node's bytes under the name of exactly those bytes -/
theorem storesBelow_named (e : Enc) : ∀ t : T, ∀ x ∈ storesBelow e t, x.1 = e.hash x.2 := by
  intro t
  induction t with
  | nil => intro x hx; cases hx
  | last p c ih =>
    intro x hx
    exact (mem_linkStores.mp hx).2.elim (ih x) (· ▸ rfl)
  | cons p c k v r ihc ihr =>
    intro x hx
    exact (List.mem_append.mp hx).elim (fun hx => (mem_linkStores.mp hx).2.elim (ihc x) (· ▸ rfl)) (ihr x)

end T

namespace Tree
open T

theorem makeRoot_empty (e : Enc) (m : Tree) (he : isEmptyTop m.root = true) :
    makeRoot e m = ([], { link := none, size := m.size, height := m.height, bf := m.bf },
      { m with dirty := false }) := by
  simp only [makeRoot, he, if_true]

theorem makeRoot_clean (e : Enc) (m : Tree) (he : isEmptyTop m.root = false) (hd : m.dirty = false) :
    makeRoot e m = ([], { link := some (nodeName e m.root), size := m.size, height := m.height, bf := m.bf },
      { m with rootP := true }) := by
  simp only [makeRoot, he, hd, Bool.false_eq_true, if_false, Bool.not_false, if_true]

theorem makeRoot_dirty (e : Enc) (m : Tree) (he : isEmptyTop m.root = false) (hd : m.dirty = true) :
    makeRoot e m = (storesBelow e m.root ++ [(nodeName e m.root, nodeBytes e m.root)],
      { link := some (nodeName e m.root), size := m.size, height := m.height, bf := m.bf },
      { m with root := persistAll m.root, rootP := true, dirty := false }) := by
  simp only [makeRoot, he, hd, Bool.false_eq_true, if_false, Bool.not_true]

theorem makeRoot_rec (e : Enc) (m : Tree) : (makeRoot e m).2.1 =
    { link := if isEmptyTop m.root then none else some (nodeName e m.root),
      size := m.size, height := m.height, bf := m.bf } := by
  cases he : isEmptyTop m.root
  · cases hd : m.dirty
    · rw [makeRoot_clean e m he hd]; rfl
    · rw [makeRoot_dirty e m he hd]; rfl
  · rw [makeRoot_empty e m he]; rfl

theorem makeRoot_tree (e : Enc) (m : Tree) : ∃ r rp d,
    (makeRoot e m).2.2 = { m with root := r, rootP := rp, dirty := d } ∧ erase r = erase m.root := by
  cases he : isEmptyTop m.root
  · cases hd : m.dirty
    · rw [makeRoot_clean e m he hd]; exact ⟨_, _, _, rfl, rfl⟩
    · rw [makeRoot_dirty e m he hd]; exact ⟨_, _, _, rfl, erase_persistAll m.root⟩
  · rw [makeRoot_empty e m he]; exact ⟨_, _, _, rfl, rfl⟩

theorem makeRoot_not_dirty (e : Enc) (m : Tree) : (makeRoot e m).2.2.dirty = false := by
  cases he : isEmptyTop m.root
  · cases hd : m.dirty
    · rw [makeRoot_clean e m he hd]; exact hd
    · rw [makeRoot_dirty e m he hd]
  · rw [makeRoot_empty e m he]

theorem reach_of_nonempty (e : Enc) (m : Tree) (he : isEmptyTop m.root = false) :
    reach e m = nodeName e m.root :: reachBelow e m.root := by
  rw [reach, he]; rfl

theorem makeRoot_stores (e : Enc) (m : Tree) : (makeRoot e m).1 =
    if isEmptyTop m.root || !m.dirty then []
    else storesBelow e m.root ++ [(nodeName e m.root, nodeBytes e m.root)] := by
  cases he : isEmptyTop m.root
  · cases hd : m.dirty
    · rw [makeRoot_clean e m he hd]; rfl
    · rw [makeRoot_dirty e m he hd]; rfl
  · rw [makeRoot_empty e m he]; rfl

theorem makeRoot_named (e : Enc) (m : Tree) : ∀ x ∈ (makeRoot e m).1, x.1 = e.hash x.2 := by
  intro x hx
  rw [makeRoot_stores] at hx
  split at hx
  · cases hx
  · exact (List.mem_append.mp hx).elim (storesBelow_named e m.root x) fun hx => List.mem_singleton.mp hx ▸ rfl

end Tree
end Mast
