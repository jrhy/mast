import Mastverif.Lemmas.TrueLinks
/-!
# After every history, a successful MakeRoot leaves the whole version in the store

The store `S` is the list of names written so far.  Invariant `J S m`: below every persisted link
of `m` hangs a completely persisted subtree all of whose names are in `S`; and a clean tree is in
`S` entirely.  Insert / Delete (with growth and shrinking) keep it; `makeRoot` re-establishes it
for `S` extended by what it writes, and then every name the returned version reaches is in the
store.  (Which writes have *completed* when `MakeRoot` returns is the worker-pool model's business:
`Props/C03.lean`.)
-/
namespace Mast
namespace T

/-- `InS` (in the store): the subtree is entirely persisted and entirely in the store -/
def InS (e : Enc) (S : List Bytes) (c : T) : Prop :=
  AllP c ∧ nodeName e c ∈ S ∧ ∀ n ∈ reachBelow e c, n ∈ S

theorem inS_mono (e : Enc) {S S' : List Bytes} (hs : ∀ n ∈ S, n ∈ S') (c : T) (h : InS e S c) : InS e S' c :=
  ⟨h.1, hs _ h.2.1, fun n hn => hs n (h.2.2 n hn)⟩

theorem TL_of_allP (e : Enc) (S : List Bytes) : ∀ t : T, AllP t → (∀ n ∈ reachBelow e t, n ∈ S) →
    TL (InS e S) t := by
  have link : ∀ {p : Bool} {c : T}, p = true → AllP c →
      (∀ n ∈ (if c.isNil then [] else nodeName e c :: reachBelow e c), n ∈ S) →
      Lnk (InS e S) (TL (InS e S)) p c := by
    intro p c hp ha hr
    cases hc : c.isNil with
    | true => exact Or.inl hc
    | false =>
      exact Or.inr (Or.inl ⟨hp, ha, hr _ (mem_linkReach.mpr ⟨hc, Or.inl rfl⟩),
        fun n hn => hr n (mem_linkReach.mpr ⟨hc, Or.inr hn⟩)⟩)
  intro t
  induction t with
  | nil => intro _ _; trivial
  | last p c _ => intro ha hr; exact link ha.1 ha.2 hr
  | cons p c k v r _ ihr =>
    intro ha hr
    exact ⟨link ha.1 ha.2.1 fun n hn => hr n (List.mem_append_left _ hn),
      ihr ha.2.2 fun n hn => hr n (List.mem_append_right _ hn)⟩

theorem inS_her (e : Enc) (S : List Bytes) : ∀ c, InS e S c → TL (InS e S) c :=
  fun c h => TL_of_allP e S c h.1 h.2.2

/-- everything below is in the store once the pending writes are added -/
theorem reach_covered (e : Enc) (S : List Bytes) : ∀ t : T, TL (InS e S) t →
    ∀ n ∈ reachBelow e t, n ∈ S ∨ ∃ x ∈ storesBelow e t, x.1 = n := by
  have link : ∀ {p : Bool} {c : T},
      (TL (InS e S) c → ∀ n ∈ reachBelow e c, n ∈ S ∨ ∃ x ∈ storesBelow e c, x.1 = n) →
      Lnk (InS e S) (TL (InS e S)) p c → ∀ n ∈ (if c.isNil then [] else nodeName e c :: reachBelow e c),
      n ∈ S ∨ ∃ x ∈ (if p || c.isNil then [] else storesBelow e c ++ [(nodeName e c, nodeBytes e c)]),
        x.1 = n := by
    intro p c ih h n hn
    have ⟨hc, hn⟩ := mem_linkReach.mp hn
    rcases h with h | h | h
    · rw [hc] at h; cases h
    · exact Or.inl (hn.elim (· ▸ h.2.2.1) (h.2.2.2 n))
    · have hw : (p || c.isNil) = false := by rw [h.1, hc]; rfl
      rcases hn with rfl | hn
      · exact Or.inr ⟨_, mem_linkStores.mpr ⟨hw, Or.inr rfl⟩, rfl⟩
      · exact (ih h.2 n hn).imp_right fun ⟨x, hx, hxn⟩ => ⟨x, mem_linkStores.mpr ⟨hw, Or.inl hx⟩, hxn⟩
  intro t
  induction t with
  | nil => intro _ n hn; cases hn
  | last p c ih => intro h; exact link ih h
  | cons p c k v r ihc ihr =>
    intro h n hn
    rcases List.mem_append.mp hn with hn | hn
    · exact (link ihc h.1 n hn).imp_right fun ⟨x, hx, hxn⟩ => ⟨x, List.mem_append_left _ hx, hxn⟩
    · exact (ihr h.2 n hn).imp_right fun ⟨x, hx, hxn⟩ => ⟨x, List.mem_append_right _ hx, hxn⟩

end T

namespace Tree
open T
variable (layer : Nat → Nat)

/-- `J`, the store invariant of a tree -/
structure J (e : Enc) (S : List Bytes) (m : Tree) : Prop where
  links : TL (InS e S) m.root
  clean : m.dirty = false → isEmptyTop m.root = false →
    nodeName e m.root ∈ S ∧ ∀ n ∈ reachBelow e m.root, n ∈ S

theorem insert_TL {P : T → Prop} (her : ∀ c, P c → TL P c) (m m' : Tree) (k v : Nat)
    (h : insert layer m k v = .ok m') (ht : TL P m.root) : TL P m'.root := by
  rcases insert_ok layer h with rfl | ⟨r, hr, rfl | rfl⟩
  · exact ht
  · exact ins_TL her k v m.root _ r ht hr
  · exact growLoop_induct layer (P := fun m => TL P m.root) (fun m h _ => grow_TL her layer m.height m.root h) _ _
      (ins_TL her k v m.root _ r ht hr)

theorem delete_TL {P : T → Prop} (her : ∀ c, P c → TL P c) (m m' : Tree) (k v : Nat)
    (h : delete layer m k v = .ok m') (ht : TL P m.root) : TL P m'.root := by
  obtain ⟨r, hr, rfl⟩ := delete_ok layer h
  exact shrinkLoop_induct (P := fun m => TL P m.root) (fun m h _ => shrink_TL her m.root h) _ _
    (del_TL her k m.root _ r ht hr)

theorem J_step (e : Enc) (S : List Bytes) (m : Tree) (op : Op) (hp : isPersist op = false) (hj : J e S m) :
    J e S (stepT layer e m op).1 := by
  have her := inS_her e S
  rcases step_dirty layer e m op hp with h1 | h1
  · rw [h1]; exact hj
  · refine ⟨?_, fun hc => by rw [h1] at hc; cases hc⟩
    rcases stepT_cases layer e m op hp with h | ⟨k, v, _, h⟩ | ⟨k, v, _, h⟩
    · rw [h]; exact hj.links
    · exact insert_TL layer her m _ k v h hj.links
    · exact delete_TL layer her m _ k v h hj.links

/-- the names `makeRoot` writes -/
def written (e : Enc) (m : Tree) : List Bytes := (makeRoot e m).1.map (·.1)

theorem J_mono (e : Enc) {S S' : List Bytes} (hs : ∀ n ∈ S, n ∈ S') (m : Tree) (hj : J e S m) : J e S' m :=
  ⟨TL_mono (inS_mono e hs) _ hj.links,
   fun hd he => ⟨hs _ (hj.clean hd he).1, fun n hn => hs n ((hj.clean hd he).2 n hn)⟩⟩

/-- and the invariant holds for the extended store -/
theorem makeRoot_complete (e : Enc) (S : List Bytes) (m : Tree) (hj : J e S m) :
    (∀ n ∈ reach e m, n ∈ S ++ written e m) ∧ J e (S ++ written e m) (makeRoot e m).2.2 := by
  have hj' : J e (S ++ written e m) m := J_mono e (fun n => List.mem_append_left _) m hj
  cases he : isEmptyTop m.root with
  | true =>
    have hr : reach e m = [] := by rw [reach, he]; rfl
    rw [makeRoot_empty e m he, hr]
    exact ⟨fun _ hn => (nomatch hn), hj'.links, fun _ h => (nomatch he.symm.trans h)⟩
  | false =>
    rw [reach_of_nonempty e m he]
    cases hd : m.dirty with
    | false =>
      have all := List.forall_mem_cons.mpr (hj'.clean hd he)
      rw [makeRoot_clean e m he hd]
      exact ⟨all, hj'.links, fun _ _ => List.forall_mem_cons.mp all⟩
    | true =>
      -- every reachable name is in the store or among the writes
      have all : ∀ n ∈ nodeName e m.root :: reachBelow e m.root, n ∈ S ++ written e m := by
        have hw : ∀ x ∈ storesBelow e m.root ++ [(nodeName e m.root, nodeBytes e m.root)],
            x.1 ∈ written e m := by
          intro x hx
          rw [written, makeRoot_dirty e m he hd]
          exact List.mem_map_of_mem hx
        intro n hn
        rcases List.mem_cons.mp hn with rfl | hn
        · exact List.mem_append_right _ (hw _ (List.mem_append_right _ (List.mem_singleton_self _)))
        · rcases reach_covered e S m.root hj.links n hn with h | ⟨x, hx, rfl⟩
          · exact List.mem_append_left _ h
          · exact List.mem_append_right _ (hw x (List.mem_append_left _ hx))
      have all' := List.forall_mem_cons.mp all
      rw [makeRoot_dirty e m he hd]
      refine ⟨all, TL_of_allP e _ _ (allP_persistAll m.root) ?_, fun _ _ => ?_⟩
      · rw [reachBelow_persistAll]; exact all'.2
      · rw [nodeName_persistAll, reachBelow_persistAll]; exact all'

theorem J_empty (e : Enc) (bf : Nat) : J e [] (Tree.empty bf) :=
  ⟨Or.inl rfl, fun _ h => nomatch h⟩

/-- histories with the store: a persist adds what it writes -/
def execS (e : Enc) : Tree × List Bytes → List Op → Tree × List Bytes
  | ms, [] => ms
  | (m, S), op :: ops =>
      execS e ((stepT layer e m op).1, if isPersist op then S ++ written e m else S) ops

/-! ## failed persists

A `MakeRoot` that fails has issued some of its writes: an arbitrary sub-list of them has reached
the store (which ones is up to the worker pool and the store).  The tree is left as it was —
nothing is committed before every write has succeeded (pub.go, `flush`: the commit closures run
only when no write failed). -/

/-- keep the elements of `l` whose position is marked in `mask` (missing marks = dropped) -/
def keep {α} : List Bool → List α → List α
  | true :: ms, x :: xs => x :: keep ms xs
  | false :: ms, _ :: xs => keep ms xs
  | _, _ => []

/-- a step of a history with faults: an ordinary operation (a `persist` here is a MakeRoot that
    succeeds), or a MakeRoot that fails after the marked writes have reached the store -/
inductive OpF where
  | op (o : Op)
  | failedPersist (landed : List Bool)

def execF (e : Enc) : Tree × List Bytes → List OpF → Tree × List Bytes
  | ms, [] => ms
  | (m, S), .op o :: ops =>
      execF e ((stepT layer e m o).1, if isPersist o then S ++ written e m else S) ops
  | (m, S), .failedPersist landed :: ops =>
      execF e (m, S ++ keep landed (written e m)) ops

theorem J_execF (e : Enc) : ∀ (ops : List OpF) (m : Tree) (S : List Bytes), J e S m →
    J e (execF layer e (m, S) ops).2 (execF layer e (m, S) ops).1 := by
  intro ops
  induction ops with
  | nil => intro m S h; exact h
  | cons op ops ih =>
    intro m S h
    cases op with
    | op o =>
      simp only [execF]
      cases hp : isPersist o with
      | true =>
        rw [stepT_persist layer e m hp]
        exact ih _ _ (makeRoot_complete e S m h).2
      | false => exact ih _ _ (J_step layer e S m o hp h)
    | failedPersist landed => exact ih _ _ (J_mono e (fun n => List.mem_append_left _) m h)

theorem execF_complete (e : Enc) (ops : List OpF) (m : Tree) (S : List Bytes) (hj : J e S m) :
    ∀ n ∈ reach e (execF layer e (m, S) ops).1,
      n ∈ (execF layer e (m, S) ops).2 ++ written e (execF layer e (m, S) ops).1 :=
  (makeRoot_complete e _ _ (J_execF layer e ops m S hj)).1

theorem execF_op (e : Enc) : ∀ (ops : List Op) (ms : Tree × List Bytes),
    execF layer e ms (ops.map .op) = execS layer e ms ops := by
  intro ops
  induction ops with
  | nil => intro _; rfl
  | cons op ops ih => intro ms; exact ih _

end Tree
end Mast
