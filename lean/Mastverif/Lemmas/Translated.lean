import Mastverif.Gen.KeyLayers
import Mastverif.Lemmas.Layer
/-!
# The generated transcriptions of key.go's loops equal the model's layer functions

`Mastverif/Gen/KeyLayers.lean` is regenerated from /repo/key.go by `vh -translate` on every run.
For every 64-bit operand and every branch factor ≥ 2 the generated loops terminate within their
64 rounds of fuel, the `uint8` counter never wraps, and the result is the model's `uintLayer`
(of the magnitude, for the signed loop).
-/
namespace Mast.Gen
open Mast

theorem go_uintLayer_loop (bf : Nat) (hbf : 2 ≤ bf) : ∀ (fuel v layer : Nat), v < 2 ^ fuel → layer + fuel < 256 →
    go_uintLayer.loop fuel v bf layer = (layer + uintLayer bf v, false) := by
  intro fuel
  induction fuel with
  | zero =>
    intro v layer hv _
    obtain rfl : v = 0 := Nat.lt_one_iff.mp hv
    rw [uintLayer_zero_step bf 0 fun h => h.2.1 rfl]
    rfl
  | succ fuel ih =>
    intro v layer hv hl
    rw [go_uintLayer.loop]
    by_cases hc : v ≠ 0 ∧ v % bf = 0
    · -- one round: `v / bf` fits the remaining fuel and the counter stays below 256
      have hdiv : v / bf < 2 ^ fuel :=
        Nat.div_lt_of_lt_mul (Nat.lt_of_lt_of_le hv
          (by rw [Nat.pow_succ, Nat.mul_comm]; exact Nat.mul_le_mul_right _ hbf))
      have hm : (layer + 1) % 256 = layer + 1 :=
        Nat.mod_eq_of_lt (Nat.lt_of_le_of_lt (Nat.add_le_add_left (Nat.le_add_left 1 fuel) layer) hl)
      rw [if_pos hc, hm, ih (v / bf) (layer + 1) hdiv (by rw [Nat.add_assoc, Nat.add_comm 1]; exact hl),
        uintLayer_pos_step bf v ⟨hbf, hc⟩, Nat.add_assoc, Nat.add_comm 1]
    · rw [if_neg hc, uintLayer_zero_step bf v fun h => hc h.2]
      rfl

theorem go_uintLayer_eq (v bf : Nat) (hbf : 2 ≤ bf) (hv : v < 2 ^ 64) :
    go_uintLayer v bf = (uintLayer bf v, false) :=
  (go_uintLayer_loop bf hbf 64 v 0 hv (by decide)).trans (by rw [Nat.zero_add])

/-- Go's truncated `%` and `/` on an `int64`, read on the magnitude -/
theorem int_cond_iff (v : Int) (bf : Nat) :
    (v ≠ (0 : Int) ∧ Int.tmod v (Int.ofNat bf) = (0 : Int)) ↔ (v.natAbs ≠ 0 ∧ v.natAbs % bf = 0) := by
  refine and_congr (not_congr Int.natAbs_eq_zero.symm) ⟨fun h => ?_, fun h => Int.natAbs_eq_zero.mp ?_⟩
  · simpa using congrArg Int.natAbs h
  · simpa using h

theorem natAbs_tdiv_ofNat (v : Int) (bf : Nat) : (Int.tdiv v (Int.ofNat bf)).natAbs = v.natAbs / bf := by
  rw [Int.natAbs_tdiv]; rfl

theorem go_intLayer_loop (bf : Nat) : ∀ (fuel : Nat) (v : Int) (layer : Nat),
    go_intLayer.loop fuel v bf layer = go_uintLayer.loop fuel v.natAbs bf layer := by
  intro fuel
  induction fuel with
  | zero =>
    intro v layer
    rw [go_intLayer.loop, go_uintLayer.loop, decide_eq_decide.mpr (int_cond_iff v bf)]
  | succ fuel ih =>
    intro v layer
    rw [go_intLayer.loop, go_uintLayer.loop]
    by_cases hc : v.natAbs ≠ 0 ∧ v.natAbs % bf = 0
    · rw [if_pos hc, if_pos ((int_cond_iff v bf).mpr hc), ih, natAbs_tdiv_ofNat]
    · rw [if_neg hc, if_neg (mt (int_cond_iff v bf).mp hc)]

theorem go_intLayer_eq (v : Int) (bf : Nat) (hbf : 2 ≤ bf) (hv : v.natAbs < 2 ^ 64) :
    go_intLayer v bf = (uintLayer bf v.natAbs, false) :=
  (go_intLayer_loop bf 64 v _).trans (go_uintLayer_eq v.natAbs bf hbf hv)

end Mast.Gen
