import Mastverif.Lemmas.Ins
import Mastverif.Lemmas.Height
/-!
# The tree-level invariant and the refinement of `Tree.insert` / `Tree.delete` / `Tree.lookup`

`Inv` is kept by every call; the grow loop and the shrink loop each re-establish one clause of the
height rule `HOK` while they run and the other when they stop.
-/
namespace Mast
open T

namespace Tree
variable (layer : Nat → Nat)

/-- the invariant of every tree the API produces -/
structure Inv (m : Tree) : Prop where
  wf : WF layer m.height m.root
  sorted : Sorted m.root.toList
  size : m.size = m.root.toList.length
  bf2 : 2 ≤ m.bf
  ga : m.growAfter = m.bf ^ (m.height + 1)
  sb : m.shrinkBelow = m.bf ^ m.height

theorem inv_empty (bf : Nat) (h : 2 ≤ bf) : Inv layer (Tree.empty bf) :=
  ⟨Or.inl rfl, List.Pairwise.nil, rfl, h, (Nat.pow_one bf).symm, rfl⟩

theorem levels_spec (m : Tree) (k : Nat) :
    ∃ tgt, tgt + m.levels layer k = m.height ∧ tgt ≤ layer k ∧ (layer k ≤ tgt ∨ m.levels layer k = 0) := by
  refine ⟨min (layer k) m.height, Nat.add_sub_of_le (Nat.min_le_right _ _), Nat.min_le_left _ _, ?_⟩
  by_cases h : layer k ≤ m.height
  · exact Or.inl (Nat.le_of_eq (Nat.min_eq_left h).symm)
  · exact Or.inr (by rw [levels, Nat.min_eq_right (Nat.le_of_not_le h), Nat.sub_self])

theorem lookup_eq (m : Tree) (k : Nat) (hi : Inv layer m) : m.lookup layer k = getL k m.toList := by
  obtain ⟨tgt, h1, h2, h3⟩ := levels_spec layer m k
  exact get_eq_getL layer k h2 m.root (m.levels layer k) (Or.inr (h1 ▸ hi.wf)) hi.sorted h3

/-- invariant without the size clause, for the intermediate states of the grow / shrink loops -/
structure Inv0 (m : Tree) : Prop where
  wf : WF layer m.height m.root
  sorted : Sorted m.root.toList
  bf2 : 2 ≤ m.bf
  ga : m.growAfter = m.bf ^ (m.height + 1)
  sb : m.shrinkBelow = m.bf ^ m.height

theorem inv0_growStep {m : Tree} (hi : Inv0 layer m) : Inv0 layer (growStep layer m) :=
  ⟨grow_WF layer m.height m.root hi.wf, (toList_grow layer m.height m.root m.height hi.wf).symm ▸ hi.sorted,
    hi.bf2, (congrArg (· * m.bf) hi.ga).trans (Nat.pow_succ ..).symm, hi.ga⟩

theorem growLoop_induct {P : Tree → Prop}
    (step : ∀ m, P m → m.size ≥ m.growAfter ∧ canGrow layer m.height m.root = true → P (growStep layer m))
    (fuel : Nat) (m : Tree) (h : P m) : P (growLoop layer fuel m) := by
  fun_induction growLoop layer fuel m with
  | case1 m => exact h
  | case2 fuel m hc ih => exact ih (step m h hc)
  | case3 fuel m hc => exact h

/-- what the grow and shrink loops leave alone -/
structure SameData (m m' : Tree) : Prop where
  list : m'.root.toList = m.root.toList
  size : m'.size = m.size
  bf : m'.bf = m.bf

/-- `n`: Insert runs the loop with the old `size` while the row already has `size + 1` entries.  A step
    is taken only if `bf^(height+1) ≤ size` and some key lies above the top node. -/
theorem growLoop_spec (fuel : Nat) (m : Tree) (hi : Inv0 layer m) (n : Nat) (hn : m.size < n) :
    Inv0 layer (growLoop layer fuel m) ∧ SameData m (growLoop layer fuel m) ∧
    (HLow m.bf layer m.height n m.root.toList →
      HLow m.bf layer (growLoop layer fuel m).height n m.root.toList) := by
  refine growLoop_induct layer (P := fun m' => Inv0 layer m' ∧ SameData m m' ∧
    (HLow m.bf layer m.height n m.root.toList → HLow m.bf layer m'.height n m.root.toList))
    ?_ fuel m ⟨hi, ⟨rfl, rfl, rfl⟩, id⟩
  rintro m' ⟨hi', hd, -⟩ ⟨hsz, hcg⟩
  refine ⟨inv0_growStep layer hi', ⟨(toList_grow layer m'.height m'.root m'.height hi'.wf).trans hd.list,
    hd.size, hd.bf⟩, fun _ => Or.inr ⟨?_, ?_⟩⟩
  · show m.bf ^ (m'.height + 1) < n
    rw [← hd.bf, ← hi'.ga]; exact Nat.lt_of_le_of_lt hsz (hd.size ▸ hn)
  · obtain ⟨e, he, hlt⟩ := (canGrow_iff layer m'.height m'.root hi'.wf).mp hcg
    exact ⟨e, hd.list ▸ he, hlt⟩

/-- with enough fuel the loop stops because its condition is false -/
theorem growLoop_exit (fuel : Nat) (m : Tree) (hi : Inv0 layer m) (hb : m.size < 2 ^ (fuel + m.height)) :
    HUp m.bf layer (growLoop layer fuel m).height (m.size + 1) m.root.toList := by
  fun_induction growLoop layer fuel m with
  | case1 m =>
    rw [Nat.zero_add] at hb
    exact Or.inl (Nat.lt_of_lt_of_le hb (Nat.le_trans (Nat.pow_le_pow_right (by decide) (Nat.le_succ _))
      (Nat.pow_le_pow_left hi.bf2 _)))
  | case2 fuel m hc ih =>
    have := ih (inv0_growStep layer hi) (by rw [Nat.succ_add] at hb; exact hb)
    rwa [show (growStep layer m).root.toList = m.root.toList from
      toList_grow layer m.height m.root m.height hi.wf] at this
  | case3 fuel m hc =>
    by_cases hsz : m.size < m.bf ^ (m.height + 1)
    · exact Or.inl hsz
    · refine Or.inr (fun e he => Nat.le_of_not_lt (fun hlt => hc ⟨?_, ?_⟩))
      · rw [hi.ga]; exact Nat.le_of_not_lt hsz
      · exact (canGrow_iff layer m.height m.root hi.wf).mpr ⟨e, he, hlt⟩

theorem pow_div_self (bf h : Nat) (hbf : 0 < bf) : bf ^ (h + 1) / bf = bf ^ h := by
  rw [Nat.pow_succ, Nat.mul_div_cancel _ hbf]

theorem inv0_shrinkStep {m : Tree} (hi : Inv0 layer m) (hpos : m.height > 0) : Inv0 layer (shrinkStep m) := by
  obtain ⟨h', hh⟩ : ∃ h', m.height = h' + 1 := ⟨m.height - 1, (Nat.sub_add_cancel hpos).symm⟩
  have hbf : 0 < m.bf := Nat.zero_lt_of_lt hi.bf2
  have hsb1 : m.shrinkBelow > 1 := by rw [hi.sb, hh]; exact Nat.one_lt_pow (Nat.succ_ne_zero h') hi.bf2
  refine ⟨?_, (toList_shrink m.root).symm ▸ hi.sorted, hi.bf2, ?_, ?_⟩
  · show WF layer (m.height - 1) (shrink m.root)
    rw [hh]; exact shrink_WF layer h' m.root (hh ▸ hi.wf)
  · show (if m.shrinkBelow > 1 then m.growAfter / m.bf else m.growAfter) = m.bf ^ (m.height - 1 + 1)
    rw [if_pos hsb1, hi.ga, Nat.sub_add_cancel hpos, pow_div_self _ _ hbf]
  · show (if m.shrinkBelow > 1 then m.shrinkBelow / m.bf else m.shrinkBelow) = m.bf ^ (m.height - 1)
    rw [if_pos hsb1, hi.sb, hh, pow_div_self _ _ hbf]; rfl

theorem shrinkLoop_induct {P : Tree → Prop}
    (step : ∀ m, P m → m.height > 0 ∧ (m.size ≤ m.shrinkBelow ∨ topEntryless m.root = true) → P (shrinkStep m))
    (fuel : Nat) (m : Tree) (h : P m) : P (shrinkLoop fuel m) := by
  fun_induction shrinkLoop fuel m with
  | case1 m => exact h
  | case2 fuel m hc ih => exact ih (step m h hc)
  | case3 fuel m hc => exact h

/-- a step is taken only if `size ≤ bf^height` or no key reaches the top node -/
theorem shrinkLoop_spec (fuel : Nat) (m : Tree) (hi : Inv0 layer m) :
    Inv0 layer (shrinkLoop fuel m) ∧ SameData m (shrinkLoop fuel m) ∧
    (HUp m.bf layer m.height m.size m.root.toList →
      HUp m.bf layer (shrinkLoop fuel m).height m.size m.root.toList) := by
  refine shrinkLoop_induct (P := fun m' => Inv0 layer m' ∧ SameData m m' ∧
    (HUp m.bf layer m.height m.size m.root.toList → HUp m.bf layer m'.height m.size m.root.toList))
    ?_ fuel m ⟨hi, ⟨rfl, rfl, rfl⟩, id⟩
  rintro m' ⟨hi', hd, -⟩ ⟨hpos, hcond⟩
  refine ⟨inv0_shrinkStep layer hi' hpos, ⟨(toList_shrink m'.root).trans hd.list, hd.size, hd.bf⟩, fun _ => ?_⟩
  show m.size ≤ m.bf ^ (m'.height - 1 + 1) ∨ ∀ e ∈ m.root.toList, layer e.1 ≤ m'.height - 1
  rcases hcond with hsz | hless
  · rw [hi'.sb, hd.size, hd.bf] at hsz
    exact Or.inl (by rw [Nat.sub_add_cancel hpos]; exact hsz)
  · exact Or.inr (fun e he => Nat.le_sub_one_of_lt (topEntryless_low layer hi'.wf hless e (hd.list ▸ he)))

theorem shrinkLoop_exit (fuel : Nat) (m : Tree) (hi : Inv0 layer m) (hf : m.height < fuel) :
    HLow m.bf layer (shrinkLoop fuel m).height m.size m.root.toList := by
  fun_induction shrinkLoop fuel m with
  | case1 m => exact absurd hf (Nat.not_lt_zero _)
  | case2 fuel m hc ih =>
    have := ih (inv0_shrinkStep layer hi hc.1)
      (Nat.lt_of_lt_of_le (Nat.sub_one_lt (Nat.ne_of_gt hc.1)) (Nat.le_of_lt_succ hf))
    rwa [show (shrinkStep m).root.toList = m.root.toList from toList_shrink m.root] at this
  | case3 fuel m hc =>
    by_cases h0 : m.height = 0
    · exact Or.inl h0
    · have hpos : m.height > 0 := Nat.pos_of_ne_zero h0
      refine Or.inr ⟨Nat.lt_of_not_le (fun h => hc ⟨hpos, Or.inl (hi.sb ▸ h)⟩), ?_⟩
      cases ht : topEntryless m.root
      · exact topEntryless_key layer hi.wf ht
      · exact absurd ⟨hpos, Or.inr ht⟩ hc

theorem insert_ok {m m' : Tree} {k v : Nat} (h : insert layer m k v = .ok m') :
    m' = m ∨ ∃ r, ins k v (m.levels layer k) m.root = some r ∧
      (m' = { m with root := r, rootP := false, dirty := true } ∨
       m' = { growLoop layer (m.size + 1) { m with root := r, rootP := false, dirty := true } with
              size := m.size + 1 }) := by
  unfold insert at h
  split at h
  · split at h
    · exact Or.inl (Res.ok.inj h).symm
    · split at h
      · next r hr => exact Or.inr ⟨r, hr, Or.inl (Res.ok.inj h).symm⟩
      · cases h
  · split at h
    · cases h
    · next r hr => exact Or.inr ⟨r, hr, Or.inr (Res.ok.inj h).symm⟩

theorem delete_ok {m m' : Tree} {k v : Nat} (h : delete layer m k v = .ok m') :
    ∃ r, del k (m.levels layer k) m.root = some r ∧
      m' = shrinkLoop (m.height + 1) { m with root := r, rootP := false, dirty := true, size := m.size - 1 } := by
  unfold delete at h
  split at h
  · cases h
  · split at h
    · cases h
    · split at h
      · cases h
      · next r hr => exact ⟨r, hr, (Res.ok.inj h).symm⟩

theorem insert_spec_hok (m : Tree) (k v : Nat) (hi : Inv layer m) :
    ∃ m', insert layer m k v = .ok m' ∧ Inv layer m' ∧ m'.toList = insL k v m.toList ∧ m'.bf = m.bf ∧
      (HOK m.bf layer m.height m.toList → HOK m'.bf layer m'.height m'.toList) := by
  obtain ⟨tgt, h1, h2, h3⟩ := levels_spec layer m k
  obtain ⟨r, hr, hrl, hrw⟩ := ins_spec layer k v h2 m.root (m.levels layer k) (Or.inr (h1 ▸ hi.wf)) hi.sorted h3
  rw [h1] at hrw
  have hsrt : Sorted r.toList := hrl ▸ sorted_insL k v _ hi.sorted
  unfold insert
  rw [lookup_eq layer m k hi, hr]
  cases hg : getL k m.toList with
  | some v' =>
    by_cases hv : v' = v
    · subst hv
      exact ⟨m, if_pos rfl, hi, (insL_same _ hi.sorted hg).symm, rfl, id⟩
    · have hlen := length_insL_present (v := v) _ hi.sorted hg
      refine ⟨_, if_neg hv, ⟨hrw, hsrt, ?_, hi.bf2, hi.ga, hi.sb⟩, hrl, rfl, fun hh => ?_⟩
      · exact hi.size.trans (hlen.symm.trans (congrArg _ hrl.symm))
      · show HOK m.bf layer m.height r.toList
        rw [hrl]; exact HOK_insL_present hi.sorted hg hh
  | none =>
    have hlen : r.toList.length = m.size + 1 := by
      rw [hrl, length_insL_absent k v m.root.toList (getL_none_iff.mp hg), hi.size]
    have hi0 : Inv0 layer { m with root := r, rootP := false, dirty := true } :=
      ⟨hrw, hsrt, hi.bf2, hi.ga, hi.sb⟩
    obtain ⟨ginv, gd, glow⟩ := growLoop_spec layer (m.size + 1) _ hi0 (m.size + 1) (Nat.lt_succ_self _)
    have gup := growLoop_exit layer (m.size + 1) _ hi0 (Nat.lt_of_lt_of_le Nat.lt_two_pow_self
      (Nat.pow_le_pow_right (by decide) (Nat.le_trans (Nat.le_succ _) (Nat.le_add_right _ _))))
    refine ⟨_, rfl, ⟨ginv.wf, ginv.sorted, (gd.list ▸ hlen).symm, ginv.bf2, ginv.ga, ginv.sb⟩,
      gd.list.trans hrl, gd.bf, fun hh => ?_⟩
    obtain ⟨g2, -, g4⟩ := gd
    generalize growLoop layer (m.size + 1) _ = m1 at g2 g4 glow gup ⊢
    show HOK m1.bf layer m1.height m1.root.toList
    rw [g4, g2, HOK, hlen]
    refine ⟨glow (hh.1.imp_right (fun a => ⟨Nat.lt_succ_of_lt (hi.size ▸ a.1), ?_⟩)), gup⟩
    exact hrl ▸ key_mem_insL (P := fun x => m.height ≤ layer x) a.2

theorem insert_spec (m : Tree) (k v : Nat) (hi : Inv layer m) :
    ∃ m', insert layer m k v = .ok m' ∧ Inv layer m' ∧ m'.toList = insL k v m.toList ∧ m'.bf = m.bf :=
  let ⟨m', h1, h2, h3, h4, _⟩ := insert_spec_hok layer m k v hi
  ⟨m', h1, h2, h3, h4⟩

theorem delete_spec_hok (m : Tree) (k v : Nat) (hi : Inv layer m) (hpres : getL k m.toList = some v) :
    ∃ m', delete layer m k v = .ok m' ∧ Inv layer m' ∧ m'.toList = delL k m.toList ∧ m'.bf = m.bf ∧
      (HOK m.bf layer m.height m.toList → HOK m'.bf layer m'.height m'.toList) := by
  obtain ⟨tgt, h1, h2, h3⟩ := levels_spec layer m k
  have hl : m.lookup layer k = some v := (lookup_eq layer m k hi).trans hpres
  obtain ⟨r, hr⟩ := Option.isSome_iff_exists.mp (del_isSome_of_get k m.root (m.levels layer k) v hl)
  obtain ⟨hrl, hrw⟩ := del_spec layer k h2 m.root (m.levels layer k) (Or.inr (h1 ▸ hi.wf)) hi.sorted h3 r hr
  rw [h1] at hrw
  have hsrt : Sorted r.toList := hrl ▸ sorted_delL k _ hi.sorted
  have hlen : r.toList.length = m.size - 1 := by
    rw [hrl, hi.size, ← length_delL_present _ hi.sorted hpres]; rfl
  have hi0 : Inv0 layer { m with root := r, rootP := false, dirty := true, size := m.size - 1 } :=
    ⟨hrw, hsrt, hi.bf2, hi.ga, hi.sb⟩
  obtain ⟨ginv, ⟨g2, g3, g4⟩, gup⟩ := shrinkLoop_spec layer (m.height + 1) _ hi0
  have glow := shrinkLoop_exit layer (m.height + 1) _ hi0 (Nat.lt_succ_self _)
  unfold delete
  rw [hl, hr]
  refine ⟨_, if_neg (not_not_intro rfl), ⟨ginv.wf, ginv.sorted, g3.trans (g2 ▸ hlen).symm, ginv.bf2, ginv.ga, ginv.sb⟩,
    g2.trans hrl, g4, fun hh => ?_⟩
  generalize shrinkLoop (m.height + 1) _ = m1 at g2 g4 gup glow ⊢
  show HOK m1.bf layer m1.height m1.root.toList
  rw [g4, g2, HOK, hlen]
  refine ⟨glow, gup (hh.2.imp (fun b => Nat.le_trans (Nat.sub_le _ _) (hi.size ▸ b)) (fun b e he => ?_))⟩
  exact b e (mem_delL (hrl ▸ he))

theorem delete_spec (m : Tree) (k v : Nat) (hi : Inv layer m) (hpres : getL k m.toList = some v) :
    ∃ m', delete layer m k v = .ok m' ∧ Inv layer m' ∧ m'.toList = delL k m.toList ∧ m'.bf = m.bf :=
  let ⟨m', h1, h2, h3, h4, _⟩ := delete_spec_hok layer m k v hi hpres
  ⟨m', h1, h2, h3, h4⟩

/-- the functional model leaves the tree as it was when a call fails -/
theorem delete_absent (m : Tree) (k v : Nat) (hi : Inv layer m) (habs : getL k m.toList ≠ some v) :
    ∃ e, delete layer m k v = .err e := by
  unfold delete
  rw [lookup_eq layer m k hi]
  cases hg : getL k m.toList with
  | none => exact ⟨_, rfl⟩
  | some v' => exact ⟨_, if_pos (fun h : v' = v => habs (h ▸ hg))⟩

end Tree
end Mast
