import Mastverif.Lemmas.Incr
/-!
# What hangs below a persisted link is never touched

`TL P t`: every child link of the row `t` is nil, or a *name* whose subtree satisfies `P`, or an
in-memory node for which the same holds below.  Insert, Delete, grow and shrink only carry
persisted links around (new nodes get in-memory links), so `TL P` is an invariant for every
hereditary `P` (`P c → TL P c`).  With `P c := c is entirely persisted, and its name and every
name below are in the store` this gives the sequential half of C03: after every history, what a
successful `MakeRoot` returns is completely in the store.
-/
namespace Mast
namespace T

/-- `TL` (true links), see the head of the file -/
def TL (P : T → Prop) : T → Prop
  | nil => True
  | last p c => c.isNil = true ∨ (p = true ∧ P c) ∨ (p = false ∧ TL P c)
  | cons p c _ _ r => (c.isNil = true ∨ (p = true ∧ P c) ∨ (p = false ∧ TL P c)) ∧ TL P r

theorem TL_mono {P Q : T → Prop} (hpq : ∀ c, P c → Q c) : ∀ t : T, TL P t → TL Q t := by
  intro t
  induction t with
  | nil => intro _; trivial
  | last p c ih => intro (h : Lnk P (TL P) p c); exact show Lnk Q (TL Q) p c from h.imp (hpq c) ih
  | cons p c k v r ihc ihr =>
    intro (h : Lnk P (TL P) p c ∧ TL P r)
    exact ⟨show Lnk Q (TL Q) p c from h.1.imp (hpq c) ihc, ihr h.2⟩

variable {P : T → Prop} (her : ∀ c, P c → TL P c)
include her

theorem TL_child {p : Bool} {c : T} (h : Lnk P (TL P) p c) : TL P c :=
  h.elim (C := TL P) trivial (her c) id

omit her in
theorem TL_mk {t : T} (h : TL P t) : TL P (mk t) := by
  unfold mk; split
  · trivial
  · exact h

omit her in
theorem TL_unmk {t : T} (h : TL P t) : TL P (unmk t) := by
  unfold unmk; split
  · exact Or.inl rfl
  · exact h

omit her in
theorem TL_new {c : T} (h : TL P c) : Lnk P (TL P) false c := Lnk.mem h

theorem split_TL (x : Nat) (t : T) : TL P t → TL P (split t x).1 ∧ TL P (split t x).2 := by
  fun_induction split t x with
  | case1 x => intro _; exact ⟨trivial, trivial⟩
  | case2 p c x q ih =>
    intro h
    have ⟨i1, i2⟩ := ih (TL_child her h)
    exact ⟨TL_new (TL_mk i1), TL_new (TL_mk i2)⟩
  | case3 p c k v r x _ q ih =>
    intro h
    have ⟨i1, i2⟩ := ih h.2
    exact ⟨⟨h.1, i1⟩, i2⟩
  | case4 p c k v r x _ q ih =>
    intro h
    have ⟨i1, i2⟩ := ih (TL_child her h.1)
    exact ⟨TL_new (TL_mk i1), TL_new (TL_mk i2), h.2⟩

theorem split_TLink {x : Nat} {p : Bool} {c : T} (h : Lnk P (TL P) p c) :
    Lnk P (TL P) false (mk (split c x).1) ∧ Lnk P (TL P) false (mk (split c x).2) :=
  have ⟨i1, i2⟩ := split_TL her x c (TL_child her h)
  ⟨TL_new (TL_mk i1), TL_new (TL_mk i2)⟩

omit her in
theorem fresh_TL (k v : Nat) : ∀ s, TL P (freshPath s k v) := by
  intro s
  induction s with
  | zero => exact ⟨Or.inl rfl, Or.inl rfl⟩
  | succ s ih => exact TL_new ih

theorem ins_TL (k v : Nat) (t : T) (s : Nat) : ∀ t' : T, TL P t → ins k v s t = some t' → TL P t' := by
  fun_induction ins k v s t with
  | case1 s => intro t' _ he; cases he; exact fresh_TL k v s
  | case2 p c q => intro t' h he; cases he; exact split_TLink her h
  | case3 p c k' v' r _ ih | case7 s p c k' v' r _ ih =>
    intro t' h he
    obtain ⟨r', hr, rfl⟩ := Option.map_eq_some_iff.mp he
    exact ⟨h.1, ih r' h.2 hr⟩
  | case4 p c v' r => intro t' h he; cases he; exact h
  | case5 p c k' v' r _ _ q =>
    intro t' h he
    cases he
    have ⟨i1, i2⟩ := split_TLink her (x := k) h.1
    exact ⟨i1, i2, h.2⟩
  | case6 s p c ih =>
    intro t' h he
    obtain ⟨c', hc, rfl⟩ := Option.map_eq_some_iff.mp he
    exact TL_new (ih c' (TL_child her h) hc)
  | case8 => intro _ _ he; cases he
  | case9 s p c k' v' r _ _ ih =>
    intro t' h he
    obtain ⟨c', hc, rfl⟩ := Option.map_eq_some_iff.mp he
    exact ⟨TL_new (ih c' (TL_child her h.1) hc), h.2⟩

theorem mergeRow_TL (a b : T) : TL P a → TL P b → TL P (mergeRow a b) := by
  fun_induction mergeRow a b with
  | case1 b | case4 | case7 => intro _ hb; exact hb
  | case2 p c k v rest b ih => intro ha hb; exact ⟨ha.1, ih ha.2 hb⟩
  | case3 | case5 => intro ha _; exact ha
  | case6 p c p2 c2 _ _ ih => intro ha hb; exact TL_new (ih (TL_child her ha) (TL_child her hb))
  | case8 => intro ha hb; exact ⟨ha, hb.2⟩
  | case9 p c p2 c2 k2 v2 r2 _ _ ih =>
    intro ha hb
    exact ⟨TL_new (ih (TL_child her ha) (TL_child her hb.1)), hb.2⟩

theorem joinAt_TL (p : Bool) (c : T) : ∀ (r : T), TL P (last p c) → TL P r → TL P (joinAt p c r) := by
  intro r ha hb
  by_cases hr : r = nil
  · subst hr; trivial
  · rw [joinAt_eq_mergeRow p c hr]
    exact mergeRow_TL her (last p c) r ha hb

theorem del_TL (k : Nat) (t : T) (s : Nat) : ∀ t' : T, TL P t → del k s t = some t' → TL P t' := by
  fun_induction del k s t with
  | case1 | case2 | case5 | case8 => intro _ _ he; cases he
  | case3 p c k' v' r _ ih | case7 s p c k' v' r _ ih =>
    intro t' h he
    obtain ⟨r', hr, rfl⟩ := Option.map_eq_some_iff.mp he
    exact ⟨h.1, ih r' h.2 hr⟩
  | case4 p c v' r => intro t' h he; cases he; exact joinAt_TL her p c r h.1 h.2
  | case6 s p c ih =>
    intro t' h he
    obtain ⟨c', hc, rfl⟩ := Option.map_eq_some_iff.mp he
    exact TL_new (TL_mk (ih c' (TL_child her h) hc))
  | case9 s p c k' v' r _ _ ih =>
    intro t' h he
    obtain ⟨c', hc, rfl⟩ := Option.map_eq_some_iff.mp he
    exact ⟨TL_new (TL_mk (ih c' (TL_child her h.1) hc)), h.2⟩

omit her in
theorem snoc_TL (k v : Nat) (rest : T) : ∀ c : T, TL P c → TL P rest → TL P (snoc k v rest c) := by
  intro c
  induction c with
  | nil => intro _ hr; exact ⟨Or.inl rfl, hr⟩
  | last p x _ => intro hc hr; exact ⟨hc, hr⟩
  | cons p x k' v' r _ ihr => intro hc hr; exact ⟨hc.1, ihr hc.2 hr⟩

theorem shrink_TL : ∀ t : T, TL P t → TL P (shrink t) := by
  intro t
  induction t with
  | nil => intro _; trivial
  | last p c _ => intro h; exact TL_unmk (TL_child her h)
  | cons p c k v r _ ihr => intro h; exact snoc_TL k v _ c (TL_child her h.1) (ihr h.2)

theorem prepend_TL (p : Bool) (c : T) (k v : Nat) (hl : Lnk P (TL P) p c) :
    ∀ g : T, TL P g → TL P (prepend p c k v g) := by
  intro g hg
  cases g with
  | nil => trivial
  | last q ch => exact TL_new ⟨hl, TL_unmk (TL_child her hg)⟩
  | cons q ch k2 v2 r2 => exact ⟨TL_new ⟨hl, TL_unmk (TL_child her hg.1)⟩, hg.2⟩

theorem grow_TL (layer : Nat → Nat) (h0 : Nat) : ∀ t : T, TL P t → TL P (grow layer h0 t) := by
  intro t
  induction t with
  | nil => intro _; trivial
  | last p c _ => intro h; exact TL_new (TL_mk h)
  | cons p c k v r _ ihr =>
    intro h
    simp only [grow]
    split
    · exact ⟨TL_new (TL_mk (show TL P (last p c) from h.1)), ihr h.2⟩
    · exact prepend_TL her p c k v h.1 _ (ihr h.2)

end T
end Mast
