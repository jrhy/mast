import Mastverif.Lemmas.Basic
/-!
# The shape invariant `WF` and its uniqueness theorem

`WF layer d t`: the node row `t` sits at level `d`; its keys have layer ≥ `d`; each child is
absent or a non-empty well-formed node one level down, all of whose keys have layer < `d`.
Together with sortedness this is the Merkle-search-tree shape of property C09, and
`WF_unique` (a tree is determined by its level and its entries) is the core of C04.
`descent_induction` is the case analysis that `get`, `ins` and `del` share.
-/
namespace Mast
namespace T
variable (layer : Nat → Nat)

def isEmptyRow : T → Bool
  | last _ nil => true
  | _ => false

theorem mk_of_not_empty {t : T} (h : isEmptyRow t = false) : mk t = t := by
  unfold mk; split
  · cases h
  · rfl

theorem mk_of_empty {t : T} (h : isEmptyRow t = true) : mk t = nil := by
  unfold isEmptyRow at h; split at h
  · rfl
  · cases h

theorem isEmptyRow_of_toList_ne {t : T} (h : toList t ≠ []) : isEmptyRow t = false := by
  unfold isEmptyRow; split
  · exact absurd rfl h
  · rfl

def WF : Nat → T → Prop
  | _, nil => False
  | d, last _ c =>
      c = nil ∨ (∃ d', d = d'+1 ∧ isEmptyRow c = false ∧ WF d' c ∧ ∀ e ∈ toList c, layer e.1 < d)
  | d, cons _ c k _ r =>
      d ≤ layer k ∧ WF d r ∧
      (c = nil ∨ (∃ d', d = d'+1 ∧ isEmptyRow c = false ∧ WF d' c ∧ ∀ e ∈ toList c, layer e.1 < d))

/-- the child-link clause of `WF` -/
abbrev ChildOK (d : Nat) (c : T) : Prop :=
  c = nil ∨ (∃ d', d = d'+1 ∧ isEmptyRow c = false ∧ WF layer d' c ∧ ∀ e ∈ toList c, layer e.1 < d)

theorem WF_last_iff {d p c} : WF layer d (last p c) ↔ ChildOK layer d c := by simp only [WF]
theorem WF_cons_iff {d p c k v r} : WF layer d (cons p c k v r) ↔
    d ≤ layer k ∧ WF layer d r ∧ ChildOK layer d c := by simp only [WF]

theorem WF_ne_nil {d : Nat} {t : T} (h : WF layer d t) : t ≠ nil := by
  rintro rfl; exact h

theorem childOK_succ {d : Nat} {c : T} : ChildOK layer (d + 1) c ↔
    c = nil ∨ (isEmptyRow c = false ∧ WF layer d c ∧ ∀ e ∈ toList c, layer e.1 < d + 1) := by
  constructor
  · rintro (h | ⟨d', hd, h⟩)
    · exact Or.inl h
    · obtain rfl := Nat.add_right_cancel hd; exact Or.inr h
  · rintro (h | h)
    · exact Or.inl h
    · exact Or.inr ⟨d, rfl, h⟩

theorem childOK_zero {c : T} (h : ChildOK layer 0 c) : c = nil := by
  rcases h with h | ⟨d', hd, _⟩
  · exact h
  · cases hd

theorem ChildOK.wf {d : Nat} {c : T} (hc : ChildOK layer (d + 1) c) (hne : c ≠ nil) : WF layer d c :=
  (((childOK_succ layer).mp hc).resolve_left hne).2.1

theorem childOK_of {d : Nat} {c : T} (hw : WF layer d c) (hne : toList c ≠ [])
    (hl : ∀ e ∈ toList c, layer e.1 < d + 1) : ChildOK layer (d + 1) c :=
  Or.inr ⟨d, rfl, isEmptyRow_of_toList_ne hne, hw, hl⟩

theorem childOK_mk {d : Nat} {q : T} (hq : WF layer d q)
    (hl : ∀ e ∈ toList q, layer e.1 < d + 1) : ChildOK layer (d + 1) (mk q) := by
  cases h : isEmptyRow q
  · rw [mk_of_not_empty h]; exact Or.inr ⟨d, rfl, h, hq, hl⟩
  · exact Or.inl (mk_of_empty h)

theorem child_low {d c} (hc : ChildOK layer d c) : ∀ x ∈ toList c, layer x.1 < d := by
  intro x hx
  rcases hc with rfl | ⟨d', _, _, _, hl⟩
  · cases hx
  · exact hl x hx

theorem child_not_mem {d : Nat} {c : T} (hc : ChildOK layer d c) {k : Nat} (hk : d ≤ layer k) :
    ∀ e ∈ toList c, e.1 ≠ k := by
  rintro e he rfl
  exact Nat.not_le_of_lt (child_low layer hc e he) hk

theorem toList_ne_nil {d t} (h : WF layer d t) (hne : isEmptyRow t = false) : toList t ≠ [] := by
  induction t generalizing d with
  | nil => exact h.elim
  | last p c ih =>
    rcases h with rfl | ⟨d', _, hne', hw, _⟩
    · cases hne
    · exact ih hw hne'
  | cons p c k v r _ _ => exact List.append_ne_nil_of_right_ne_nil _ (List.cons_ne_nil _ _)

theorem append_cons_unique {α} (P : α → Prop) :
    ∀ (l1 l2 m1 m2 : List α) (a b : α),
    (∀ x ∈ l1, ¬ P x) → (∀ x ∈ l2, ¬ P x) → P a → P b →
    l1 ++ a :: m1 = l2 ++ b :: m2 → l1 = l2 ∧ a = b ∧ m1 = m2 := by
  intro l1
  induction l1 with
  | nil =>
    intro l2 m1 m2 a b _ h2 ha _ e
    cases l2 with
    | nil => cases e; exact ⟨rfl, rfl, rfl⟩
    | cons x l2 => cases e; exact absurd ha (h2 _ List.mem_cons_self)
  | cons y l1 ih =>
    intro l2 m1 m2 a b h1 h2 ha hb e
    cases l2 with
    | nil => cases e; exact absurd hb (h1 _ List.mem_cons_self)
    | cons x l2 =>
      injection e with e1 e2
      obtain ⟨h, hab, hm⟩ := ih l2 m1 m2 a b (fun z hz => h1 z (List.mem_cons_of_mem _ hz))
        (fun z hz => h2 z (List.mem_cons_of_mem _ hz)) ha hb e2
      exact ⟨by rw [e1, h], hab, hm⟩

theorem child_unique {d c1 c2} (h1 : ChildOK layer d c1) (h2 : ChildOK layer d c2)
    (ih : ∀ d', WF layer d' c1 → WF layer d' c2 → toList c1 = toList c2 → erase c1 = erase c2)
    (e : toList c1 = toList c2) : erase c1 = erase c2 := by
  rcases h1 with rfl | ⟨d1, hd1, n1, w1, _⟩ <;> rcases h2 with rfl | ⟨d2, hd2, n2, w2, _⟩
  · rfl
  · exact absurd e.symm (toList_ne_nil layer w2 n2)
  · exact absurd e (toList_ne_nil layer w1 n1)
  · obtain rfl : d1 = d2 := Nat.add_right_cancel (hd1.symm.trans hd2)
    exact ih d1 w1 w2 e

/-- The keys of a node are the entries of layer ≥ d, so equal entry lists decompose in the same way
    (`append_cons_unique`). -/
theorem WF_unique : ∀ (t1 t2 : T) (d : Nat), WF layer d t1 → WF layer d t2 →
    toList t1 = toList t2 → erase t1 = erase t2 := by
  intro t1
  induction t1 with
  | nil => intro t2 d h1; exact h1.elim
  | last p1 c1 ih =>
    intro t2 d h1 h2 e
    cases t2 with
    | nil => exact h2.elim
    | last p2 c2 =>
      simp only [erase]
      rw [child_unique layer h1 h2 (fun d' => ih c2 d') e]
    | cons p2 c2 k v r2 =>
      have hmem : (k, v) ∈ toList c1 := e ▸ List.mem_append_right _ List.mem_cons_self
      exact absurd h2.1 (Nat.not_le_of_lt (child_low layer h1 _ hmem))
  | cons p1 c1 k1 v1 r1 ihc ihr =>
    intro t2 d h1 h2 e
    cases t2 with
    | nil => exact h2.elim
    | last p2 c2 =>
      have hmem : (k1, v1) ∈ toList c2 := e ▸ List.mem_append_right _ List.mem_cons_self
      exact absurd h1.1 (Nat.not_le_of_lt (child_low layer h2 _ hmem))
    | cons p2 c2 k2 v2 r2 =>
      obtain ⟨hk1, hr1, hc1⟩ := h1
      obtain ⟨hk2, hr2, hc2⟩ := h2
      obtain ⟨ec, ekv, er⟩ := append_cons_unique (fun x : Nat × Nat => d ≤ layer x.1)
        _ _ _ _ _ _ (fun x hx => Nat.not_le_of_lt (child_low layer hc1 x hx))
        (fun x hx => Nat.not_le_of_lt (child_low layer hc2 x hx)) hk1 hk2 e
      cases ekv
      simp only [erase, ihr r2 d hr1 hr2 er, child_unique layer hc1 hc2 (fun d' => ihc c2 d') ec]

theorem childOK_split_of {d x : Nat} {c : T}
    (ih : ∀ d, WF layer d c → WF layer d (split c x).1 ∧ WF layer d (split c x).2) (hc : ChildOK layer d c) :
    ChildOK layer d (mk (split c x).1) ∧ ChildOK layer d (mk (split c x).2) := by
  rcases hc with rfl | ⟨d', rfl, hne, hw, hl⟩
  · exact ⟨Or.inl rfl, Or.inl rfl⟩
  · have m := mem_split c x
    exact ⟨childOK_mk layer (ih d' hw).1 (fun e he => hl e ((m e).1 he)),
      childOK_mk layer (ih d' hw).2 (fun e he => hl e ((m e).2 he))⟩

theorem split_WF (t : T) (d x : Nat) (h : WF layer d t) :
    WF layer d (split t x).1 ∧ WF layer d (split t x).2 := by
  fun_induction split t x generalizing d with
  | case1 => exact h.elim
  | case2 p c x q ih => exact childOK_split_of layer ih h
  | case3 p c k v r x hlt q ih => exact ⟨⟨h.1, (ih d h.2.1).1, h.2.2⟩, (ih d h.2.1).2⟩
  | case4 p c k v r x hge q ih =>
    exact ⟨(childOK_split_of layer ih h.2.2).1, h.1, h.2.1, (childOK_split_of layer ih h.2.2).2⟩

theorem childOK_split {d : Nat} {c : T} (x : Nat) (hc : ChildOK layer d c) :
    ChildOK layer d (mk (split c x).1) ∧ ChildOK layer d (mk (split c x).2) :=
  childOK_split_of layer (fun d => split_WF layer c d x) hc

theorem isEmptyRow_freshPath (s k v) : isEmptyRow (freshPath s k v) = false :=
  isEmptyRow_of_toList_ne (by rw [toList_freshPath]; exact List.cons_ne_nil _ _)

theorem freshPath_WF (k v) : ∀ s tgt, tgt ≤ layer k → (layer k ≤ tgt ∨ s = 0) →
    WF layer (tgt + s) (freshPath s k v) := by
  intro s
  induction s with
  | zero => intro tgt h _; exact ⟨h, Or.inl rfl, Or.inl rfl⟩
  | succ s ih =>
    intro tgt h h2
    have hk : layer k ≤ tgt := h2.resolve_right (Nat.succ_ne_zero s)
    refine childOK_of layer (ih tgt h (Or.inl hk)) ?_ ?_
    · rw [toList_freshPath]; exact List.cons_ne_nil _ _
    · intro e he
      rw [toList_freshPath, List.mem_singleton] at he
      subst he
      exact Nat.lt_succ_of_le (Nat.le_trans hk (Nat.le_add_right tgt s))

theorem isEmptyRow_erase (t : T) : isEmptyRow (erase t) = isEmptyRow t := by
  cases t with
  | nil => rfl
  | last p c => cases c <;> rfl
  | cons p c k v r => rfl

theorem erase_eq_nil {t : T} : erase t = nil ↔ t = nil := by
  rw [← isNil_iff, isNil_erase, isNil_iff]

theorem WF_erase : ∀ (t : T) (d : Nat), WF layer d (erase t) ↔ WF layer d t := by
  have link : ∀ {c : T}, (∀ d, WF layer d (erase c) ↔ WF layer d c) →
      ∀ d, ChildOK layer d (erase c) ↔ ChildOK layer d c := by
    intro c ih d
    simp only [ChildOK, erase_eq_nil, isEmptyRow_erase, toList_erase, ih]
  intro t
  induction t with
  | nil => intro d; rfl
  | last p c ih => intro d; exact link ih d
  | cons p c k v r ihc ihr =>
    intro d
    simp only [erase, WF_cons_iff, ihr d, link ihc d]

theorem WF_persistAll (t : T) (d : Nat) : WF layer d (persistAll t) ↔ WF layer d t := by
  rw [← WF_erase layer (persistAll t), erase_persistAll, WF_erase]

/-! ## Solid rows -/

/-- no child link leads to an entry-less childless node, recursively (`WF` guarantees it) -/
def Solid : T → Prop
  | nil => True
  | last _ c => (c.isNil = true ∨ isEmptyRow c = false) ∧ Solid c
  | cons _ c _ _ r => (c.isNil = true ∨ isEmptyRow c = false) ∧ Solid c ∧ Solid r

theorem solid_child {layer : Nat → Nat} {d : Nat} {c : T} (hc : ChildOK layer d c)
    (ih : ∀ d', WF layer d' c → Solid c) : (c.isNil = true ∨ isEmptyRow c = false) ∧ Solid c := by
  rcases hc with rfl | ⟨d', _, hne, hw, _⟩
  · exact ⟨Or.inl rfl, trivial⟩
  · exact ⟨Or.inr hne, ih d' hw⟩

theorem solid_of_WF (layer : Nat → Nat) : ∀ (t : T) (d : Nat), WF layer d t → Solid t := by
  intro t
  induction t with
  | nil => intro d h; exact h.elim
  | last p c ih => intro d h; exact solid_child ((WF_last_iff layer).mp h) ih
  | cons p c k v r ihc ihr =>
    intro d h
    obtain ⟨_, hr, hc⟩ := (WF_cons_iff layer).mp h
    exact ⟨(solid_child hc ihc).1, (solid_child hc ihc).2, ihr d hr⟩

/-- a solid node that is neither absent nor empty: every descent from it ends at an entry -/
def Full (t : T) : Prop := Solid t ∧ isEmptyRow t = false ∧ t.isNil = false

theorem full_of_WF {layer : Nat → Nat} {d : Nat} {root : T} (hw : WF layer d root) (hne : isEmptyRow root = false) :
    Full root := by
  refine ⟨solid_of_WF layer root d hw, hne, ?_⟩
  cases root with
  | nil => exact hw.elim
  | last p c => rfl
  | cons p c k v r => rfl

theorem toList_ne_nil_of_solid : ∀ (t : T), Solid t → isEmptyRow t = false → t.isNil = false → toList t ≠ [] := by
  intro t
  induction t with
  | nil => intro _ _ h; cases h
  | last p c ih =>
    intro hs he _
    cases c with
    | nil => cases he
    | last q d => exact ih hs.2 (hs.1.resolve_left nofun) rfl
    | cons q d k v r => exact ih hs.2 (hs.1.resolve_left nofun) rfl
  | cons p c k v r _ _ => exact fun _ _ _ h => List.cons_ne_nil _ _ (List.append_eq_nil_iff.mp h).2

/-- levels below a link -/
def lvl : T → Nat
  | nil => 0
  | last _ c => if c.isNil then 0 else lvl c + 1
  | cons _ c _ _ r => max (if c.isNil then 0 else lvl c + 1) (lvl r)

theorem lvl_last (p : Bool) (c : T) (h : c.isNil = false) : lvl (last p c) = lvl c + 1 := by
  simp only [lvl, h, Bool.false_eq_true, if_false]

theorem lvl_last_le_cons (p : Bool) (c : T) (k v : Nat) (r : T) : lvl (last p c) ≤ lvl (cons p c k v r) :=
  Nat.le_max_left _ _

theorem lvl_le_cons (p : Bool) (c : T) (k v : Nat) (r : T) : lvl r ≤ lvl (cons p c k v r) :=
  Nat.le_max_right _ _

theorem lvl_cons_ge (p : Bool) (c : T) (k v : Nat) (r : T) (h : c.isNil = false) :
    lvl c + 1 ≤ lvl (cons p c k v r) :=
  lvl_last p c h ▸ lvl_last_le_cons p c k v r

theorem lvl_last_le (p : Bool) (c : T) : lvl (last p c) ≤ lvl c + 1 := by
  show (if c.isNil then 0 else lvl c + 1) ≤ lvl c + 1
  split
  · exact Nat.zero_le _
  · exact Nat.le_refl _

theorem lvl_link_le {layer : Nat → Nat} {d : Nat} {c : T} (p : Bool) (hc : ChildOK layer d c)
    (ih : ∀ d', WF layer d' c → lvl c ≤ d') : lvl (last p c) ≤ d := by
  rcases hc with rfl | ⟨d', rfl, _, hw, _⟩
  · exact Nat.zero_le _
  · exact Nat.le_trans (lvl_last_le p c) (Nat.succ_le_succ (ih d' hw))

theorem lvl_le_of_WF (layer : Nat → Nat) : ∀ (t : T) (d : Nat), WF layer d t → lvl t ≤ d := by
  intro t
  induction t with
  | nil => intro d h; exact h.elim
  | last p c ih => intro d h; exact lvl_link_le p ((WF_last_iff layer).mp h) ih
  | cons p c k v r ihc ihr =>
    intro d h
    obtain ⟨_, hr, hc⟩ := (WF_cons_iff layer).mp h
    exact Nat.max_le.mpr ⟨lvl_link_le p hc ihc, ihr d hr⟩

/-! ## The descent of `findNode`

`Get`, `Insert` and `Delete` reach a key along the same path: to the right inside a node while the
node's key is smaller, down the child link left of the first larger key, until the key's level. -/

/-- what `WF` and `Sorted` say about a node row `cons _ c k _ r` of level `d` -/
structure ConsOK (d : Nat) (c : T) (k : Nat) (r : T) : Prop where
  key : d ≤ layer k
  rest : WF layer d r
  child : ChildOK layer d c
  sc : Sorted (toList c)
  sr : Sorted (toList r)
  lt : ∀ e ∈ toList c, e.1 < k
  gt : ∀ e ∈ toList r, k < e.1

theorem ConsOK.child_lt {d : Nat} {c : T} {k' : Nat} {r : T} (h : ConsOK layer d c k' r) {k : Nat}
    (hlt : k' < k) : ∀ e ∈ toList c, e.1 < k :=
  fun e he => Nat.lt_trans (h.lt e he) hlt

theorem ConsOK.tail_gt {d : Nat} {c : T} {k' : Nat} {r : T} (h : ConsOK layer d c k' r) {k : Nat}
    (hgt : k < k') (v' : Nat) : ∀ e ∈ (k', v') :: toList r, k < e.1 :=
  List.forall_mem_cons.mpr ⟨hgt, fun e he => Nat.lt_trans hgt (h.gt e he)⟩

/-- Induction along the descent.  The key `k` has target level `tgt` (`tgt ≤ layer k`, and
    `layer k ≤ tgt` unless the descent is at the top node already: there the keys of higher
    layers live, too); `motive s t` speaks of the link `t` met `s` levels above the target. -/
theorem descent_induction {k tgt : Nat} (hk : tgt ≤ layer k) {motive : Nat → T → Prop}
    (absent : ∀ s, layer k ≤ tgt ∨ s = 0 → motive s nil)
    (last_here : ∀ p c, ChildOK layer tgt c → Sorted (toList c) → (∀ e ∈ toList c, e.1 ≠ k) →
      motive 0 (last p c))
    (last_down : ∀ s p c, layer k < tgt + s + 1 → ChildOK layer (tgt + s + 1) c → Sorted (toList c) →
      motive s c → motive (s + 1) (last p c))
    (cons_lt : ∀ s p c k' v' r, ConsOK layer (tgt + s) c k' r → k' < k →
      motive s r → motive s (cons p c k' v' r))
    (cons_eq : ∀ p c v' r, ConsOK layer tgt c k r → motive 0 (cons p c k v' r))
    (cons_gt_here : ∀ p c k' v' r, ConsOK layer tgt c k' r → k < k' → (∀ e ∈ toList c, e.1 ≠ k) →
      motive 0 (cons p c k' v' r))
    (cons_gt_down : ∀ s p c k' v' r, ConsOK layer (tgt + s + 1) c k' r → k < k' → layer k < tgt + s + 1 →
      motive s c → motive (s + 1) (cons p c k' v' r)) :
    ∀ (t : T) (s : Nat), t = nil ∨ WF layer (tgt + s) t → Sorted (toList t) →
      layer k ≤ tgt ∨ s = 0 → motive s t := by
  have link : ∀ {d : Nat} {c : T}, ChildOK layer (d + 1) c → c = nil ∨ WF layer d c :=
    fun hc => ((childOK_succ layer).mp hc).imp_right (·.2.1)
  have below : ∀ s, layer k ≤ tgt → layer k < tgt + s + 1 :=
    fun s h => Nat.lt_succ_of_le (Nat.le_trans h (Nat.le_add_right tgt s))
  intro t
  induction t with
  | nil => intro s _ _ hs; exact absent s hs
  | last p c ih =>
    intro s hw hsrt hs
    have hc : ChildOK layer (tgt + s) c := hw.resolve_left nofun
    cases s with
    | zero => exact last_here p c hc hsrt (child_not_mem layer hc hk)
    | succ s =>
      have hkl := hs.resolve_right (Nat.succ_ne_zero s)
      exact last_down s p c (below s hkl) hc hsrt (ih s (link hc) hsrt (Or.inl hkl))
  | cons p c k' v' r ihc ihr =>
    intro s hw hsrt hs
    obtain ⟨hk', hr, hc⟩ : WF layer (tgt + s) (cons p c k' v' r) := hw.resolve_left nofun
    obtain ⟨hsc, hsr, hlt, hgt⟩ := sorted_cons_parts hsrt
    have h : ConsOK layer (tgt + s) c k' r := ⟨hk', hr, hc, hsc, hsr, hlt, hgt⟩
    rcases Nat.lt_trichotomy k' k with hlt | rfl | hgt
    · exact cons_lt s p c k' v' r h hlt (ihr s (Or.inr hr) hsr hs)
    · cases s with
      | zero => exact cons_eq p c v' r h
      | succ s =>
        -- the key of a node above level `tgt` has a layer above `tgt`
        have hkl := hs.resolve_right (Nat.succ_ne_zero s)
        have : tgt + s < tgt := Nat.le_trans hk' hkl
        exact absurd (Nat.le_add_right tgt s) (Nat.not_le_of_lt this)
    · cases s with
      | zero => exact cons_gt_here p c k' v' r h hgt (child_not_mem layer hc hk)
      | succ s =>
        have hkl := hs.resolve_right (Nat.succ_ne_zero s)
        exact cons_gt_down s p c k' v' r h hgt (below s hkl) (ihc s (link hc) hsc (Or.inl hkl))

end T
end Mast
