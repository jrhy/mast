import Mastverif.Lemmas.RefDelSys
import Mastverif.Lemmas.PtrGo
import Mastverif.Lemmas.History
import Mastverif.Lemmas.RefHistExample
import Mastverif.Lemmas.RefIterEntries
/-!
# C01 at the level of node objects (property theorems)

`Props/C01.lean` proves the map semantics of the *functional* tree model.  The theorems here carry
it over to the *object-level* transcription of the code (`Model/Ptr.lean`: a heap of `*mastNode`
objects with `dirty / shared / source` flags, copy-on-write through `ToMut`, in-place edits of the
path, pointer and name links, a node cache, counted and failing store loads) — the model whose
object graph the `ptr` family compares with the implementation's after every operation.

`repTree s g t = some A` says: the objects reachable from the tree record `t` in state `s` are
valid nodes, the unshared ones among them form a tree (no aliasing), and they denote the
functional tree `A` (every field of the record, every residency flag).  Then

* `C01_object_level_lookup`: `Get` returns what `Tree.lookup` returns on `A`; it changes nothing
  (also when a load fails);
* `C01_object_level_insert`: a successful `Insert` (locate, split, in-place commit along the path,
  growth loop) leaves objects that denote exactly `Tree.insert A k v`; every side condition is
  re-established, so the statement iterates along a history;
* `C01_object_level_delete` (+ `_last_entry`, `_absent`): the same for `Delete` (locate, merge of
  the neighbouring children, in-place commit with pruning, height reduction);
* `C01_object_level_other_trees`: every other tree over the same heap, store and cache denotes
  what it denoted (whether the call succeeds or fails);
* `C01_object_level_persist / _load / _clone`: `MakeRoot`, `LoadMast`, `Clone`;
* `C01_object_level_iterate`: `Iter` (`node.iter` over the objects, every child loaded through the
  store / cache, any pattern of failing loads) hands to its callback exactly the entries of `A` in
  ascending position order, each once, and is an allocation-only step (every tree denotes what it
  denoted); `C01_object_level_iterate_is_the_history_step`: on the state it is the walk that
  `Sys.apply` performs for an `.iter` call;
* `C01_object_level_history` (+ `_from_empty`): the statement along a whole `Sys.run` history of any
  number of trees over one heap, store and cache;
* `C01_object_level_insert_then_lookup`: the consequences with
  `Props/C01.lean`: on a well-formed tree the object-level `Get` after an object-level `Insert`
  returns the value written, after a `Delete` not-found.
* `C01_driver_insert_is_insert` / `C01_driver_delete_is_delete`: the driver runs `insertGo` /
  `deleteGo` (the record Go leaves when the height loop fails part-way); they agree with `insert`
  / `delete` on the outcome, on the state whenever the call returns, and on the record whenever it
  succeeds.

Hypotheses: `Good s` (cache entries are decoded store nodes, shared objects and store nodes hold no
pointers, dirty objects are unshared — `goodB` decides it), `FpOwned` (the unshared objects under
the root carry the tree's owner tag), `Healthy t` / `Thresh t` (thresholds are consecutive powers
of a branch factor ≥ 2: what `LoadMast` sets and Insert / Delete keep).  Without `2 ≤ bf` the two
models DO differ (`Lemmas/RefExample.lean`: kernel-checked witness with bf = 1).  A `Delete` that
removes the last entry of a tree of height > 0 (a state no history from an empty root reaches)
ends with a nil root link at the object level: `C01_object_level_delete_last_entry`.
-/
namespace Mast.Ptr
open Mast.Heap

theorem C01_object_level_lookup (E : Env) (t : PTree) (fuel key g : Nat) (s : PS) (A : Tree)
    (hg : Good s) (hA : repTree s g t = some A) :
    match get E t fuel key s with
    | .ok r s' => r = Tree.lookup E.layer A key ∧ repTree s' g t = some A ∧ Good s'
    | .err s' => repTree s' g t = some A ∧ Good s'
    | _ => True :=
  get_refines E t fuel key g s A hg hA

theorem C01_object_level_insert (E : Env) (fuel g : Nat) (s s' : PS) (t t' : PTree) (k v : Nat) (A : Tree)
    (hg : Good s) (hown : FpOwned s.heap t.id (footprint s g t)) (hth : Thresh t)
    (hA : repTree s g t = some A) (h : insert E fuel s t k v = (s', t', .ok)) :
    ∃ g' A', repTree s' g' t' = some A' ∧ Tree.insert E.layer A k v = .ok A' ∧ Good s' ∧
      FpOwned s'.heap t'.id (footprint s' g' t') ∧ Thresh t' ∧ t'.id = t.id ∧ Step t.id s s' := by
  obtain ⟨g', A', h1, h2, h3, h4, _, h6, h7⟩ := insert_refines E fuel g s s' t t' k v A hg hown hth.healthy hA h
  exact ⟨g', A', h1, h2, h3, h4, insert_thresh E fuel g s s' t t' k v A hg hown hth hA h, h6, h7⟩

theorem C01_object_level_delete (E : Env) (fuel g : Nat) (s s' : PS) (t t' : PTree) (k v : Nat) (A : Tree)
    (hg : Good s) (hown : FpOwned s.heap t.id (footprint s g t)) (hth : Thresh t)
    (hA : repTree s g t = some A) (h : delete E fuel s t k v = (s', t', .ok)) (hroot : t'.root ≠ .nil) :
    ∃ g' A', repTree s' g' t' = some A' ∧ Tree.delete E.layer A k v = .ok A' ∧ Good s' ∧
      FpOwned s'.heap t'.id (footprint s' g' t') ∧ Thresh t' ∧ t'.id = t.id ∧ Step t.id s s' := by
  obtain ⟨g', A', h1, h2, h3, h4, h5, _, h7, h8⟩ := delete_refines_thresh E fuel g s s' t t' k v A hg hown hth hA h hroot
  exact ⟨g', A', h1, h2, h3, h4, h5, h7, h8⟩

/-- the remaining case: the call removed the last entry of a tree of height > 0 -/
theorem C01_object_level_delete_last_entry (E : Env) (fuel g : Nat) (s s' : PS) (t t' : PTree) (k v : Nat) (A : Tree)
    (hg : Good s) (hown : FpOwned s.heap t.id (footprint s g t))
    (hA : repTree s g t = some A) (h : delete E fuel s t k v = (s', t', .ok)) (hroot : t'.root = .nil) :
    ∃ g' A', repTree s' g' t' = some A' ∧ A'.root = T.last false T.nil ∧ t'.height < t.height ∧
      (t'.height = 0 → Tree.delete E.layer A k v = .ok { A' with dirty := true }) ∧ Good s' ∧
      FpOwned s'.heap t'.id (footprint s' g' t') ∧ Step t.id s s' := by
  obtain ⟨g', A', h1, h2, _, h4, _, _, h7, h8, h9, _, _, h12⟩ :=
    delete_refines_emptied E fuel g s s' t t' k v A hg hown hA h hroot
  exact ⟨g', A', h1, h2, h4, h7, h8, h9, h12⟩

/-- a delete of an absent key, or with another value: not `ok`, the functional model errs too, and
    an error leaves the tree as it was -/
theorem C01_object_level_delete_absent (E : Env) (fuel g : Nat) (s s' : PS) (t t' : PTree) (k v : Nat) (A : Tree)
    (o : Outcome) (hg : Good s) (hown : FpOwned s.heap t.id (footprint s g t))
    (hA : repTree s g t = some A) (hne : Tree.lookup E.layer A k ≠ some v) (h : delete E fuel s t k v = (s', t', o)) :
    o ≠ .ok ∧
    (Tree.delete E.layer A k v = .err "notpresent" ∨ Tree.delete E.layer A k v = .err "valuemismatch") ∧
    (o = .err → t' = t ∧ repTree s' g t = some A ∧ Good s') := by
  obtain ⟨h1, h2, h3⟩ := delete_absent E fuel g s s' t t' k v A o hg hown hA hne h
  exact ⟨h1, h2, fun ho => let ⟨a, b, c, _, _⟩ := h3 ho; ⟨a, b, c⟩⟩

/-- whatever a call on tree `t` does (success or error), every tree with another owner tag denotes
    what it denoted -/
theorem C01_object_level_other_trees (E : Env) (fuel g g2 : Nat) (s s' : PS) (t t' t2 : PTree) (k v : Nat) (A B : Tree)
    (hg : Good s) (hown : FpOwned s.heap t.id (footprint s g t)) (hth : Thresh t)
    (hA : repTree s g t = some A) (hne : t2.id ≠ t.id) (hB : repTree s g2 t2 = some B)
    (hown2 : FpOwned s.heap t2.id (footprint s g2 t2)) :
    (insert E fuel s t k v = (s', t', .ok) → repTree s' g2 t2 = some B ∧ FpOwned s'.heap t2.id (footprint s' g2 t2)) ∧
    (∀ o, (o = .ok ∨ o = .err) → delete E fuel s t k v = (s', t', o) →
      repTree s' g2 t2 = some B ∧ FpOwned s'.heap t2.id (footprint s' g2 t2)) :=
  ⟨fun h => insert_other_trees E fuel g g2 s s' t t' t2 k v A B hg hown hth.healthy hA h hne hB hown2,
   fun o ho h => delete_other_trees E fuel g g2 s s' t t' t2 k v A B o hg hown hA h ho hne hB hown2⟩

/-- with `Props/C01.lean`: on a well-formed tree, an object-level lookup after an object-level
    insert returns the value written -/
theorem C01_object_level_insert_then_lookup (E : Env) (fuel fuel2 g : Nat) (s s' : PS) (t t' : PTree) (k v : Nat) (A : Tree)
    (hg : Good s) (hown : FpOwned s.heap t.id (footprint s g t)) (hth : Thresh t)
    (hA : repTree s g t = some A) (hi : Tree.Inv E.layer A) (h : insert E fuel s t k v = (s', t', .ok)) :
    match get E t' fuel2 k s' with
    | .ok r _ => r = some v
    | _ => True := by
  obtain ⟨g', A', hA', hins, hg', _⟩ := insert_refines E fuel g s s' t t' k v A hg hown hth.healthy hA h
  obtain ⟨m', hm', hinv', hl', _⟩ := Tree.insert_spec E.layer A k v hi
  rw [hm'] at hins
  injection hins with hins
  subst hins
  have hget := get_refines E t' fuel2 k g' s' m' hg' hA'
  cases hr : get E t' fuel2 k s' with
  | ok r s2 =>
    rw [hr] at hget
    simp only
    rw [hget.1, Tree.lookup_eq E.layer m' k hinv', hl']
    exact T.getL_insL_same k v A.toList hi.sorted
  | _ => trivial

/-- `MakeRoot`: the tree afterwards denotes the same entries with every link a name, clean; the
    returned name denotes that root row in the (only grown) store; every other tree denotes what
    it denoted (`WStep.repTree_other`); the invariants are re-established -/
theorem C01_object_level_persist (E : Env) (t t' : PTree) (fuel g n : Nat) (s s' : PS) (A : Tree)
    (hg : Good s) (hsrc : SourceOK s) (hsd : StoreDen s.store) (hown : FpOwned s.heap t.id (footprint s g t))
    (hA : repTree s g t = some A) (h : flush E t fuel s = .ok (t', n) s') :
    Good s' ∧ SourceOK s' ∧ StoreDen s'.store ∧ WStep t.id s s' ∧ FlushOK t g A t' n s' ∧
    (flushedTree A).root.toList = A.root.toList :=
  let r := flush_refines E t t' fuel g n s s' A hg hsrc hsd hown hA h
  ⟨r.1, r.2.1, r.2.2.1, r.2.2.2.1, r.2.2.2.2, flushedTree_toList A⟩

/-- `LoadMast` of a name: the new tree denotes the row the name denotes, with the recorded size and
    height and the thresholds of that height; of the empty root: the empty tree -/
theorem C01_object_level_load (E : Env) (id link size height bf : Nat) (s s' : PS) (t : PTree) (hg : Good s)
    (h : loadMast E id link size height bf s = .ok t s') :
    Good s' ∧ t.id = id ∧ (t.bf = bf ∧ t.shrinkBelow = bf ^ height ∧ t.growAfter = bf ^ height * bf) ∧
    (link = 0 → repTree s' 1 t = some (loadedTree false (T.last false T.nil) size height bf)) ∧
    (link ≠ 0 → ∀ g x, repLink s.heap s.store g (.ref link) = some x →
        repTree s' g t = some (loadedTree true x.2.1 size height bf)) := by
  obtain ⟨_, h2, h3, _, h5, h6, h7⟩ := loadMast_refines E id link size height bf s s' t hg h
  exact ⟨h2, h3, h5, fun hl => (h6 hl).1, fun hl g x hx => ((h7 hl).2 g x hx).1⟩

/-- `Clone` (and so `Cursor()`): the clone denotes the same tree (the root link is a pointer), the
    source still denotes what it denoted, and the two share no unshared object -/
theorem C01_object_level_clone (E : Env) (t t' : PTree) (newId fuel g : Nat) (s s' : PS) (A : Tree)
    (hg : Good s) (hA : repTree s g t = some A) (h : clone E t newId fuel s = .ok t' s') :
    Good s' ∧ repTree s' g t' = some { A with rootP := false } ∧ repTree s' g t = some A ∧
    (∀ b ∈ footprint s' g t, b ∉ footprint s' g t') := by
  obtain ⟨_, h2, _, h4, h5, _, _, _, h9⟩ := clone_refines E t t' newId fuel g s s' A hg hA h
  exact ⟨h2, h4, h5, h9⟩

/-- `Iter`: the list of entries handed to the callback (`iterEntries`, Model/PtrIter.lean — the walk
    of `node.iter` over the objects, loading every child through the cache / store, with any
    pattern of failing loads and any fuel) is exactly the entry list of the functional tree the
    objects denote; failed or not, the call is an allocation-only step: every tree of the system
    (`t2`, in particular `t` itself) denotes what it denoted, with the same footprint -/
theorem C01_object_level_iterate (E : Env) (t : PTree) (fuel g : Nat) (s : PS) (A : Tree)
    (hg : Good s) (hA : repTree s g t = some A) :
    match iterEntries E fuel t.root s with
    | .ok es s' => es = A.toList ∧ Good s' ∧
        ∀ g2 t2 B, repTree s g2 t2 = some B → FpOwned s.heap t2.id (footprint s g2 t2) →
          repTree s' g2 t2 = some B ∧ FpOwned s'.heap t2.id (footprint s' g2 t2)
    | .err s' => Good s' ∧
        ∀ g2 t2 B, repTree s g2 t2 = some B → FpOwned s.heap t2.id (footprint s g2 t2) →
          repTree s' g2 t2 = some B ∧ FpOwned s'.heap t2.id (footprint s' g2 t2)
    | _ => True := by
  obtain ⟨x, hx, _, hAeq⟩ := repTree_eq_some.mp hA
  have h := iterEntries_spec (m := t.id) E fuel g t.root s hg x hx
  unfold Spec at h
  have htl : A.toList = x.2.1.toList := by
    rw [hAeq]; simp [Tree.toList, treeRec]
  cases hr : iterEntries E fuel t.root s with
  | ok es s' =>
    rw [hr] at h
    exact ⟨by rw [htl]; exact h.2, h.1.good hg, h.1.trees⟩
  | err s' =>
    rw [hr] at h
    exact ⟨h.good hg, h.trees⟩
  | stuck => trivial
  | panic => trivial
  | oof => trivial

/-- … and on the state it is the very walk `Sys.apply` runs for an `.iter` call (so
    `C01_object_level_history` speaks about it) -/
theorem C01_object_level_iterate_is_the_history_step (E : Env) (fuel : Nat) (l : HLink) (s : PS) :
    Erases (iterEntries E fuel l s) (iterAll E fuel l s) :=
  iterEntries_erase E fuel l s

/-- (`Erases r r'` unfolded: same outcome and same end state) -/
example (E : Env) (fuel : Nat) (l : HLink) (s s' : PS) (es : List (Nat × Nat))
    (h : iterEntries E fuel l s = .ok es s') : iterAll E fuel l s = .ok () s' := by
  have := iterEntries_erase E fuel l s
  rw [h] at this; exact this

/-- non-vacuity (kernel-checked): in the system reached by the history `hxOps` (growth, flush,
    clone, cached reload, delete — `Lemmas/RefHistExample.lean`) tree 2, whose nodes are partly names
    in the store and partly objects, is iterated: the walk loads what it needs and yields the entries
    that the tree denotes -/
def hxIter2 : Option (List (Nat × Nat)) :=
  hxSys.trees[2]?.bind fun t =>
    match iterEntries hxEnv 10 t.root hxSys.ps with
    | .ok es _ => some es
    | _ => none
example : hxIter2 = some [(3, 30), (4, 40), (5, 50), (7, 70), (8, 80)] ∧
    hxIter2 = hxSys.trees[2]?.bind fun t => (repTree hxSys.ps 10 t).map Tree.toList := by
  rw [hxIter2, hxSys_eq]; decide +kernel

/-- **the whole history**: from any system that satisfies the invariant `RSys` (in particular the
    empty one), along ANY history of loads of persisted roots (branch factor ≥ 2), inserts, deletes,
    lookups, iterations, persists and clones on any of its trees — with any layer function, any
    pattern of failing store loads, a node cache or none — that runs to its end (every call `.ok` or
    `.err`), the invariant holds at the end and the list of functional trees the system denotes has
    evolved by the functional operations (`FRun`: `Tree.insert` / `Tree.delete` / identity / flush /
    append a copy / append the loaded tree, per call and outcome; the trees a call does not target
    are untouched).  Every theorem about the functional model thereby speaks about the object-level
    transcription of the code. -/
theorem C01_object_level_history (E : Env) (fuel : Nat) (ops : List Op) (σ : Sys) (As : List Tree)
    (hR : RSys σ) (hD : Den σ As) (hc : ∀ op ∈ ops, OpCovered op) (hok : (Sys.run E fuel σ ops).2 = .ok) :
    RSys (Sys.run E fuel σ ops).1 ∧ ∃ As', Den (Sys.run E fuel σ ops).1 As' ∧
      FRun E.layer σ.ps.store As ops (Sys.run E fuel σ ops).1.ps.store As' :=
  Sys.run_refines E fuel ops σ As hR hD hc hok

theorem C01_object_level_history_from_empty (E : Env) (fuel : Nat) (ops : List Op)
    (hc : ∀ op ∈ ops, OpCovered op) (hok : (Sys.run E fuel {} ops).2 = .ok) :
    RSys (Sys.run E fuel {} ops).1 ∧ ∃ As', Den (Sys.run E fuel {} ops).1 As' ∧
      FRun E.layer [] [] ops (Sys.run E fuel {} ops).1.ps.store As' :=
  Sys.run_refines E fuel ops {} [] RSys.init (den_empty _ rfl) hc hok

/-- the driver's `Insert` / `Delete` are the proved ones -/
theorem C01_driver_insert_is_insert (E : Env) (fuel : Nat) (s : PS) (t : PTree) (k v : Nat) :
    (insertGo E fuel s t k v).2.2 = (insert E fuel s t k v).2.2 ∧
    (((insert E fuel s t k v).2.2 = .ok ∨ (insert E fuel s t k v).2.2 = .err) →
      (insertGo E fuel s t k v).1 = (insert E fuel s t k v).1) ∧
    ((insert E fuel s t k v).2.2 = .ok → (insertGo E fuel s t k v).2.1 = (insert E fuel s t k v).2.1) :=
  insertGo_insert E fuel s t k v

theorem C01_driver_delete_is_delete (E : Env) (fuel : Nat) (s : PS) (t : PTree) (k v : Nat) :
    (deleteGo E fuel s t k v).2.2 = (delete E fuel s t k v).2.2 ∧
    (((delete E fuel s t k v).2.2 = .ok ∨ (delete E fuel s t k v).2.2 = .err) →
      (deleteGo E fuel s t k v).1 = (delete E fuel s t k v).1) ∧
    ((delete E fuel s t k v).2.2 = .ok → (deleteGo E fuel s t k v).2.1 = (delete E fuel s t k v).2.1) :=
  deleteGo_delete E fuel s t k v

end Mast.Ptr
#print axioms Mast.Ptr.C01_object_level_lookup
#print axioms Mast.Ptr.C01_object_level_insert
#print axioms Mast.Ptr.C01_object_level_delete
#print axioms Mast.Ptr.C01_object_level_delete_last_entry
#print axioms Mast.Ptr.C01_object_level_delete_absent
#print axioms Mast.Ptr.C01_object_level_other_trees
#print axioms Mast.Ptr.C01_object_level_insert_then_lookup
#print axioms Mast.Ptr.C01_object_level_persist
#print axioms Mast.Ptr.C01_object_level_load
#print axioms Mast.Ptr.C01_object_level_clone
#print axioms Mast.Ptr.C01_object_level_iterate
#print axioms Mast.Ptr.C01_object_level_iterate_is_the_history_step
#print axioms Mast.Ptr.C01_object_level_history
#print axioms Mast.Ptr.C01_object_level_history_from_empty
#print axioms Mast.Ptr.C01_driver_insert_is_insert
#print axioms Mast.Ptr.C01_driver_delete_is_delete
