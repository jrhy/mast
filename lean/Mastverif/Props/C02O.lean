import Mastverif.Lemmas.RefCursor
import Mastverif.Lemmas.RefDelSys
import Mastverif.Lemmas.RefFlush
/-!
# C02 — a cursor is a capture (property theorems at the level of node objects)

C02 counts opening a cursor among the ways of capturing a version: "once a version has been
captured, by cloning a tree (explicitly, or implicitly by opening a cursor on it) … its observable
contents never change, whatever operations are later applied to the original, to other clones, or
to trees loaded from the same or other roots that share the store and the node cache".

A cursor (`Model/PtrCursor.lean`) is a clone with owner tag `w` and a path of node objects.
`PathRep w s g opath P` says that the path denotes the functional path `P` and that every unshared
object it reads carries the tag `w`.  Then:

* `C02_cursor_survives_steps_of_other_trees`: any step performed for another tree `m ≠ w` (`WStep`:
  what `Insert`, `Delete`, `MakeRoot`, `Clone`, `LoadMast`, `Get`, `Iter` of tree `m` are, by the
  refinement theorems) leaves the path denoting `P`;
* `C02_cursor_survives_insert / _delete / _persist`: the instances for `Insert` (successful), `Delete`
  (successful or failed — also the recorded C12 finding) and `MakeRoot` on any other tree, in
  particular on the tree the cursor was opened on;
* `C02_cursor_reads_the_captured_version`: hence, whatever those calls did, every later placement
  / move / read of the cursor is the functional cursor's on the captured `P` (`C10_object_level_*`
  apply in the new state).
Tie: families `ptr` (cursor trees and paths in the object graph while the trees are modified
further) and `versions` (cursors walked after the tree has been modified).
-/
namespace Mast.Ptr
open Mast.Heap Mast

variable {w : Nat}

theorem C02_cursor_survives_steps_of_other_trees {m : Nat} {s s' : PS} {g : Nat} {opath : CPath} {P : Path}
    (hst : WStep m s s') (hne : w ≠ m) (hp : PathRep w s g opath P) : PathRep w s' g opath P :=
  hp.other_step hst hne

theorem C02_cursor_survives_insert (E : Env) (fuel g g2 : Nat) (s s' : PS) (t t' : PTree) (k v : Nat) (A : Tree)
    (opath : CPath) (P : Path)
    (hg : Good s) (hown : FpOwned s.heap t.id (footprint s g t)) (hh : Healthy t)
    (hA : repTree s g t = some A) (h : insert E fuel s t k v = (s', t', .ok))
    (hne : w ≠ t.id) (hp : PathRep w s g2 opath P) : PathRep w s' g2 opath P :=
  hp.other_step (insert_step E fuel g s s' t t' k v A hg hown hh hA h).toW hne

theorem C02_cursor_survives_delete (E : Env) (fuel g g2 : Nat) (s s' : PS) (t t' : PTree) (k v : Nat) (A : Tree)
    (o : Outcome) (opath : CPath) (P : Path)
    (hg : Good s) (hown : FpOwned s.heap t.id (footprint s g t))
    (hA : repTree s g t = some A) (h : delete E fuel s t k v = (s', t', o)) (ho : o = .ok ∨ o = .err)
    (hne : w ≠ t.id) (hp : PathRep w s g2 opath P) : PathRep w s' g2 opath P := by
  have hst : Step t.id s s' := by
    rcases ho with rfl | rfl
    · exact delete_ok_step E fuel g s s' t t' k v A hg hown hA h
    · exact (delete_err_refines E fuel g s s' t t' k v A hg hown hA h).2.1
  exact hp.other_step hst.toW hne

theorem C02_cursor_survives_persist (E : Env) (t t' : PTree) (fuel g g2 n : Nat) (s s' : PS) (A : Tree)
    (opath : CPath) (P : Path)
    (hg : Good s) (hsrc : SourceOK s) (hsd : StoreDen s.store) (hown : FpOwned s.heap t.id (footprint s g t))
    (hA : repTree s g t = some A) (h : flush E t fuel s = .ok (t', n) s')
    (hne : w ≠ t.id) (hp : PathRep w s g2 opath P) : PathRep w s' g2 opath P :=
  hp.other_step (flush_refines E t t' fuel g n s s' A hg hsrc hsd hown hA h).2.2.2.1 hne

/-- whatever step of another tree happened in between, the next move and read of the cursor are
    the functional cursor's on the captured path -/
theorem C02_cursor_reads_the_captured_version {m : Nat} (E : Env) (g f : Nat) (opath : CPath) (s s' : PS) (P : Path)
    (mv : CMove) (hst : WStep m s s') (hne : w ≠ m) (hg' : Good s') (hp : PathRep w s g opath P) :
    Spec (Grow w) (cStep E f opath mv) s' (MovePost w g opath (Cursor.stepPath f P (toMove mv))) ∧
    Spec (Grow w) (cGet opath) s' (fun r s'' => s'' = s' ∧ r = Cursor.get P) :=
  ⟨cStep_spec E g f opath s' P mv hg' (hp.other_step hst hne), cGet_spec g opath s' P (hp.other_step hst hne)⟩

end Mast.Ptr
#print axioms Mast.Ptr.C02_cursor_survives_steps_of_other_trees
#print axioms Mast.Ptr.C02_cursor_survives_insert
#print axioms Mast.Ptr.C02_cursor_survives_delete
#print axioms Mast.Ptr.C02_cursor_survives_persist
#print axioms Mast.Ptr.C02_cursor_reads_the_captured_version
