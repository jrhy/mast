import Mastverif.Lemmas.Flush
import Mastverif.Lemmas.StoreComplete
/-!
# C03 — a returned root is complete and durable (property theorems)

On the worker-pool model `MF` (every interleaving of producer, dispatcher and workers, every
completion order, delay and failure pattern of the `Store` calls):
* `C03_barrier`: when `wg.Wait()` has returned, no worker is starting, calling `Store` or
  finishing, the dispatcher has exited, every closure was handed over, and every one of the
  `n` queued writes has completed (ok, failed, or skipped after the first failure);
  if no write failed, all `n` completed successfully;
* `C03_pool`: at most `pool` (= 40) `Store` calls are ever in flight;
* `C03_error_reported`: a failed write is always reflected in `firstErr` at return.
On the sequential model (`Tree.makeRoot` and the history semantics, with the store as the list
of names written so far):
* `C03_returned_version_is_in_the_store`: after EVERY history of inserts, deletes (with growth and
  shrinking), lookups and persists from the empty tree, the names a further `MakeRoot` writes
  together with what was written before cover every node reachable from the root it returns —
  nothing reachable is skipped, whatever mix of persisted and in-memory nodes the tree holds
  (invariant `J`: below every persisted link hangs a completely persisted subtree whose names are
  all in the store);
* `C03_retry_after_failures_is_complete`: the same for histories in which any number of `MakeRoot`
  calls FAIL, each after an arbitrary subset of its writes has reached the store (`execF`): the
  failed attempt commits nothing to the tree, so the attempt that succeeds writes every node again
  that is not yet confirmed, and what it returns is completely in the store;
* `C03_named_by_content`: each of those writes is (hash of the bytes, bytes).
Together with `C03_barrier` (all queued writes have completed when `MakeRoot` returns, and a
failure is reported) this is the property's first sentence.  Tied by the `flush` family: nothing
is committed to the tree before the barrier; an error leaves the tree usable; a retry writes what
is missing; a second store sharing the node cache receives every node (source facts about pub.go's
statement order).
-/
namespace Mast.MF

theorem C03_barrier {n pool s} (r : Reach n pool s) (hr : s.returned = 1) :
    s.nStart = 0 ∧ s.nCalling = 0 ∧ s.nExit = 0 ∧ s.dExit = 1 ∧ s.toSend = 0 ∧
    s.okDone + s.errDone + s.skipped = n ∧ (s.firstErr = 0 → s.okDone = n) := by
  have i := inv_reach r
  -- the wait group is empty, so nobody but the exited dispatcher is anywhere; the channel is closed
  have ⟨hc, hw⟩ := i.retd hr
  have ⟨h5, hExit⟩ := Nat.add_eq_zero_iff.mp (i.wgEq.symm.trans hw)
  have ⟨h4, hCall⟩ := Nat.add_eq_zero_iff.mp h5
  have ⟨h3, hStart⟩ := Nat.add_eq_zero_iff.mp h4
  have hHold := (Nat.add_eq_zero_iff.mp (Nat.add_eq_zero_iff.mp h3).1).2
  have hd := i.disp
  rw [h3, Nat.zero_add] at hd
  have ht := i.closedSend hc
  have hs := i.sent
  simp only [ht, hHold, hStart, hCall, Nat.zero_add] at hs
  refine ⟨hStart, hCall, hExit, hd, ht, hs, fun h0 => ?_⟩
  have ⟨he, hk⟩ := i.errs h0
  simp only [he, hk, Nat.add_zero] at hs
  exact hs

theorem C03_pool {n pool s} (r : Reach n pool s) : s.nCalling ≤ pool := by
  have := (inv_reach r).gateEq; omega

theorem C03_error_reported {n pool s} (r : Reach n pool s) (he : s.errDone > 0) : s.firstErr ≠ 0 :=
  fun h0 => Nat.ne_of_gt he ((inv_reach r).errs h0).1

/-- non-vacuity: a complete run with one write and a pool of one reaches `returned` -/
example : ∃ s, Reach 1 1 s ∧ s.returned = 1 ∧ s.okDone = 1 := by
  have s0 : Reach 1 1 (start 1 1) := Reach.init
  have s1 := Reach.step s0 (Step.send _ (by decide) (by decide) (by decide))
  have s2 := Reach.step s1 (Step.spawn _ (by decide) (by decide))
  have s3 := Reach.step s2 (Step.checkGo _ (by decide) (by decide))
  have s4 := Reach.step s3 (Step.storeOk _ (by decide))
  have s5 := Reach.step s4 (Step.workerExit _ (by decide))
  have s6 := Reach.step s5 (Step.close _ (by decide) (by decide))
  have s7 := Reach.step s6 (Step.recvClose _ (by decide) (by decide))
  have s8 := Reach.step s7 (Step.dispExit _ (by decide) (by decide))
  have s9 := Reach.step s8 (Step.waitReturn _ (by decide) (by decide) (by decide))
  exact ⟨_, s9, by decide, by decide⟩

end Mast.MF

namespace Mast.Tree
open T
variable (layer : Nat → Nat)

/-- histories in which any number of `MakeRoot` calls fail, each after an arbitrary subset of its
    writes has reached the store,
    between any operations and successful persists — a `MakeRoot` that then succeeds returns a
    root all of whose nodes are in the store (it writes again whatever the failed attempts
    left unconfirmed: a failed attempt commits nothing to the tree) -/
theorem C03_retry_after_failures_is_complete (e : Enc) (bf : Nat) (ops : List OpF) :
    let st := execF layer e (Tree.empty bf, []) ops
    ∀ n ∈ reach e st.1, n ∈ st.2 ++ written e st.1 :=
  execF_complete layer e ops (Tree.empty bf) [] (J_empty e bf)

theorem C03_returned_version_is_in_the_store (e : Enc) (bf : Nat) (ops : List Op) :
    let st := execS layer e (Tree.empty bf, []) ops
    ∀ n ∈ reach e st.1, n ∈ st.2 ++ written e st.1 := by
  rw [← execF_op]
  exact C03_retry_after_failures_is_complete layer e bf (ops.map .op)

/-- non-vacuity: a failed attempt that lands only the top node (its two children are missing from
    the store), then a successful one — the history is one the theorem speaks about, and the failed
    attempt really leaves a dangling name behind -/
example :
    let e : Enc := { keyB := fun k => [k.toUInt8], valB := fun v => [v.toUInt8],
                     node := fun n => (n.keys.flatten ++ n.vals.flatten ++ (n.links.map (fun l => l.getD [0])).flatten),
                     hash := fun b => b }
    let ops : List OpF := [.op (.ins 1 1), .op (.ins 2 1), .op (.ins 3 1), .op (.ins 4 2), .op (.ins 5 1),
                           .failedPersist [false, false, true], .op .persist]
    let mid := execF (fun k => if k % 4 = 0 then 1 else 0) e (Tree.empty 4, []) (ops.take 6)
    (mid.2.length = 1) ∧ (reach e mid.1).length = 3 := by
  decide

theorem C03_named_by_content (e : Enc) (m : Tree) : ∀ x ∈ (makeRoot e m).1, x.1 = e.hash x.2 :=
  makeRoot_named e m

end Mast.Tree
#print axioms Mast.Tree.C03_returned_version_is_in_the_store
#print axioms Mast.Tree.C03_named_by_content
#print axioms Mast.Tree.C03_retry_after_failures_is_complete
#print axioms Mast.MF.C03_barrier
#print axioms Mast.MF.C03_pool
#print axioms Mast.MF.C03_error_reported
