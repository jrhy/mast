import Mastverif.Lemmas.RefFlush
import Mastverif.Lemmas.RefLoad
import Mastverif.Lemmas.RefHistExample
/-!
# C03 at the level of node objects: the returned root is complete IN THE STORE

`flush_refines` (Lemmas/RefFlush.lean) relates `MakeRoot` at the level of node objects — `node.store`
with the commit closures, content names interned in the store — to the functional tree.  Here is
its consequence in C03's terms: when `MakeRoot` succeeds with a non-empty version, the returned
name denotes the whole persisted tree FROM THE STORE ALONE (`repLink [] store`: the heap plays no
part), i.e. every node reachable from the returned root is in the store when the call returns — for
any state of the heap, flags, cache, any sharing with other trees; and every name stored before
still denotes what it denoted.  (The concurrency of the writes and their failures are the subject
of `Props/C03.lean`'s pool model and of family `flush`; the object-level model writes sequentially.)
-/
namespace Mast.Ptr
open Mast.Heap Mast

theorem C03_object_level_returned_root_is_complete (E : Env) (t t' : PTree) (fuel g n : Nat) (s s' : PS) (A : Tree)
    (hg : Good s) (hsrc : SourceOK s) (hsd : StoreDen s.store) (hown : FpOwned s.heap t.id (footprint s g t))
    (hA : repTree s g t = some A) (h : flush E t fuel s = .ok (t', n) s') (hn : n ≠ 0) :
    repLink [] s'.store g (.ref n) = some (true, persistT A.root, []) ∧
    (persistT A.root).toList = A.root.toList ∧ StoreDen s'.store ∧ (∃ ext, s'.store = s.store ++ ext) := by
  obtain ⟨hg', _, hsd', hw, hok⟩ := flush_refines E t t' fuel g n s s' A hg hsrc hsd hown hA h
  rcases hok with ⟨h0, _⟩ | ⟨_, _, _, _, _, hrep⟩
  · exact absurd h0 hn
  · exact ⟨repLink_flat_heap hg'.flat g (.ref n) _ rfl hrep, persistT_toList _, hsd', hw.store⟩

/-- non-vacuity (kernel-checked): in the system reached by `hxOps` the persisted trees 1 and 2 are held
    by names that denote their entries from the store alone (empty heap) -/
example : (hxSys.trees[1]?.bind fun t => (repLink [] hxSys.ps.store 10 t.root).map fun x => x.2.1.toList) =
      some [(3, 30), (4, 40), (5, 50), (6, 60), (8, 80)] ∧
    (hxSys.trees[2]?.bind fun t => (repLink [] hxSys.ps.store 10 t.root).map fun x => x.2.1.toList) =
      some [(3, 30), (4, 40), (5, 50), (7, 70), (8, 80)] := by rw [hxSys_eq]; decide +kernel

end Mast.Ptr
#print axioms Mast.Ptr.C03_object_level_returned_root_is_complete
