import Mastverif.Lemmas.Names
import Mastverif.Props.C01
import Mastverif.Lemmas.Json
/-!
# C05 — persist then load is the identity (property theorems)

On the tree model: `C05_flush_keeps_entries` / `C05_flush_keeps_meta`: `makeRoot` (flush + `MakeRoot`)
changes neither the entries nor size, height, branch factor and thresholds; `C05_root_record`: the
root record carries size, height and branch factor, and for a non-empty tree the name of the tree's
top node; `C05_reloaded_name`: the all-persisted tree has that same name; `C05_reload_behaves_the_same`:
the tree `makeRoot` leaves (all links names) gives the same outputs as the original on every later
history.
On the bytes: `C05_binary_roundtrip`: decoding the bytes of format "v1.1.5binary" (`decBinRaw ∘ encBin`)
gives back exactly the node's keys, values and child names, for every node that is `NodeOK`: its
marshaled keys / values are non-empty (codec.go reads a zero-length body as "absent" — a real side
condition of the format, true of every JSON form) and its lengths fit nine varint bytes (`fits`);
`C05_every_node_roundtrips`: this applies to EVERY node the model writes (`rowB` of any row — `T.Row`,
`row_of_WF` — under any encoder with non-empty bodies and names, `EncOK`).  `C05_json_roundtrip`: the
same for format "v1marshaler" (decoder model `Json.decJson`, the canonical shape `encoding/json` writes;
elements must be *plain* JSON values, `JNodeOK` — `plain_simple` for numbers, `plain_quote` for strings
without quote / backslash; names free of those characters).
The tie (family `persist`, `map`, `format`) compares every stored byte string with `encBin`/`encJson`,
reloads through a JSON round-trip of the root and compares entries, size, height after every cycle.
-/
namespace Mast.Tree
open T

theorem C05_flush_keeps_entries (e : Enc) (m : Tree) : (makeRoot e m).2.2.toList = m.toList := by
  obtain ⟨r, rp, d, h, hr⟩ := makeRoot_tree e m
  rw [h]
  exact (toList_erase r).symm.trans ((congrArg T.toList hr).trans (toList_erase m.root))

theorem C05_flush_keeps_meta (e : Enc) (m : Tree) :
    let m' := (makeRoot e m).2.2
    m'.size = m.size ∧ m'.height = m.height ∧ m'.bf = m.bf ∧ m'.growAfter = m.growAfter ∧ m'.shrinkBelow = m.shrinkBelow := by
  obtain ⟨r, rp, d, h, _⟩ := makeRoot_tree e m
  rw [h]
  exact ⟨rfl, rfl, rfl, rfl, rfl⟩

theorem C05_root_record (e : Enc) (m : Tree) :
    let r := (makeRoot e m).2.1
    r.size = m.size ∧ r.height = m.height ∧ r.bf = m.bf ∧
    (isEmptyTop m.root = false → r.link = some (nodeName e m.root)) := by
  rw [makeRoot_rec]
  exact ⟨rfl, rfl, rfl, fun h => if_neg fun h' => Bool.false_ne_true (h.symm.trans h')⟩

theorem C05_reloaded_name (e : Enc) (t : T) : nodeName e (persistAll t) = nodeName e t :=
  nodeName_persistAll e t

theorem C05_reload_behaves_the_same (layer : Nat → Nat) (e : Enc) (m : Tree) (hi : Inv layer m) (ops : List Op) :
    runT layer e (makeRoot e m).2.2 ops = runT layer e m ops := by
  have h := inv_makeRoot layer e m hi
  rw [C01_refines layer e ops _ h.1, C01_refines layer e ops m hi, h.2]

end Mast.Tree

namespace Mast.Codec
theorem C05_binary_roundtrip (n : NodeB) (h : NodeOK n) :
    decBinRaw (encBin n) = some { keys := n.keys.map some, vals := n.vals.map some,
                                  links := if n.links.all Option.isNone then [] else n.links } :=
  decBinRaw_encBin n h

/-- non-vacuity: a two-entry node with one child satisfies the side conditions -/
example : NodeOK { keys := [[49], [50]], vals := [[53], [54]], links := [none, some [65, 66], none] } := by
  have one : ∀ x : UInt8, [x] ≠ [] ∧ fits [x].length := fun x => ⟨nofun, fits_small 1 (by decide)⟩
  have two : ∀ x y : UInt8, ∀ b ∈ [[x], [y]], b ≠ [] ∧ fits b.length := fun x y =>
    List.forall_mem_cons.mpr ⟨one x, List.forall_mem_singleton.mpr (one y)⟩
  exact ⟨two 49 50, two 53 54,
    List.forall_mem_cons.mpr ⟨⟨nofun, fits_zero⟩, List.forall_mem_cons.mpr
      ⟨elemOK_some ⟨nofun, fits_small 2 (by decide)⟩, List.forall_mem_singleton.mpr ⟨nofun, fits_zero⟩⟩⟩,
    fits_small 2 (by decide), fits_small 2 (by decide), fits_small 3 (by decide)⟩
end Mast.Codec
namespace Mast
open T Codec

namespace T
theorem row_of_WF (layer : Nat → Nat) : ∀ (t : T) (d : Nat), WF layer d t → Row t := by
  intro t
  induction t with
  | nil => intro d h; simp [WF] at h
  | last p c _ => intro _ _; trivial
  | cons p c k v r _ ihr => intro d h; rw [WF_cons_iff] at h; exact ihr d h.2.1

end T

theorem Codec.C05_every_node_roundtrips (e : Enc) (he : EncOK e) (t : T) (hr : Row t)
    (hsize : fits (rowLen t + 1)) :
    decBinRaw (encBin (rowB e t)) = some (RawNode.mk ((rowB e t).keys.map some) ((rowB e t).vals.map some)
      (if (rowB e t).links.all Option.isNone then [] else (rowB e t).links)) := by
  obtain ⟨l1, l2, l3⟩ := rowB_lengths e t hr
  obtain ⟨o1, o2, o3⟩ := rowB_ok e he t hr
  have hlen := fits_of_le (Nat.le_succ _) hsize
  exact decBinRaw_encBin _ ⟨o1, o2, o3, l1 ▸ hlen, l2 ▸ hlen, l3 ▸ hsize⟩
end Mast

namespace Mast.Json
open Codec
theorem C05_json_roundtrip (n : NodeB) (h : JNodeOK n) :
    decJson (encJson n) = some (RawNode.mk (n.keys.map some) (n.vals.map some)
      (if n.links.all Option.isNone then [] else n.links)) := decJson_encJson n h

/-- non-vacuity: numeric keys, a quoted string value, one child -/
example : JNodeOK { keys := [[49, 50], [55]], vals := [[53], [34, 97, 98, 34]], links := [none, some [65, 66, 45], none] } := by
  have num : ∀ e : Bytes, e ≠ [] → (∀ b ∈ e, b ≠ 34 ∧ b ≠ 44 ∧ b ≠ 91 ∧ b ≠ 93 ∧ b ≠ 123 ∧ b ≠ 125) → Plain e :=
    plain_simple
  refine ⟨?_, ?_, ?_⟩
  · exact List.forall_mem_cons.mpr ⟨num _ nofun (by decide), List.forall_mem_singleton.mpr (num _ nofun (by decide))⟩
  · exact List.forall_mem_cons.mpr ⟨num _ nofun (by decide),
      List.forall_mem_singleton.mpr (plain_quote [97, 98] (by decide))⟩
  · intro nm hnm
    obtain rfl : nm = [65, 66, 45] := by simpa using hnm
    decide
end Mast.Json
#print axioms Mast.Json.C05_json_roundtrip
#print axioms Mast.Codec.C05_every_node_roundtrips
#print axioms Mast.Tree.C05_reload_behaves_the_same
#print axioms Mast.Codec.C05_binary_roundtrip
#print axioms Mast.Tree.C05_flush_keeps_entries
#print axioms Mast.Tree.C05_flush_keeps_meta
#print axioms Mast.Tree.C05_root_record
#print axioms Mast.Tree.C05_reloaded_name
