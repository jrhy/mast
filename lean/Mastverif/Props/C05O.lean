import Mastverif.Props.C03O
/-!
# C05 at the level of node objects: persist, then open the returned root

`flush_refines` gives the name `n` that `MakeRoot` returns.  A `Mast` record built from the `Root`
that carries this name — any owner tag (another process, another `LoadMast`), the same size /
height / branch factor / thresholds, root link = the name — denotes, in the state the call left
and with NO object of its own, exactly the tree that was persisted: the same entries in the same
shape with every node resident in the store (`flushedTree`), clean.  Everything the object-level
operations then do on it is governed by that denotation (`Props/C01O.lean`: `Get` / `Insert` /
`Delete` / `Iter` compute the functional operations of the tree denoted), so the reloaded version
behaves as the original did.  (Byte-level encoding and decoding of nodes is the subject of
`Props/C05.lean`; at this level a stored node is its content.)
-/
namespace Mast.Ptr
open Mast.Heap Mast

theorem C05_object_level_persist_then_load (E : Env) (t t' : PTree) (fuel g n : Nat) (s s' : PS) (A : Tree)
    (hg : Good s) (hsrc : SourceOK s) (hsd : StoreDen s.store) (hown : FpOwned s.heap t.id (footprint s g t))
    (hA : repTree s g t = some A) (h : flush E t fuel s = .ok (t', n) s') (hn : n ≠ 0)
    (t2 : PTree) (hroot : t2.root = .ref n) (hsz : t2.size = t.size) (hh : t2.height = t.height)
    (hbf : t2.bf = t.bf) (hga : t2.growAfter = t.growAfter) (hsb : t2.shrinkBelow = t.shrinkBelow) :
    repTree s' g t2 = some (flushedTree A) ∧ (flushedTree A).toList = A.toList ∧
    footprint s' g t2 = [] ∧ FpOwned s'.heap t2.id (footprint s' g t2) ∧ Good s' := by
  obtain ⟨hg', _, _, _, hok⟩ := flush_refines E t t' fuel g n s s' A hg hsrc hsd hown hA h
  rcases hok with ⟨h0, _⟩ | ⟨_, _, ht', hrep, hfp, _⟩
  · exact absurd h0 hn
  · have e1 : repTree s' g t2 = repTree s' g t' := by
      subst ht'
      unfold repTree
      simp only [hroot, hsz, hh, hbf, hga, hsb, rootDirty]
    have e2 : footprint s' g t2 = footprint s' g t' := by
      subst ht'
      unfold footprint
      simp only [hroot]
    refine ⟨e1.trans hrep, flushedTree_toList A, e2.trans hfp, ?_, hg'⟩
    rw [e2, hfp]
    intro a ha
    exact nomatch ha

/-- non-vacuity (kernel-checked): in the system reached by `hxOps`, a record with ANOTHER owner tag built from
    the persisted tree 1's root name and numbers denotes that tree's entries -/
example : (hxSys.trees[1]?.bind fun t => (repTree hxSys.ps 10 { t with id := 77 }).map fun B => (B.toList, B.dirty, B.rootP)) =
      some ([(3, 30), (4, 40), (5, 50), (6, 60), (8, 80)], false, true) := by rw [hxSys_eq]; decide +kernel

end Mast.Ptr
#print axioms Mast.Ptr.C05_object_level_persist_then_load
