import Mastverif.Lemmas.Diff
/-!
# C06 — entry diff (property theorems)

`C06_exact`: for any two trees whose entry lists are strictly ascending — related or unrelated,
of equal or different heights, empty or not, in memory or persisted, `old` possibly absent —
the entry events produced by the literal `diffOne` loop are exactly the sorted-merge diff
`diffL` of the two entry lists: every key whose presence or value differs, once, in ascending
order, with the old and new values, and nothing for keys on which the trees agree.
The only assumption about link identity is that links with equal names have equal contents.
Both Go interfaces (`DiffIter` and the `DiffCursor`) consume this one event stream; that they
agree, and that a stopping or failing callback sees exactly a prefix, is checked by family
`diff` together with the correspondence of the stream itself.
-/
namespace Mast.Diff
open T

variable (layer : Nat → Nat) (nameOf : T → List UInt8)

theorem C06_exact (hle : ∀ a b, nameOf a = nameOf b → toList a = toList b)
    (oldRoot : Option (Bool × T)) (newP : Bool) (newRoot : T)
    (hso : Sorted (oldEntries oldRoot)) (hsn : Sorted (toList newRoot))
    (fuel : Nat) (hfuel : oldWeight oldRoot + (1 + W newRoot) < fuel) :
    ents (run layer nameOf fuel (init oldRoot newP newRoot)).1 =
      diffL (oldEntries oldRoot) (toList newRoot) := by
  have hold : flat (init oldRoot newP newRoot).old = oldEntries oldRoot ∧
      mu (init oldRoot newP newRoot).old ≤ oldWeight oldRoot := by
    cases oldRoot with
    | none => exact ⟨rfl, Nat.le_refl _⟩
    | some pt => exact ⟨flat_rootItems _ _, mu_rootItems _ _⟩
  have hnew : flat (init oldRoot newP newRoot).new = toList newRoot := flat_rootItems _ _
  rw [← hold.1] at hso ⊢
  rw [← hnew] at hsn ⊢
  exact run_correct layer nameOf hle fuel _ hso hsn
    (Nat.lt_of_le_of_lt (Nat.add_le_add hold.2 (mu_rootItems newP newRoot)) hfuel)

/-- the specification itself: agreeing trees produce no event -/
theorem C06_equal_trees_no_events (l : List (Nat × Nat)) : diffL l l = [] := by
  have := diffL_prefix l [] []
  simpa [diffL_nil_nil] using this

/-- non-vacuity: one changed value, one added key -/
example : diffL [(1, 10), (2, 20)] [(1, 11), (2, 20), (3, 30)] = [DEv.chg 1 10 11, DEv.add 3 30] := by
  simp [diffL_cons_cons, diffL_nil_cons, diffL_nil_nil]

end Mast.Diff
#print axioms Mast.Diff.C06_exact
#print axioms Mast.Diff.C06_equal_trees_no_events
