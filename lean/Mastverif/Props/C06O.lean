import Mastverif.Lemmas.RefDiff
import Mastverif.Lemmas.RefHistExample
import Mastverif.Props.C06
/-!
# C06 at the level of node objects (property theorems)

`Props/C06.lean` proves that the literal `diffOne` of the functional model yields the sorted-merge
diff `diffL`.  Here the same is proved of `Model/PtrDiff.lean`: the stacks hold links to node
OBJECTS or names, both trees' nodes are loaded through the node cache / store (counted loads, any
of which may fail), two links are "the same" when they are the same name or the same object, and
`alreadyNotified` performs loads of its own whose failures it swallows.

* `C06_object_level_entry_diff`: two trees over one heap, store and cache whose root links denote
  rows with ascending entries — related or unrelated, any heights, in memory or persisted, any
  sharing of objects between them, `old` possibly absent: whenever the loop of `diff()` runs to its
  end, the entry events are exactly `diffL (entries of old) (entries of new)`; whatever happens
  (also when a load fails and the call returns the error) the call has only allocated;
* `C06_object_level_trees`: the same for tree records that denote functional trees `A`, `B`
  (`repTree`), with "every tree of the system denotes what it denoted";
* `C06_object_level_failed_step_partial` (the C12 clause for `DiffCursor.NextEntry`): a step that
  reports an error hands back the very state it was given, has only allocated, and the same step
  retried from there is again a correct step.
Which side `diffOne` opens (pass-through nodes, first-key comparison) does not matter for this
result — the proof treats every branch as an expansion that keeps the flattened stacks.  Link
events (C07) are the subject of `Props/C07O.lean`, for versions held by name; for trees held partly in
memory they are produced by the model and compared by the tie.  Failing key comparisons are not modelled.
-/
namespace Mast.Ptr
open Mast.Heap Mast Mast.Diff Mast.T

theorem C06_object_level_entry_diff (E : Env) (m f g n : Nat) (s : PS) (oldRoot newRoot : HLink)
    (pO pN : Bool) (tO tN : T) (fO fN : List Nat) (hg : Good s)
    (hxo : repLink s.heap s.store g oldRoot = some (pO, tO, fO))
    (hxn : repLink s.heap s.store g newRoot = some (pN, tN, fN))
    (hso : Sorted (toList tO)) (hsn : Sorted (toList tN)) (hn : (1 + W tO) + (1 + W tN) < n) :
    Spec (Grow m) (oDiff E f n (some oldRoot) newRoot) s (fun evs _ => oents evs = diffL (toList tO) (toList tN)) :=
  oDiff_correct E f g n (some oldRoot) (some (pO, tO)) hg ⟨fO, hxo⟩ hxn hso hsn hn

theorem C06_object_level_entry_diff_no_old (E : Env) (m f g n : Nat) (s : PS) (newRoot : HLink)
    (pN : Bool) (tN : T) (fN : List Nat) (hg : Good s)
    (hxn : repLink s.heap s.store g newRoot = some (pN, tN, fN))
    (hsn : Sorted (toList tN)) (hn : 1 + W tN < n) :
    Spec (Grow m) (oDiff E f n none newRoot) s (fun evs _ => oents evs = diffL [] (toList tN)) :=
  oDiff_correct E f g n none none hg trivial hxn List.Pairwise.nil hsn (by rw [oldWeight, Nat.zero_add]; exact hn)

/-- C06 at the level of node objects, for tree records: `DiffIter` of `tNew` against `tOld`,
    two trees of one system (any sharing of objects, cache, store between them), whose objects denote
    functional trees with ascending entries: if the call runs to its end, its entry events are the
    sorted-merge diff of the two entry lists; error or not, every tree denotes what it denoted -/
theorem C06_object_level_trees (E : Env) (f g n : Nat) (s : PS) (tOld tNew : PTree) (A B : Tree) (hg : Good s)
    (hA : repTree s g tOld = some A) (hB : repTree s g tNew = some B)
    (hso : Sorted A.toList) (hsn : Sorted B.toList) (hn : (1 + W A.root) + (1 + W B.root) + 2 < n) :
    match oDiff E f n (some tOld.root) tNew.root s with
    | .ok evs s' => oents evs = diffL A.toList B.toList ∧ Good s' ∧
        ∀ g2 t2 C, repTree s g2 t2 = some C → FpOwned s.heap t2.id (footprint s g2 t2) →
          repTree s' g2 t2 = some C ∧ FpOwned s'.heap t2.id (footprint s' g2 t2)
    | .err s' => Good s' ∧
        ∀ g2 t2 C, repTree s g2 t2 = some C → FpOwned s.heap t2.id (footprint s g2 t2) →
          repTree s' g2 t2 = some C ∧ FpOwned s'.heap t2.id (footprint s' g2 t2)
    | _ => True := by
  obtain ⟨x, hx, _, rfl⟩ := repTree_eq_some.mp hA
  obtain ⟨y, hy, _, rfl⟩ := repTree_eq_some.mp hB
  have hAl : toList (T.unmk x.2.1) = toList x.2.1 := toList_unmk _
  have hBl : toList (T.unmk y.2.1) = toList y.2.1 := toList_unmk _
  have hW : ∀ t : T, 1 + W t ≤ 1 + W (T.unmk t) := fun t => Nat.add_le_add_left (by cases t <;> simp [T.unmk, W]) 1
  have hs := C06_object_level_entry_diff E 0 f g n s tOld.root tNew.root x.1 y.1 x.2.1 y.2.1 x.2.2 y.2.2 hg hx hy
    (hAl ▸ hso) (hBl ▸ hsn)
    (Nat.lt_of_le_of_lt (Nat.le_trans (Nat.add_le_add (hW _) (hW _)) (Nat.le_add_right _ 2)) hn)
  have keep : ∀ s', Grow 0 s s' → Good s' ∧ ∀ g2 t2 C, repTree s g2 t2 = some C →
      FpOwned s.heap t2.id (footprint s g2 t2) → repTree s' g2 t2 = some C ∧ FpOwned s'.heap t2.id (footprint s' g2 t2) :=
    fun s' hgr => ⟨hgr.good hg, hgr.trees⟩
  cases hr : oDiff E f n (some tOld.root) tNew.root s with
  | ok evs s' =>
    obtain ⟨hgr, he⟩ := hs.ok hr
    exact ⟨by rw [he, ← hAl, ← hBl]; rfl, keep s' hgr⟩
  | err s' => exact keep s' (hs.err hr)
  | stuck => trivial
  | panic => trivial
  | oof => trivial

/-- a `diffOne` that reports an error hands back the state it was given and has only allocated;
    the same step retried from there (any later pattern of faults) is again a correct step -/
theorem C06_object_level_failed_step_partial (E E2 : Env) (m f g : Nat) (st : ODiff) (s s1 : PS) (Lo Ln : List Item)
    (r : Option (ODiff × List OEv) × Bool) (hg : Good s)
    (hro : StackRep s g st.old Lo) (hrn : StackRep s g st.new Ln)
    (hso : Sorted (flat Lo)) (hsn : Sorted (flat Ln))
    (h : oStep E f st s = .ok r s1) (herr : r.2 = true) :
    r.1 = some (st, []) ∧ Grow m s s1 ∧
    Spec (Grow m) (oStep E2 f st) s1 (fun r' s' =>
      (r'.2 = false → OStepOK g Lo Ln r'.1 s') ∧ (r'.2 = true → r'.1 = some (st, []))) := by
  have hs := oStep_spec E f st (oStepBody_spec (m := m) E f g st s Lo Ln hg hro hrn hso hsn)
  unfold Spec at hs
  rw [h] at hs
  exact ⟨hs.2.2 herr, hs.1,
    oStep_spec E2 f st (oStepBody_spec E2 f g st s1 Lo Ln (hs.1.good hg) (hro.grow hs.1) (hrn.grow hs.1) hso hsn)⟩

/-! non-vacuity (kernel-checked): in the system reached by `hxOps` (`Lemmas/RefHistExample.lean`),
    tree 0 holds 2, 4, 5, 8 and tree 2 holds 3, 4, 5, 7, 8 — partly objects, partly names, with the
    persisted nodes shared through the cache -/
def hxDiff (i j : Nat) : Option (List DEv) :=
  hxSys.trees[i]?.bind fun to => hxSys.trees[j]?.bind fun tn =>
    match oDiff hxEnv 10 200 (some to.root) tn.root hxSys.ps with
    | .ok evs _ => some (oents evs)
    | _ => none
example : hxDiff 0 2 = some [DEv.rem 2 20, DEv.add 3 30, DEv.add 7 70] ∧
    hxDiff 2 0 = some [DEv.add 2 20, DEv.rem 3 30, DEv.rem 7 70] ∧ hxDiff 2 2 = some [] := by
  simp only [hxDiff, hxSys_eq]; decide +kernel

end Mast.Ptr
#print axioms Mast.Ptr.C06_object_level_entry_diff
#print axioms Mast.Ptr.C06_object_level_entry_diff_no_old
#print axioms Mast.Ptr.C06_object_level_trees
#print axioms Mast.Ptr.C06_object_level_failed_step_partial
