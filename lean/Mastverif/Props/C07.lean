import Mastverif.Lemmas.DiffNames
import Mastverif.Lemmas.DiffDistinct
/-!
# C07 — node diff (property theorems)

On the literal `diffOne` + `alreadyNotified` model (whose link events agree, event by event,
with what `DiffLinks` hands its callback: family `difflinks`):
* `C07_same_version_reports_nothing`: a version diffed with itself reports no node;
* `C07_common_link_not_reported`: when the same persisted link is on top of both stacks it is
  dropped without being reported;
* `C07_entry_stream_unaffected`: the link reports never disturb the traversal — the entry
  events are still exactly the sorted-merge diff (C06), so the traversal visits every region in
  which the versions differ.
* `C07_within_complete` (`Final`): for any two versions (old possibly absent, any heights, any
  residency, empty trees included), with content names and no hash collision among the nodes in
  play, when the traversal has ended
  - every node the new version reaches is reported as added or has a name the old version reaches
    (complete), and every reported name is the name of a node of the new version (within);
  - symmetrically for removed;
* `C07_replica`: hence a store holding the names of the old version plus the added names holds the
  name of every node of the new version.
* `C07_once`: no name is reported twice as added, nor twice as removed — for versions whose trees
  have strictly ascending entries and no entry-less childless node below the top (what every
  history produces: C09), however far the traversal gets (also when the callback stops it early).
Hypotheses throughout: content names without a hash collision among the nodes in play
(`NoCollision`), injective key / value encoders.
-/
namespace Mast.Diff
open T

variable (layer : Nat → Nat) (nameOf : T → List UInt8)

theorem C07_same_version_reports_nothing (t : T) (fuel : Nat) :
    (run layer nameOf (fuel + 2) (init (some (true, t)) true t)).1 = [] := by
  rw [run_same_version]

theorem C07_common_link_not_reported (s : St) (t : T) (os ns : List Item)
    (ho : s.old = Item.link true t :: os) (hn : s.new = Item.link true t :: ns) :
    ∃ o, step layer nameOf s = some o ∧ o.evs = [] :=
  ⟨_, step_linkEq layer nameOf ho hn (linkEq_self nameOf t), rfl⟩

theorem C07_entry_stream_unaffected (hle : ∀ a b, nameOf a = nameOf b → toList a = toList b)
    (f : Nat) (s : St) (ho : Sorted (flat s.old)) (hn : Sorted (flat s.new))
    (hf : mu s.old + mu s.new < f) :
    ents (run layer nameOf f s).1 = diffL (flat s.old) (flat s.new) :=
  run_correct layer nameOf hle f s ho hn hf

theorem C07_within_complete (e : Enc) (hnc : NoCollision e)
    (hk : Function.Injective e.keyB) (hv : Function.Injective e.valB)
    (oldRoot : Option (Bool × T)) (newP : Bool) (newRoot : T)
    (hso : ∀ p t, oldRoot = some (p, t) → Sorted (toList t)) (hsn : Sorted (toList newRoot)) (f : Nat)
    (hf : mu (init oldRoot newP newRoot).old + mu (init oldRoot newP newRoot).new < f) :
    Final (nodeName e) (oldNodes oldRoot)
      (versionNodes newP newRoot)
      (adds (run layer (nodeName e) f (init oldRoot newP newRoot)).1)
      (rems (run layer (nodeName e) f (init oldRoot newP newRoot)).1) := by
  have so : Sorted (flat (init oldRoot newP newRoot).old) := by
    cases oldRoot with
    | none => exact List.Pairwise.nil
    | some pt => exact (flat_rootItems pt.1 pt.2).symm ▸ hso pt.1 pt.2 rfl
  exact run_links layer (nodeName e) (name_eq_toList e hnc hk hv) (sameBelow_of_noCollision e hnc) _ _ f
    (init oldRoot newP newRoot) [] [] (sinv_init _ _ _ _ rfl) (sinv_init _ _ _ _ (oldNodes_init oldRoot newP newRoot))
    so ((flat_rootItems newP newRoot).symm ▸ hsn) hf

theorem C07_replica (e : Enc) (hnc : NoCollision e)
    (hk : Function.Injective e.keyB) (hv : Function.Injective e.valB)
    (oldRoot : Option (Bool × T)) (newP : Bool) (newRoot : T)
    (hso : ∀ p t, oldRoot = some (p, t) → Sorted (toList t)) (hsn : Sorted (toList newRoot)) (f : Nat)
    (hf : mu (init oldRoot newP newRoot).old + mu (init oldRoot newP newRoot).new < f)
    (store : List Name)
    (hold : ∀ x ∈ (oldNodes oldRoot), nodeName e x ∈ store)
    (hadd : ∀ n ∈ adds (run layer (nodeName e) f (init oldRoot newP newRoot)).1, n ∈ store) :
    ∀ x ∈ versionNodes newP newRoot, nodeName e x ∈ store :=
  (C07_within_complete layer e hnc hk hv oldRoot newP newRoot hso hsn f hf).covers store hold hadd

theorem C07_once (e : Enc) (hnc : NoCollision e)
    (hk : Function.Injective e.keyB) (hv : Function.Injective e.valB)
    (oldRoot : Option (Bool × T)) (newP : Bool) (newRoot : T)
    (hso : ∀ p t, oldRoot = some (p, t) → Solid t ∧ Sorted (toList t))
    (hsn : Solid newRoot ∧ Sorted (toList newRoot)) (f : Nat) :
    (adds (run layer (nodeName e) f (init oldRoot newP newRoot)).1).Nodup ∧
    (rems (run layer (nodeName e) f (init oldRoot newP newRoot)).1).Nodup := by
  have ho : OInv layer (nodeName e) (init oldRoot newP newRoot).old [] [] := by
    cases oldRoot with
    -- no old version: the empty stack, which is also the stack of the empty tree
    | none => exact init_once layer _ false nil List.nodup_nil (fun _ h => nomatch h)
    | some pt => exact oinv_root layer e hnc hk hv pt.1 pt.2 (hso pt.1 pt.2 rfl).1 (hso pt.1 pt.2 rfl).2
  exact run_once layer (nodeName e) f (init oldRoot newP newRoot) [] []
    (oinv_root layer e hnc hk hv newP newRoot hsn.1 hsn.2) ho

/-- non-vacuity: one key changed under a two-level tree — the changed leaf and the top are added -/
example : adds (run (fun _ => 0) (fun t => (toList t).map fun e => (e.1 * 16 + e.2).toUInt8) 12
    (init (some (true, cons true (cons true nil 2 0 (last true nil)) 4 0 (last true (cons true nil 7 0 (last true nil)))))
      true (cons true (cons true nil 2 0 (last true nil)) 4 0 (last true (cons true nil 7 1 (last true nil)))))).1 = [[32, 64, 113], [113]] := by
  decide +kernel

end Mast.Diff
#print axioms Mast.Diff.C07_within_complete
#print axioms Mast.Diff.C07_replica
#print axioms Mast.Diff.C07_once
#print axioms Mast.Diff.C07_same_version_reports_nothing
#print axioms Mast.Diff.C07_common_link_not_reported
#print axioms Mast.Diff.C07_entry_stream_unaffected
