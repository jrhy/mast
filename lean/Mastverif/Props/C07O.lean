import Mastverif.Lemmas.RefDiffSim
import Mastverif.Props.C07
import Mastverif.Props.C06O
/-!
# C07 at the level of node objects (property theorems)

For two PERSISTED versions — held by name, every node below them a stored node — read through a
store that does not fail (C07 does not speak about failing stores), the object-level diff loop of
`Model/PtrDiff.lean` (node objects decoded or taken from the cache, counted loads, the per-height memo
of `alreadyNotified` with its own loads) is, event by event, the literal functional `diffOne` loop of
`Model/Diff.lean`: `C07_object_level_is_the_functional_diff`.  The link events carry the names; a name
`k` is read as `nameOf (row k denotes)`.

Hence the theorems of `Props/C07.lean` hold of the object-level transcription:
* `C07_object_level_within_complete`: complete and within, both directions;
* `C07_object_level_replica`: a store with the old version's names plus the added names holds the
  name of every node of the new version;
* `C07_object_level_once`: no name is reported twice as added, nor twice as removed.
Hypotheses: `NoFail E`; `Naming (nodeName e) nm s.store` — the content name of the row a stored node
denotes is a function `nm` of its index, injective (content addressing without collisions: what
`NoCollision` says of the nodes in play, and that the store interns equal contents); non-empty
versions (the functional `rootItemStack` drops an entry-less childless top row; such a node is never
stored).  For trees held partly in memory, for failing stores and for the callback order the tie
(families `difflinks`, `ptr`) carries C07.
-/
namespace Mast.Ptr
open Mast.Heap Mast Mast.Diff Mast.T

theorem C07_object_level_is_the_functional_diff (E : Env) (hnf : NoFail E) (nameOf : T → List UInt8) (nm : Nat → List UInt8)
    (m f g n k1 k2 : Nat) (s : PS) (t1 t2 : T) (f1 f2 : List Nat) (hg : Good s) (hna : Naming nameOf nm s.store)
    (hx1 : repLink s.heap s.store g (.ref k1) = some (true, t1, f1))
    (hx2 : repLink s.heap s.store g (.ref k2) = some (true, t2, f2))
    (hr1 : rootItems true t1 = [Item.link true t1]) (hr2 : rootItems true t2 = [Item.link true t2]) :
    Spec (Grow m) (oDiff E f n (some (.ref k1)) (.ref k2)) s
      (fun evs _ => evs.map (evMap nm) = (Diff.run E.layer nameOf n (init (some (true, t1)) true t2)).1) :=
  oDiff_sim E hnf nameOf nm f n hg hna hx1 hx2 hr1 hr2

theorem C07_object_level_is_the_functional_diff_no_old (E : Env) (hnf : NoFail E) (nameOf : T → List UInt8) (nm : Nat → List UInt8)
    (m f g n k2 : Nat) (s : PS) (t2 : T) (f2 : List Nat) (hg : Good s) (hna : Naming nameOf nm s.store)
    (hx2 : repLink s.heap s.store g (.ref k2) = some (true, t2, f2))
    (hr2 : rootItems true t2 = [Item.link true t2]) :
    Spec (Grow m) (oDiff E f n none (.ref k2)) s
      (fun evs _ => evs.map (evMap nm) = (Diff.run E.layer nameOf n (init none true t2)).1) :=
  oRun_sim (m := m) E hnf nameOf nm f g n { old := [], new := [OItem.link (.ref k2)] } _ s hg hna
    ⟨trivial, (stackRep_root hx2 hr2).1, (fun _ h => nomatch h), (stackRep_root hx2 hr2).2,
      rfl, rfl, (fun _ h => nomatch h), (fun _ h => nomatch h)⟩

variable (e : Enc)

theorem C07_object_level_within_complete (E : Env) (hnf : NoFail E) (nm : Nat → List UInt8) (hnc : NoCollision e)
    (hk : Function.Injective e.keyB) (hv : Function.Injective e.valB)
    (f g n k1 k2 : Nat) (s s' : PS) (t1 t2 : T) (f1 f2 : List Nat) (evs : List OEv) (hg : Good s)
    (hna : Naming (nodeName e) nm s.store)
    (hx1 : repLink s.heap s.store g (.ref k1) = some (true, t1, f1))
    (hx2 : repLink s.heap s.store g (.ref k2) = some (true, t2, f2))
    (hr1 : rootItems true t1 = [Item.link true t1]) (hr2 : rootItems true t2 = [Item.link true t2])
    (hs1 : Sorted (toList t1)) (hs2 : Sorted (toList t2))
    (hn : mu (init (some (true, t1)) true t2).old + mu (init (some (true, t1)) true t2).new < n)
    (hrun : oDiff E f n (some (.ref k1)) (.ref k2) s = .ok evs s') :
    Final (nodeName e) (versionNodes true t1) (versionNodes true t2)
      (adds (evs.map (evMap nm))) (rems (evs.map (evMap nm))) := by
  rw [oDiff_events E hnf (nodeName e) nm hg hna hx1 hx2 hr1 hr2 hrun]
  exact C07_within_complete E.layer e hnc hk hv (some (true, t1)) true t2
    (fun p t h => by injection h with h; injection h with _ h2; subst h2; exact hs1) hs2 n hn

theorem C07_object_level_replica (E : Env) (hnf : NoFail E) (nm : Nat → List UInt8) (hnc : NoCollision e)
    (hk : Function.Injective e.keyB) (hv : Function.Injective e.valB)
    (f g n k1 k2 : Nat) (s s' : PS) (t1 t2 : T) (f1 f2 : List Nat) (evs : List OEv) (hg : Good s)
    (hna : Naming (nodeName e) nm s.store)
    (hx1 : repLink s.heap s.store g (.ref k1) = some (true, t1, f1))
    (hx2 : repLink s.heap s.store g (.ref k2) = some (true, t2, f2))
    (hr1 : rootItems true t1 = [Item.link true t1]) (hr2 : rootItems true t2 = [Item.link true t2])
    (hs1 : Sorted (toList t1)) (hs2 : Sorted (toList t2))
    (hn : mu (init (some (true, t1)) true t2).old + mu (init (some (true, t1)) true t2).new < n)
    (hrun : oDiff E f n (some (.ref k1)) (.ref k2) s = .ok evs s')
    (store : List Name) (hold : ∀ x ∈ versionNodes true t1, nodeName e x ∈ store)
    (hadd : ∀ nme ∈ adds (evs.map (evMap nm)), nme ∈ store) :
    ∀ x ∈ versionNodes true t2, nodeName e x ∈ store :=
  (C07_object_level_within_complete e E hnf nm hnc hk hv f g n k1 k2 s s' t1 t2 f1 f2 evs hg hna hx1 hx2 hr1 hr2 hs1 hs2 hn
    hrun).covers store hold hadd

theorem C07_object_level_once (E : Env) (hnf : NoFail E) (nm : Nat → List UInt8) (hnc : NoCollision e)
    (hk : Function.Injective e.keyB) (hv : Function.Injective e.valB)
    (f g n k1 k2 : Nat) (s s' : PS) (t1 t2 : T) (f1 f2 : List Nat) (evs : List OEv) (hg : Good s)
    (hna : Naming (nodeName e) nm s.store)
    (hx1 : repLink s.heap s.store g (.ref k1) = some (true, t1, f1))
    (hx2 : repLink s.heap s.store g (.ref k2) = some (true, t2, f2))
    (hr1 : rootItems true t1 = [Item.link true t1]) (hr2 : rootItems true t2 = [Item.link true t2])
    (hs1 : Solid t1 ∧ Sorted (toList t1)) (hs2 : Solid t2 ∧ Sorted (toList t2))
    (hrun : oDiff E f n (some (.ref k1)) (.ref k2) s = .ok evs s') :
    (adds (evs.map (evMap nm))).Nodup ∧ (rems (evs.map (evMap nm))).Nodup := by
  rw [oDiff_events E hnf (nodeName e) nm hg hna hx1 hx2 hr1 hr2 hrun]
  exact C07_once E.layer e hnc hk hv (some (true, t1)) true t2
    (fun p t h => by injection h with h; injection h with _ h2; subst h2; exact hs1) hs2 n

/-! ## non-vacuity -/


def nvStore : List SNode := [{ keys := [1], vals := [10], links := [] }, { keys := [1], vals := [11], links := [] }]
def nvS : PS := { store := nvStore }
def nvName : T → List UInt8 := fun t => (toList t).map fun e => (e.1 * 16 + e.2).toUInt8
def nvNm : Nat → List UInt8
  | 1 => [26]
  | 2 => [27]
  | k => [0, 0] ++ List.replicate k 1

theorem nvNm_inj : ∀ a b, nvNm a = nvNm b → a = b := by
  -- the index is read off the name: by its byte for `1` and `2`, by its length otherwise
  have dec : ∀ a, (match nvNm a with | [26] => 1 | [27] => 2 | l => l.length - 2) = a
    | 0 => rfl
    | 1 => rfl
    | 2 => rfl
    | a + 3 => by simp [nvNm]
  intro a b h
  rw [← dec a, ← dec b, h]

theorem leaf_row {h : Heap} {st : List SNode} {g n k v : Nat} {x : Bool × T × List Nat}
    (hx : repLink h st g (.ref n) = some x) (hsn : storeAt st n = some { keys := [k], vals := [v], links := [] }) :
    x.2.1 = T.cons false T.nil k v (T.last false T.nil) := by
  obtain ⟨g', sn, cs, rfl, hsn', _, hseq, rfl⟩ := repLink_ref_some.mp hx
  obtain rfl := Option.some.inj (hsn'.symm.trans hsn)
  have hcs : seqO [repLink h st g' .nil, repLink h st g' .nil] = some cs := hseq
  rw [repLink_nil] at hcs
  cases hcs
  rfl

theorem nv_agree : ∀ (h : Heap) g n x, repLink h nvStore g (.ref n) = some x → nvName x.2.1 = nvNm n := by
  intro h g n x hx
  match n with
  | 1 => rw [leaf_row hx (k := 1) (v := 10) rfl]; rfl
  | 2 => rw [leaf_row hx (k := 1) (v := 11) rfl]; rfl
  | 0 => obtain ⟨_, _, _, _, hsn, _⟩ := repLink_ref_some.mp hx; cases hsn
  | k + 3 => obtain ⟨_, _, _, _, hsn, _⟩ := repLink_ref_some.mp hx; simp [storeAt, nvStore] at hsn

def nvEnv : Env := { layer := fun _ => 0, failAt := fun _ => false }

theorem nv_good : Good nvS := by
  refine ⟨?_, ?_, ?_, ?_⟩
  · intro n a h; simp [nvS] at h
  · intro a nd h; simp [nvS] at h
  · intro sn hsn l hl
    simp [nvS, nvStore] at hsn
    rcases hsn with rfl | rfl <;> simp at hl
  · intro a nd h; simp [nvS] at h

/-- non-vacuity of the hypotheses of the theorems above: a store with two leaf nodes that differ in
    one value; `Naming`, `NoFail`, `Good`, the two rows, and the run itself (kernel-checked): the old
    leaf is reported removed, the new one added, the entry changed -/
example : Naming nvName nvNm nvS.store ∧ NoFail nvEnv ∧ Good nvS ∧
    repLink nvS.heap nvS.store 3 (.ref 1) = some (true, T.cons false T.nil 1 10 (T.last false T.nil), []) ∧
    repLink nvS.heap nvS.store 3 (.ref 2) = some (true, T.cons false T.nil 1 11 (T.last false T.nil), []) :=
  ⟨⟨nv_agree, nvNm_inj⟩, ⟨fun _ => rfl, fun _ => rfl⟩, nv_good, by decide, by decide⟩

example : (match oDiff nvEnv 5 20 (some (.ref 1)) (.ref 2) nvS with
    | .ok evs _ => some (evs.map (evMap nvNm))
    | _ => none) = some [DEv.remLink [26], DEv.addLink [27], DEv.chg 1 10 11] := by decide +kernel

end Mast.Ptr
#print axioms Mast.Ptr.C07_object_level_is_the_functional_diff
#print axioms Mast.Ptr.C07_object_level_is_the_functional_diff_no_old
#print axioms Mast.Ptr.C07_object_level_within_complete
#print axioms Mast.Ptr.C07_object_level_replica
#print axioms Mast.Ptr.C07_object_level_once
