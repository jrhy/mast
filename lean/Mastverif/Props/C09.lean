import Mastverif.Lemmas.History
/-!
# C09 — Merkle-search-tree shape of every persisted version (property theorems)

`WF layer d t` (Lemmas/WF.lean) is the shape of the property: a child exists only one level
down (no node below level 0, level-0 nodes childless), the keys of a node at level d have
layer ≥ d while every key below one of its child links has layer < d (so exactly d below the
top; the top node also holds the higher layers), a node is a row of n entries and n+1 child
slots by construction, and a child link never leads to an entry-less childless node (only
pass-through nodes are entry-less).  With `Sorted` (strictly ascending in-order traversal:
every key below a child lies strictly between the neighbouring keys) and `size = number of
entries` this is `Tree.Inv`.
`C09_shape_every_history`: the invariant holds after EVERY history of inserts, updates, deletes
and persists from the empty tree, for every layer function (adversarial user `Key` types
included) and every branch factor ≥ 2; `C09_persisted_shape`: flushing changes nothing about
it.  Tie: family `persist` decodes every stored node with the harness's own decoders and
evaluates the same invariants on the implementation, and compares the decoded graph with the
model's tree.
-/
namespace Mast.Tree
open T

variable (layer : Nat → Nat)

theorem C09_shape_every_history (e : Enc) (bf : Nat) (hbf : 2 ≤ bf) (ops : List Op) :
    let m := execT layer e (Tree.empty bf) ops
    WF layer m.height m.root ∧ Sorted m.toList ∧ m.size = m.toList.length := by
  have := inv_execT layer e ops (Tree.empty bf) (inv_empty layer bf hbf)
  exact ⟨this.wf, this.sorted, this.size⟩

theorem C09_shape_preserved (e : Enc) (m : Tree) (op : Op) (hi : Inv layer m) :
    Inv layer (stepT layer e m op).1 := (step_refines layer e m op hi).2.1

theorem C09_persisted_shape (e : Enc) (m : Tree) (hi : Inv layer m) :
    let p := (makeRoot e m).2.2
    WF layer p.height p.root ∧ Sorted p.toList ∧ p.size = p.toList.length ∧
    (makeRoot e m).2.1.size = p.size ∧ (makeRoot e m).2.1.height = p.height := by
  obtain ⟨r, rp, d, h, hr⟩ := makeRoot_tree e m
  have hp := (inv_of_erase layer hi rp d hr).1
  rw [h, makeRoot_rec]
  exact ⟨hp.wf, hp.sorted, hp.size, rfl, rfl⟩

theorem C09_split_shape (t : T) (d x : Nat) (h : WF layer d t) :
    WF layer d (split t x).1 ∧ WF layer d (split t x).2 := split_WF layer t d x h

theorem C09_shape_ignores_residency (t : T) (d : Nat) :
    WF layer d (erase t) ↔ WF layer d t := WF_erase layer t d

/-- non-vacuity: a three-level tree with a pass-through node, layers = k % 4 -/
example : WF (fun k => k % 4) 2
    (cons false (last false (cons false nil 4 0 (last false nil))) 6 0 (last false nil)) :=
  ⟨by decide, Or.inl rfl, Or.inr ⟨1, rfl, rfl,
    Or.inr ⟨0, rfl, rfl, ⟨Nat.zero_le _, Or.inl rfl, Or.inl rfl⟩, by decide⟩, by decide⟩⟩

end Mast.Tree
#print axioms Mast.Tree.C09_shape_every_history
#print axioms Mast.Tree.C09_shape_preserved
#print axioms Mast.Tree.C09_persisted_shape
#print axioms Mast.Tree.C09_split_shape
#print axioms Mast.Tree.C09_shape_ignores_residency
