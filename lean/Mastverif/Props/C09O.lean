import Mastverif.Props.C01O
import Mastverif.Lemmas.TreeInv
import Mastverif.Lemmas.RefHistExample
/-!
# C09 at the level of node objects: the node objects always denote a tree of the canonical shape

`Props/C01O.lean` relates the object-level `Insert` / `Delete` (heap, flags, copy-on-write, cache,
failing loads) to the functional operations on the tree the objects denote; `Lemmas/TreeInv.lean`
shows that those keep the shape invariant (`Tree.Inv`: every key on the level of its layer, keys
ascending within and across nodes, no empty node but the top of an empty tree, size = number of
entries, thresholds = powers of the branch factor).  Together: whatever the residency of the nodes,
the sharing with other trees and the state of the cache, a successful object-level `Insert` /
`Delete` on objects that denote a tree of that shape leaves objects that denote a tree of that
shape — holding exactly the updated entry list.
-/
namespace Mast.Ptr
open Mast.Heap Mast Mast.Tree Mast.T

theorem C09_object_level_insert_keeps_shape (E : Env) (fuel g : Nat) (s s' : PS) (t t' : PTree) (k v : Nat) (A : Tree)
    (hg : Good s) (hown : FpOwned s.heap t.id (footprint s g t)) (hth : Thresh t)
    (hA : repTree s g t = some A) (hi : Tree.Inv E.layer A) (h : insert E fuel s t k v = (s', t', .ok)) :
    ∃ g' A', repTree s' g' t' = some A' ∧ Tree.Inv E.layer A' ∧ A'.toList = insL k v A.toList ∧ Good s' := by
  obtain ⟨g', A', h1, h2, h3, _⟩ := C01_object_level_insert E fuel g s s' t t' k v A hg hown hth hA h
  obtain ⟨m', hm, hinv, hl, _⟩ := insert_spec E.layer A k v hi
  rw [hm] at h2
  injection h2 with h2
  subst h2
  exact ⟨g', _, h1, hinv, hl, h3⟩

theorem C09_object_level_delete_keeps_shape (E : Env) (fuel g : Nat) (s s' : PS) (t t' : PTree) (k v : Nat) (A : Tree)
    (hg : Good s) (hown : FpOwned s.heap t.id (footprint s g t)) (hth : Thresh t)
    (hA : repTree s g t = some A) (hi : Tree.Inv E.layer A) (hpres : getL k A.toList = some v)
    (h : delete E fuel s t k v = (s', t', .ok)) (hroot : t'.root ≠ .nil) :
    ∃ g' A', repTree s' g' t' = some A' ∧ Tree.Inv E.layer A' ∧ A'.toList = delL k A.toList ∧ Good s' := by
  obtain ⟨g', A', h1, h2, h3, _⟩ := C01_object_level_delete E fuel g s s' t t' k v A hg hown hth hA h hroot
  obtain ⟨m', hm, hinv, hl, _⟩ := delete_spec E.layer A k v hi hpres
  rw [hm] at h2
  injection h2 with h2
  subst h2
  exact ⟨g', _, h1, hinv, hl, h3⟩

/-- non-vacuity (kernel-checked): tree 2 of the system reached by `hxOps` (objects and names mixed) denotes a
    tree with ascending entries, size = number of entries, thresholds bf^(height+1) and bf^height -/
example : (hxSys.trees[2]?.bind fun t => (repTree hxSys.ps 10 t).map fun B =>
      (B.toList, B.size, B.height, B.bf, B.growAfter, B.shrinkBelow)) =
    some ([(3, 30), (4, 40), (5, 50), (7, 70), (8, 80)], 5, 1, 2, 4, 2) := by rw [hxSys_eq]; decide +kernel

end Mast.Ptr
#print axioms Mast.Ptr.C09_object_level_insert_keeps_shape
#print axioms Mast.Ptr.C09_object_level_delete_keeps_shape
