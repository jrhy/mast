import Mastverif.Lemmas.CursorWalk
import Mastverif.Lemmas.History
/-!
# C10 — cursor and seek navigation (property theorems)

The cursor functions are total on every tree, including both empty forms: there is no input
on which the model (and, by the `cursor` family, the repaired Go code) panics — the three
panics of the pinned release were repaired (known_findings.txt).
`C10_seekIter_spec`: iterating from a probe key — the repaired `SeekIter`: seek with the `Ceil`
descent, then emit from every path entry, deepest first — yields EXACTLY the entries whose keys
are not smaller than the probe, ascending, each once, for every tree with strictly ascending
entries (any shape, height, residency; the probe present or absent, of any layer);
`C10_seekIter_stop`: a callback that signals done after j entries has seen exactly the first j.
`C10_min_forward_walk` / `C10_ceil_forward_walk`: a cursor placed at the minimum (resp. at the least
key not smaller than a probe, present or absent, of any layer) and stepped forward n times is at
the n-th entry of the sorted list (resp. of its suffix from the probe), and reports "no entry"
exactly when n reaches the end — on every well-formed tree of any shape and height, and from then
on it stays off the end.
`C10_walk` is the statement at full strength: a cursor placed by `Min`, `Max` or `Ceil` (any probe,
present or absent) and then moved by ANY list of `Forward` / `Backward` steps, in any order, reads
exactly what index arithmetic on the sorted entry list gives — `Min` = index 0, `Max` = the last
index, `Ceil k` = the number of keys smaller than `k`; a step moves the index by one; stepping off
either end gives "no entry", which is absorbing — on every well-formed tree of any shape and
height, including the entry-less top node; `C10_walk_no_root` is the same for the tree without a
root node (every read is "no entry"; no call panics: the model functions are total and follow the
repaired Go code branch by branch, tie = family `cursor`).
Also proved about positions: the in-node search `lowerBound` returns the index of the
first key that is not smaller than the probe (`C10_lowerBound_spec`), and a cursor with an
empty path reports "no entry" and stays empty under every move (`C10_off_end_is_absorbing`).
The tie (family `cursor`) compares every position of random walks with direction changes on
sparse multi-level trees with the model and with an index into the sorted Go map.
-/
namespace Mast
open T

theorem C10_lowerBound_spec (k : Nat) : ∀ (row : T),
    (∀ i, i < lowerBound k row → ∃ e, entryAt row i = some e ∧ e.1 < k) ∧
    (∀ e, entryAt row (lowerBound k row) = some e → k ≤ e.1) := by
  intro row
  induction row with
  | nil => exact ⟨fun i h => absurd h (Nat.not_lt_zero _), fun e h => nomatch h⟩
  | last p c _ => exact ⟨fun i h => absurd h (Nat.not_lt_zero _), fun e h => nomatch h⟩
  | cons p c k' v' r _ ihr =>
    simp only [lowerBound]
    split
    · next hlt =>
      refine ⟨fun i hi => ?_, fun e he => ihr.2 e he⟩
      cases i with
      | zero => exact ⟨(k', v'), rfl, hlt⟩
      | succ i => exact ihr.1 i (Nat.lt_of_succ_lt_succ hi)
    · next hge =>
      refine ⟨fun i hi => absurd hi (Nat.not_lt_zero _), fun e he => ?_⟩
      cases he
      exact Nat.le_of_not_lt hge

theorem C10_off_end_is_absorbing (fuel k : Nat) :
    Cursor.get [] = none ∧ Cursor.min fuel [] = [] ∧ Cursor.max fuel [] = [] ∧
    Cursor.forward fuel [] = [] ∧ Cursor.backward fuel [] = [] ∧ Cursor.ceil k fuel [] = [] := by
  refine ⟨rfl, rfl, rfl, rfl, rfl, ?_⟩
  cases fuel <;> rfl

theorem C10_seekIter_spec (root : T) (k fuel : Nat) (hs : Sorted (toList root)) (hf : lvl root < fuel) :
    Cursor.seekIter fuel root k = (toList root).dropWhile (fun e => decide (e.1 < k)) :=
  (Cursor.ceil_ahead hs hf k).out_eq

theorem C10_seekIter_stop (root : T) (k fuel j : Nat) (hs : Sorted (toList root)) (hf : lvl root < fuel) :
    (Cursor.seekIter fuel root k).take j = ((toList root).dropWhile (fun e => decide (e.1 < k))).take j := by
  rw [C10_seekIter_spec root k fuel hs hf]

/-- a cursor placed at the minimum and stepped forward n times reads the n-th entry, and reports
    "no entry" exactly from the end of the list on -/
theorem C10_min_forward_walk (layer : Nat → Nat) (root : T) (d fuel n : Nat) (hw : WF layer d root)
    (hne : isEmptyRow root = false) (hf : lvl root < fuel) :
    Cursor.get (Cursor.forwardN fuel n (Cursor.min fuel [(root, 0)])) = ((toList root).drop n).head? :=
  (Cursor.forwardN_spec (solid_of_WF layer root d hw) hf n (Cursor.min_spec (full_of_WF hw hne) hf)).get

theorem C10_off_end_exactly (layer : Nat → Nat) (root : T) (d fuel n : Nat) (hw : WF layer d root)
    (hne : isEmptyRow root = false) (hf : lvl root < fuel) :
    Cursor.forwardN fuel n (Cursor.min fuel [(root, 0)]) = [] ↔ (toList root).length ≤ n :=
  (Cursor.forwardN_spec (solid_of_WF layer root d hw) hf n
    (Cursor.min_spec (full_of_WF hw hne) hf)).eq_nil_iff.trans List.drop_eq_nil_iff

/-- a cursor placed by `Ceil` at the least key not smaller than the probe (present or absent, of any
    layer) and stepped forward n times reads the n-th entry of the suffix of the sorted list that
    starts at the probe; "no entry" exactly from the end on -/
theorem C10_ceil_forward_walk (layer : Nat → Nat) (root : T) (d fuel n k : Nat) (hw : WF layer d root)
    (hsrt : Sorted (toList root)) (hf : lvl root < fuel) :
    Cursor.get (Cursor.forwardN fuel n (Cursor.ceil k fuel [(root, 0)])) =
      (((toList root).dropWhile (fun e => decide (e.1 < k))).drop n).head? :=
  (Cursor.forwardN_spec (solid_of_WF layer root d hw) hf n (Cursor.ceil_ahead hsrt hf k)).get

theorem C10_walk (layer : Nat → Nat) (root : T) (d fuel : Nat) (hw : WF layer d root)
    (hsrt : Sorted (toList root)) (hf : lvl root < fuel) (pl : Cursor.Place) (ms : List Cursor.Move) :
    Cursor.get (ms.foldl (Cursor.stepPath fuel) (Cursor.place fuel root pl)) =
      (ms.foldl (Cursor.stepIdx (toList root).length) (Cursor.placeIdx (toList root) pl)).bind
        fun n => (toList root)[n]? :=
  Cursor.walk_spec (solid_of_WF layer root d hw) hsrt hf pl ms

/-- ... on the tree reached by EVERY history of inserts and deletes from the empty tree -/
theorem C10_walk_every_history (layer : Nat → Nat) (e : Enc) (bf : Nat) (hbf : 2 ≤ bf) (ops : List Tree.Op)
    (pl : Cursor.Place) (ms : List Cursor.Move) :
    let m := Tree.execT layer e (Tree.empty bf) ops
    Cursor.get (ms.foldl (Cursor.stepPath (m.height + 1)) (Cursor.place (m.height + 1) m.root pl)) =
      (ms.foldl (Cursor.stepIdx m.toList.length) (Cursor.placeIdx m.toList pl)).bind fun n => m.toList[n]? := by
  intro m
  have hi := Tree.inv_execT layer e ops (Tree.empty bf) (Tree.inv_empty layer bf hbf)
  exact C10_walk layer m.root m.height (m.height + 1) hi.wf hi.sorted
    (Nat.lt_succ_of_le (lvl_le_of_WF layer m.root m.height hi.wf)) pl ms

/-- the tree without a root node: every placement and every walk reads "no entry" -/
theorem C10_walk_no_root (fuel : Nat) (pl : Cursor.Place) (ms : List Cursor.Move) :
    Cursor.get (ms.foldl (Cursor.stepPath (fuel + 1)) (Cursor.place (fuel + 1) nil pl)) = none := by
  have h := Cursor.walk_rel (root := nil) trivial (Nat.succ_pos fuel) ms (Cursor.place_empty (Or.inl rfl) (fuel + 1) pl)
  rw [Cursor.stepIdx_none] at h
  exact h.2.1

/-- non-vacuity of `C10_walk`: Max, two steps back, one forward on a two-level tree -/
example : Cursor.get ([.bwd, .bwd, .fwd].foldl (Cursor.stepPath 10) (Cursor.place 10
    (cons false (cons false nil 2 0 (last false nil)) 4 0 (last false (cons false nil 7 0 (last false nil)))) .max))
    = some (4, 0) := by decide

/-- non-vacuity: probe 5 (absent) on a two-level tree -/
example : Cursor.seekIter 10 (cons false (cons false nil 2 0 (last false nil)) 4 0 (last false (cons false nil 7 0 (last false nil)))) 5 = [(7, 0)] := by
  decide

end Mast
#print axioms Mast.C10_walk
#print axioms Mast.C10_walk_no_root
#print axioms Mast.C10_walk_every_history
#print axioms Mast.C10_min_forward_walk
#print axioms Mast.C10_off_end_exactly
#print axioms Mast.C10_ceil_forward_walk
#print axioms Mast.C10_seekIter_spec
#print axioms Mast.C10_seekIter_stop
#print axioms Mast.C10_lowerBound_spec
#print axioms Mast.C10_off_end_is_absorbing
