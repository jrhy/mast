import Mastverif.Lemmas.RefCursor
import Mastverif.Lemmas.RefSeek
import Mastverif.Lemmas.TreeInv
import Mastverif.Lemmas.RefHistExample
import Mastverif.Props.C10
/-!
# C10 at the level of node objects (property theorems)

`Props/C10.lean` proves the navigation property for the functional cursor (`Model/Cursor.lean`).
The theorems here carry it over to the cursor of `Model/PtrCursor.lean`: a clone of the tree and a
path of `(node object, index)` pairs, whose functions read node objects from the heap and load
children through the node cache / store — counted loads, any of which may fail.

* `C10_object_level_place / _step / _get`: from a `Good` state and an object path that denotes a
  functional path `P` (`PathRep`: same indices, every object denotes the row at its position),
  `Min` / `Max` / `Ceil`, `Forward` / `Backward` and `Get` are allocation-only steps and, when they
  report no error, leave a path that denotes what the functional cursor computes from `P` (resp.
  return the entry the functional cursor is at);
* `C10_object_level_failed_move_stays`: a `Forward` / `Backward` that reports an error leaves the
  cursor exactly where it was (the C12 clause for navigation calls, for every position of the
  failing load);
* `C10_object_level_navigate`: `Cursor()` on a tree whose objects denote a well-formed functional
  tree `A`, any placement, ANY list of moves, then `Get` — whenever no call reported an error, the
  entry read is what index arithmetic on the sorted entry list of `A` gives (`C10_walk`), and every
  tree of the system denotes what it denoted (the cursor is a capture: it works on a clone and only
  allocates);
* `C10_object_level_seekIter`: `SeekIter` over the tree's own objects (seek with `Ceil`, then
  `node.seekIter` from every path entry, children loaded and iterated) hands to its callback exactly
  the entries whose keys are not smaller than the probe, ascending, each once; it only allocates.
Tie: family `ptr` (cursor paths — object identities and indices — compared after every cursor
call).
-/
namespace Mast.Ptr
open Mast.Heap Mast

variable {w : Nat}

theorem C10_object_level_place (E : Env) (m g f : Nat) (opath : CPath) (s : PS) (root : T) (pl : CPlace)
    (hg : Good s) (hp : PathRep w s g opath [(root, 0)]) :
    Spec (Grow m) (cPlace E f opath pl) s (NavPost w g (Cursor.place f root (toPlace pl))) :=
  cPlace_spec E g f opath s root pl hg hp

theorem C10_object_level_step (E : Env) (m g f : Nat) (opath : CPath) (s : PS) (P : Path) (mv : CMove)
    (hg : Good s) (hp : PathRep w s g opath P) :
    Spec (Grow m) (cStep E f opath mv) s (MovePost w g opath (Cursor.stepPath f P (toMove mv))) :=
  cStep_spec E g f opath s P mv hg hp

theorem C10_object_level_get (m g : Nat) (opath : CPath) (s : PS) (P : Path) (hp : PathRep w s g opath P) :
    Spec (Grow m) (cGet opath) s (fun r s' => s' = s ∧ r = Cursor.get P) :=
  cGet_spec g opath s P hp

/-- a `Forward` / `Backward` that reports an error (a load failed, at any position of the descent)
    leaves the cursor where it was -/
theorem C10_object_level_failed_move_stays (E : Env) (g f : Nat) (opath : CPath) (s s' : PS) (P : Path)
    (mv : CMove) (r : CPath × Bool) (hg : Good s) (hp : PathRep w s g opath P)
    (h : cStep E f opath mv s = .ok r s') (herr : r.2 = true) :
    r.1 = opath ∧ PathRep w s' g opath P := by
  have hs := (cStep_spec (m := 0) E g f opath s P mv hg hp).ok h
  exact ⟨hs.2.2 herr, hp.grow hs.1⟩

/-- C10 at the level of node objects: `Cursor()` on a tree whose objects denote the well-formed
    functional tree `A`, any placement (`Min` / `Max` / `Ceil k`), ANY list of `Forward` / `Backward`
    moves, then `Get` — with a node cache or none, any fuel above the height, and any pattern of
    failing loads: whenever no call reported an error (`some e`), the entry read is what index
    arithmetic on the sorted entry list of `A` gives; and, error or not, every tree `t2` of the
    system denotes what it denoted (the cursor works on its own clone and only allocates) -/
theorem C10_object_level_navigate (E : Env) (t : PTree) (newId fuel f g : Nat) (pl : CPlace) (ms : List CMove)
    (s : PS) (A : Tree) (hg : Good s) (hA : repTree s g t = some A) (hinv : Tree.Inv E.layer A)
    (hf : A.height < f) :
    match cNavigate E t newId fuel f pl ms s with
    | .ok r s' =>
        (∀ e, r = some e → e =
          ((ms.map toMove).foldl (Cursor.stepIdx A.toList.length) (Cursor.placeIdx A.toList (toPlace pl))).bind
            fun n => A.toList[n]?) ∧
        Good s' ∧ ∀ g2 t2 B, repTree s g2 t2 = some B → FpOwned s.heap t2.id (footprint s g2 t2) →
          repTree s' g2 t2 = some B ∧ FpOwned s'.heap t2.id (footprint s' g2 t2)
    | .err s' => Good s' ∧ ∀ g2 t2 B, repTree s g2 t2 = some B → FpOwned s.heap t2.id (footprint s g2 t2) →
          repTree s' g2 t2 = some B ∧ FpOwned s'.heap t2.id (footprint s' g2 t2)
    | _ => True := by
  obtain ⟨x, hx, _, hroot⟩ := repTree_root hA
  have hs := cNavigate_spec E t newId fuel f g pl ms s x hg hx
  cases hr : cNavigate E t newId fuel f pl ms s with
  | ok r s' =>
    have hs := hs.ok hr
    refine ⟨?_, hs.1.good hg, hs.1.trees⟩
    intro e he
    obtain ⟨P0, rfl, h1, h2⟩ := hs.2 e he
    have hsolid := T.solid_of_WF E.layer A.root A.height hinv.wf
    have hlvl := Nat.lt_of_le_of_lt (T.lvl_le_of_WF E.layer A.root A.height hinv.wf) hf
    -- without a root node the cursor's path is empty and there is no index
    have hrel : Cursor.Rel A.root P0 (Cursor.placeIdx A.toList (toPlace pl)) := by
      by_cases hnil : t.root = .nil
      · rw [hnil, repLink_nil] at hx
        injection hx with hx; subst hx
        rw [h2 hnil, show A.toList = [] by rw [Tree.toList, hroot]; rfl,
          show Cursor.placeIdx [] (toPlace pl) = none by cases pl <;> rfl]
        exact Cursor.rel_nil _
      · rw [h1 hnil, ← unmk_of_ne_nil (repLink_row_ne_nil hx hnil), ← hroot]
        exact Cursor.place_rel hsolid hinv.sorted hlvl _
    exact Cursor.get_rel (Cursor.walk_rel hsolid hlvl _ hrel)
  | err s' => exact ⟨(hs.err hr).good hg, (hs.err hr).trees⟩
  | stuck => trivial
  | panic => trivial
  | oof => trivial

/-- `SeekIter` at the level of node objects: on a tree whose objects denote the well-formed
    functional tree `A` (with a root node), for any probe key, fuel above the height, node cache or
    none and any pattern of failing loads: the entries handed to the callback are exactly the entries
    of `A` from the first key not smaller than the probe on, in order; error or not, every tree of the
    system denotes what it denoted -/
theorem C10_object_level_seekIter (E : Env) (t : PTree) (f k g : Nat) (s : PS) (A : Tree) (hg : Good s)
    (hA : repTree s g t = some A) (hown : FpOwned s.heap t.id (footprint s g t)) (hinv : Tree.Inv E.layer A)
    (hf : A.height < f) (hne : t.root ≠ .nil) :
    match seekIter E t f k s with
    | .ok es s' => es = A.toList.dropWhile (fun e => decide (e.1 < k)) ∧ Good s' ∧
        ∀ g2 t2 B, repTree s g2 t2 = some B → FpOwned s.heap t2.id (footprint s g2 t2) →
          repTree s' g2 t2 = some B ∧ FpOwned s'.heap t2.id (footprint s' g2 t2)
    | .err s' => Good s' ∧
        ∀ g2 t2 B, repTree s g2 t2 = some B → FpOwned s.heap t2.id (footprint s g2 t2) →
          repTree s' g2 t2 = some B ∧ FpOwned s'.heap t2.id (footprint s' g2 t2)
    | _ => True := by
  obtain ⟨x, hx, hxnd, hroot⟩ := repTree_root hA
  rw [footprint_eq hx] at hown
  have hs := seekIter_spec E t f k g s x hg hx hxnd hown hne
  cases hr : seekIter E t f k s with
  | ok es s' =>
    have hs := hs.ok hr
    refine ⟨?_, hs.1.good hg, hs.1.trees⟩
    rw [hs.2, ← unmk_of_ne_nil (repLink_row_ne_nil hx hne), ← hroot]
    exact C10_seekIter_spec A.root k f hinv.sorted
      (Nat.lt_of_le_of_lt (T.lvl_le_of_WF E.layer A.root A.height hinv.wf) hf)
  | err s' => exact ⟨(hs.err hr).good hg, (hs.err hr).trees⟩
  | stuck => trivial
  | panic => trivial
  | oof => trivial

/-! non-vacuity (kernel-checked), in the system reached by the history `hxOps`
    (`Lemmas/RefHistExample.lean`: growth, flush, clone, cached reload, delete): tree 2 holds
    3, 4, 5, 7, 8 partly as names in the store, partly as objects -/
def hxNav (pl : CPlace) (ms : List CMove) : Option (Option (Nat × Nat)) :=
  hxSys.trees[2]?.bind fun t =>
    match cNavigate hxEnv t 99 10 10 pl ms hxSys.ps with
    | .ok r _ => r
    | _ => none
def hxSeek (k : Nat) : Option (List (Nat × Nat)) :=
  hxSys.trees[2]?.bind fun t =>
    match seekIter hxEnv t 10 k hxSys.ps with
    | .ok es _ => some es
    | _ => none
example : hxNav .max [.bwd, .bwd, .fwd] = some (some (7, 70)) ∧ hxNav (.ceil 6) [] = some (some (7, 70)) ∧
    hxNav .min [.bwd] = some none ∧ hxNav (.ceil 9) [.fwd] = some none := by
  unfold hxNav; rw [hxSys_eq]; decide +kernel
example : hxSeek 5 = some [(5, 50), (7, 70), (8, 80)] ∧ hxSeek 6 = some [(7, 70), (8, 80)] ∧ hxSeek 9 = some [] := by
  unfold hxSeek; rw [hxSys_eq]; decide +kernel

end Mast.Ptr
#print axioms Mast.Ptr.C10_object_level_seekIter
#print axioms Mast.Ptr.C10_object_level_place
#print axioms Mast.Ptr.C10_object_level_step
#print axioms Mast.Ptr.C10_object_level_get
#print axioms Mast.Ptr.C10_object_level_failed_move_stays
#print axioms Mast.Ptr.C10_object_level_navigate
