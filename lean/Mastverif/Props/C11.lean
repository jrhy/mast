import Mastverif.Lemmas.Heap
import Mastverif.Lemmas.PtrSys
/-!
# C11 — independent trees sharing a store and a cache (property theorems, partial)

What is proved, on the heap protocol model: **non-interference**.  A guarded action by owner
`m` changes no object that another owner `v` can see and keeps `v`'s view closed; so in any
interleaving of the operations of several owners, the objects each owner reads and writes
are never written by another owner — there is no conflicting access to a shared object, and
each owner's next operation finds exactly the objects it would find if it ran alone.
What is NOT proved: the Go memory model, golang-lru's and the S3 SDK's internal
synchronisation (the store and the cache are assumed linearizable).  The tie is the `conc`
family (goroutines under the race detector, each goroutine's history replayed through the
sequential model) plus the `versions` family's guard check.
-/
namespace Mast.Heap

theorem C11_noninterference_partial {h h' : Heap} {v : Nat} {act : Act}
    (hc : Closed h v) (hact : Foreign v act) (hs : applyAct h act = some h') :
    Agree h h' v ∧ Closed h' v :=
  foreign_step hc hact hs

/-- every interleaving: the actions of all other owners together leave `v`'s view untouched -/
theorem C11_interleaving_partial (v : Nat) (h h' : Heap) (acts : List Act)
    (hc : Closed h v) (hf : ∀ act ∈ acts, Foreign v act) (hr : run h acts = some h') :
    Agree h h' v ∧ Closed h' v :=
  foreign_run acts h h' hc hf hr

/-- the object an action overwrites in place (allocation creates a fresh one) -/
def target : Act → Option Nat
  | .alloc _ => none
  | .write _ a _ => some a
  | .publish _ a _ => some a

/-- **no conflicting access**: an object that owner `v` can see (shared, or its own) is never the
    target of another owner's write or publish — whatever `v` reads concurrently, nobody else is
    writing it -/
theorem C11_no_conflicting_access_partial {h h' : Heap} {v : Nat} {act : Act} (hact : Foreign v act)
    (hs : applyAct h act = some h') (a : Nat) (ht : target act = some a) : ¬ Vis h v (HLink.ptr a) := by
  rintro ⟨nd, hnd, hvis⟩
  cases act with
  | alloc _ => cases ht
  | write m b nd' =>
    cases ht
    obtain ⟨old, ho, ⟨hoo, hos, _⟩, _⟩ := applyAct_write.mp hs
    cases ho.symm.trans hnd
    exact unseen_of_owned hoo hos hact hvis
  | publish m b links =>
    cases ht
    obtain ⟨old, ho, ⟨hoo, hos, _⟩, _⟩ := applyAct_publish.mp hs
    cases ho.symm.trans hnd
    exact unseen_of_owned hoo hos hact hvis

/-- non-vacuity: owner 2 copies a shared node and rewrites its own copy; that is foreign to owner 1,
    passes the guards, and the object it writes (address 1) is not visible to owner 1 -/
example :
    let shared : MNode := { keys := [5], vals := [50], links := [.ref 7, .nil], dirty := false, shared := true, owner := 0 }
    let copy : MNode := { keys := [5], vals := [50], links := [.ref 7, .nil], dirty := true, shared := false, owner := 2 }
    let w : Act := .write 2 1 { copy with keys := [5, 9], vals := [50, 90], links := [.ref 7, .nil, .nil] }
    Foreign 1 w ∧ (applyAct [shared, copy] w).isSome = true ∧ target w = some 1 := by
  refine ⟨by simp [Foreign], by decide, rfl⟩

end Mast.Heap
/-!
## The logic of the code never touches what another tree can see

For the object-level transcription (`Model/Ptr.lean`) of Insert / Delete / MakeRoot / Clone: every
object another owner `v` can see — every node of its own and every shared (cached, persisted)
node — is, after the call, *the same object with the same fields*; and `v`'s view stays closed.
Each primitive step of the call has this property (`foreign_step`), so it holds at every
intermediate point as well: whatever `v` does concurrently, the caller never writes a location
`v` may read.  (What the model cannot exhibit: the Go memory model itself, the internals of the
cache and of the store; they are covered by the race detector runs of the `conc` family.)
-/
namespace Mast.Ptr
open Mast.Heap

theorem C11_insert_leaves_foreign_objects_partial (E : Env) (fuel : Nat) (s : PS) (t : PTree) (key val : Nat)
    (hinv : Inv t.id s) (hroot : Vis s.heap t.id t.root) (v : Nat) (hv : v ≠ t.id) (hv0 : v ≠ 0)
    (hc : Closed s.heap v) :
    Agree s.heap (insert E fuel s t key val).1.heap v ∧ Closed (insert E fuel s t key val).1.heap v :=
  (insert_ok E fuel s t key val hinv hroot).ext.others v hv hv0 hc

theorem C11_delete_leaves_foreign_objects_partial (E : Env) (fuel : Nat) (s : PS) (t : PTree) (key val : Nat)
    (hinv : Inv t.id s) (hroot : Vis s.heap t.id t.root) (v : Nat) (hv : v ≠ t.id) (hv0 : v ≠ 0)
    (hc : Closed s.heap v) :
    Agree s.heap (delete E fuel s t key val).1.heap v ∧ Closed (delete E fuel s t key val).1.heap v :=
  (delete_ok E fuel s t key val hinv hroot).ext.others v hv hv0 hc

theorem C11_makeRoot_leaves_foreign_objects_partial (E : Env) (fuel : Nat) (s : PS) (t : PTree)
    (hinv : Inv t.id s) (hroot : Vis s.heap t.id t.root) (v : Nat) (hv : v ≠ t.id) (hv0 : v ≠ 0)
    (hc : Closed s.heap v) :
    Agree s.heap (runM (flush E t fuel) s).2.1.heap v ∧ Closed (runM (flush E t fuel) s).2.1.heap v :=
  (runM_ok (flush_sat E t fuel hinv hroot) hinv).ext.others v hv hv0 hc

/-- a clone is made *for* the new tree: the source (like every other tree) is left as it is -/
theorem C11_clone_leaves_every_tree_partial (E : Env) (fuel : Nat) (s : PS) (t : PTree) (newId : Nat)
    (hinv : Inv newId s) (h1 : t.id ≠ newId) (h0 : t.id ≠ 0) (hct : Closed s.heap t.id) (hroot : Vis s.heap t.id t.root)
    (v : Nat) (hv : v ≠ newId) (hv0 : v ≠ 0) (hc : Closed s.heap v) :
    Agree s.heap (runM (clone E t newId fuel) s).2.1.heap v ∧ Closed (runM (clone E t newId fuel) s).2.1.heap v :=
  (runM_ok (clone_sat (lvl := 2) E t newId fuel h1 h0 hinv hct hroot) hinv).ext.others v hv hv0 hc

end Mast.Ptr
#print axioms Mast.Ptr.C11_insert_leaves_foreign_objects_partial
#print axioms Mast.Ptr.C11_delete_leaves_foreign_objects_partial
#print axioms Mast.Ptr.C11_makeRoot_leaves_foreign_objects_partial
#print axioms Mast.Ptr.C11_clone_leaves_every_tree_partial
#print axioms Mast.Heap.C11_no_conflicting_access_partial
#print axioms Mast.Heap.C11_noninterference_partial
#print axioms Mast.Heap.C11_interleaving_partial
