import Mastverif.Lemmas.PtrSys
import Mastverif.Lemmas.PtrAtomic
/-!
# C12 — an operation that returns an error leaves the tree unchanged (property theorems, partial)

Every repaired operation performs its fallible calls (Persist.Load, KeyCompare, the layer /
marshal callbacks) while it only *allocates*: new nodes for copies, split halves and merged
nodes; the first write to an object the tree already reaches (and the assignment of the root,
size and height) comes after the last fallible call.  `C12_allocations_invisible`: a run that
consists of allocations only — which is what has happened when such an operation returns its
error — leaves the observable contents under every existing link exactly as they were, for
every owner.  The value-level statement is immediate in the functional model (an operation
returns either a new tree or an error, never both).
Tie: family `faults` injects a failure at every Load / KeyCompare call of every operation and
re-reads contents, size and height; the one place where the Go code does NOT follow the
discipline — Delete runs its height reduction after the removal has been installed — is the
known finding listed in known_findings.txt.
-/
namespace Mast.Heap

def allocOnly : List Act → Prop
  | [] => True
  | Act.alloc _ :: rest => allocOnly rest
  | _ :: _ => False

theorem run_allocOnly_append (acts : List Act) : ∀ (h h' : Heap), allocOnly acts → run h acts = some h' →
    ∃ ext, h' = h ++ ext := by
  induction acts with
  | nil => intro h h' _ hr; cases hr; exact ⟨[], (List.append_nil _).symm⟩
  | cons act acts ih =>
    intro h h' ha hr
    cases act with
    | alloc nd =>
      simp only [run] at hr
      split at hr
      · cases hr
      · next h1 hs =>
        obtain ⟨_, rfl⟩ := applyAct_alloc.mp hs
        obtain ⟨ext, rfl⟩ := ih _ h' ha hr
        exact ⟨nd :: ext, List.append_assoc h [nd] ext⟩
    | write m a nd => exact False.elim ha
    | publish m a links => exact False.elim ha

/-- a failed operation has only allocated: everything observable is as before -/
theorem C12_allocations_invisible (h h' : Heap) (acts : List Act) (ha : allocOnly acts)
    (hr : run h acts = some h') (fuel : Nat) (l : HLink) (c : List Tok)
    (hc : contents h fuel l = some c) : contents h' fuel l = some c := by
  obtain ⟨ext, rfl⟩ := run_allocOnly_append acts h h' ha hr
  exact contents_append h ext fuel l c hc

/-- non-vacuity: a failed Insert that had copied one node: an allocation-only run that succeeds -/
example :
    let shared : MNode := { keys := [5], vals := [50], links := [.ref 7, .nil], dirty := false, shared := true, owner := 0 }
    let acts : List Act := [.alloc { shared with dirty := true, shared := false, owner := 2 }]
    allocOnly acts ∧ (run [shared] acts).isSome = true ∧ contents [shared] 2 (.ptr 0) ≠ none := by
  refine ⟨trivial, by decide, by decide⟩

end Mast.Heap
/-!
## The statement for the logic of the code (object-level model, `Model/Ptr.lean`)

`Insert` = a *plan* (locate, load and split the child: everything that can fail; only allocates) +
a *commit* (the in-place writes and `savePathForRoot`: cannot fail) + the growth loop.  `Delete` =
plan (locate, `mergeNodes`) + commit + the height reduction.  With store loads AND calls of the
layer function (the `Marshal` callback behind `DefaultLayer`) failing at ANY positions
(`Env.failAt`, `Env.layerFailAt` are arbitrary):
-/
namespace Mast.Ptr
open Mast.Heap

/-- **Insert**: when the call returns an error, the tree record is unchanged and every level of
    the contents under its root reads as before (the heap was only extended by objects nothing
    reaches) — unless the error comes from the growth step after the complete insertion. -/
theorem C12_insert_error_partial (E : Env) (fuel : Nat) (s : PS) (t : PTree) (key val : Nat)
    (hinv : Inv t.id s) (hroot : Vis s.heap t.id t.root)
    (he : (insert E fuel s t key val).2.2 = .err) :
    ((insert E fuel s t key val).2.1 = t ∧
      ∀ f l c, contents s.heap f l = some c → contents (insert E fuel s t key val).1.heap f l = some c) ∨
    (∃ p s1 root s2, insertPlan E t fuel key val s = .ok p s1 ∧ insertCommit t p key val s1 = .ok root s2) := by
  rcases insert_err E fuel s t key val hinv hroot he with ⟨ha, ht⟩ | h
  · exact Or.inl ⟨ht, contents_mono ha⟩
  · exact Or.inr h

/-- **Delete**: the same; the second alternative (an error of the height reduction after the
    complete removal) is the recorded known finding, see the witness below. -/
theorem C12_delete_error_partial (E : Env) (fuel : Nat) (s : PS) (t : PTree) (key val : Nat)
    (hinv : Inv t.id s) (hroot : Vis s.heap t.id t.root)
    (he : (delete E fuel s t key val).2.2 = .err) :
    ((delete E fuel s t key val).2.1 = t ∧
      ∀ f l c, contents s.heap f l = some c → contents (delete E fuel s t key val).1.heap f l = some c) ∨
    (∃ p s1 root s2, deletePlan E t fuel key val s = .ok p s1 ∧ deleteCommit t p s1 = .ok root s2) := by
  rcases delete_err E fuel s t key val hinv hroot he with ⟨ha, ht⟩ | h
  · exact Or.inl ⟨ht, contents_mono ha⟩
  · exact Or.inr h

/-- the parts that write cannot return an error -/
theorem C12_commit_phases_cannot_fail (t : PTree) (p : InsPlan) (q : DelPlan) (key val : Nat) :
    NoErr (insertCommit t p key val) ∧ NoErr (deleteCommit t q) :=
  ⟨insertCommit_noErr t p key val, deleteCommit_noErr t q⟩

/-- **lookups, iterations and clones** never change what any tree holds, whether they fail or not:
    trees other than a target are untouched by every call, and these calls have no target -/
theorem C12_reads_change_nothing (E : Env) (fuel : Nat) (σ : Sys) (h : SysInv σ) (op : Op)
    (hop : op.target = none) (j : Nat) : Untouched σ (σ.apply E fuel op).1 j :=
  (Sys.apply_ok E fuel σ op h).untouched j (by rw [hop]; exact fun e => nomatch e)

/-- the known finding in the object-level model (kernel-checked): a version of height 1 with
    top keys 4 and 8 and a child `[3]`, reloaded; `Delete(8)` removes the entry, and the load of the
    child during the height reduction (the third store load) fails: the call returns an error,
    the entry is gone, the size is 2 -/
def kfEnv (ft : Nat) : Env := { layer := fun k => if k % 4 = 0 then 1 else 0, failAt := fun t => t == ft }
def kfBase : Sys := (Sys.run (kfEnv 1000) 10 {} [.load 0 0 0 2, .ins 0 4 40, .ins 0 3 30, .ins 0 8 80, .flush 0, .load 2 3 1 2]).1
theorem C12_delete_known_finding_in_the_model :
    (kfBase.apply (kfEnv 2) 10 (.del 1 8 80)).2 = .err ∧
    ((kfBase.apply (kfEnv 2) 10 (.del 1 8 80)).1.trees.map
      (fun t => (contents (kfBase.apply (kfEnv 2) 10 (.del 1 8 80)).1.ps.heap 5 t.root, t.size)))[1]? =
      some (some [.refn 1, .ent 4 40], 2) := by decide +kernel

/-- the second known finding in the object-level model (kernel-checked): a tree of height 0 that
    holds as many entries as its growth threshold; `Insert(7)` puts the entry in, then the layer
    callback of the growth check fails (the fourth layer call; the third one — the call that
    opens the Insert — leaves everything unchanged): the call returns an error, the entry is in,
    the size is still 2 -/
def kf2Env (ft : Nat) : Env :=
  { layer := fun k => if k % 4 = 0 then 1 else 0, failAt := fun _ => false, layerFailAt := fun t => t == ft }
def kf2Base : Sys := (Sys.run (kf2Env 1000) 10 {} [.load 0 0 0 2, .ins 0 3 30, .ins 0 5 50]).1
theorem C12_insert_known_finding_in_the_model :
    (kf2Base.apply (kf2Env 3) 10 (.ins 0 7 70)).2 = .err ∧
    (kf2Base.apply (kf2Env 3) 10 (.ins 0 7 70)).1.trees.map
      (fun t => (contents (kf2Base.apply (kf2Env 3) 10 (.ins 0 7 70)).1.ps.heap 5 t.root, t.size)) =
      [(some [.ent 3 30, .ent 5 50, .ent 7 70], 2)] ∧
    (kf2Base.apply (kf2Env 2) 10 (.ins 0 7 70)).2 = .err ∧
    (kf2Base.apply (kf2Env 2) 10 (.ins 0 7 70)).1.trees.map
      (fun t => (contents (kf2Base.apply (kf2Env 2) 10 (.ins 0 7 70)).1.ps.heap 5 t.root, t.size)) =
      [(some [.ent 3 30, .ent 5 50], 2)] := by decide +kernel

end Mast.Ptr
#print axioms Mast.Ptr.C12_insert_known_finding_in_the_model
#print axioms Mast.Ptr.C12_insert_error_partial
#print axioms Mast.Ptr.C12_delete_error_partial
#print axioms Mast.Ptr.C12_commit_phases_cannot_fail
#print axioms Mast.Ptr.C12_reads_change_nothing
#print axioms Mast.Ptr.C12_delete_known_finding_in_the_model
#print axioms Mast.Heap.C12_allocations_invisible
