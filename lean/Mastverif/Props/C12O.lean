import Mastverif.Lemmas.RefCursor
import Mastverif.Lemmas.RefSeek
import Mastverif.Lemmas.RefHistExample
/-!
# C12 for navigation and read calls at the level of node objects (property theorems, partial)

"If a … lookup, iteration, … or navigation call returns an error because the store failed to load a
node …, the tree's observable contents, size and height are exactly what they were before the
call, and the same call succeeds with the normal result when retried after the fault has cleared."

For the object-level cursor (`Model/PtrCursor.lean`), `Iter` and `SeekIter`:
* `C12_failed_cursor_move_partial`: a `Forward` / `Backward` that reports an error — a load failing
  at ANY position of its descent — leaves the cursor's path exactly as it was, still denoting the
  same functional path; every tree of the system denotes what it denoted; and the same move,
  retried in the state the failed call left (under any later pattern of faults `E2`), is again a
  correct move from the ORIGINAL position: when it reports no error its path denotes the functional
  cursor's next position.
* `C12_failed_read_partial`: `Iter` and `SeekIter` that return an error have only allocated: every
  tree denotes what it denoted.
* `C12_failed_placement_resumes`: a `Min` / `Max` / `Ceil` that reports an error — a load failing at
  ANY depth of its descent — leaves the path it has walked so far (the Go code does not restore it),
  every tree denotes what it denoted, and the same placement called again on the same cursor (under
  any later pattern of faults `E2`) resumes from there: when it reports no error its path denotes
  exactly the position the uninterrupted placement computes from the ORIGINAL path (`Cursor.min /
  max / ceil`, hence by `C10_walk` the least / greatest / ceiling entry).  Side condition
  `PlaceDone`: the model's loop fuel covers the descent (the Go loops have no fuel).
Partial: failing key comparisons are not modelled (family `faults`).
-/
namespace Mast.Ptr
open Mast.Heap Mast

variable {w : Nat}

theorem C12_failed_cursor_move_partial (E E2 : Env) (g f : Nat) (opath : CPath) (s s1 : PS) (P : Path)
    (mv : CMove) (r : CPath × Bool) (hg : Good s) (hp : PathRep w s g opath P)
    (h : cStep E f opath mv s = .ok r s1) (herr : r.2 = true) :
    r.1 = opath ∧ PathRep w s1 g opath P ∧ Good s1 ∧
    (∀ g2 t2 B, repTree s g2 t2 = some B → FpOwned s.heap t2.id (footprint s g2 t2) →
      repTree s1 g2 t2 = some B ∧ FpOwned s1.heap t2.id (footprint s1 g2 t2)) ∧
    Spec (Grow w) (cStep E2 f opath mv) s1 (MovePost w g opath (Cursor.stepPath f P (toMove mv))) := by
  have hs := (cStep_spec (m := w) E g f opath s P mv hg hp).ok h
  have hp1 := hp.grow hs.1
  have hg1 := hs.1.good hg
  exact ⟨hs.2.2 herr, hp1, hg1, hs.1.trees, cStep_spec E2 g f opath s1 P mv hg1 hp1⟩

/-- `hnd`, `hown`, `hne` serve the `SeekIter` disjunct alone -/
theorem C12_failed_read_partial (E : Env) (t : PTree) (f k g : Nat) (s s' : PS) (x : Bool × T × List Nat)
    (hg : Good s) (hx : repLink s.heap s.store g t.root = some x) (hnd : x.2.2.Nodup)
    (hown : FpOwned s.heap t.id x.2.2) (hne : t.root ≠ .nil)
    (h : iterEntries E f t.root s = .err s' ∨ seekIter E t f k s = .err s') :
    Good s' ∧ ∀ g2 t2 B, repTree s g2 t2 = some B → FpOwned s.heap t2.id (footprint s g2 t2) →
      repTree s' g2 t2 = some B ∧ FpOwned s'.heap t2.id (footprint s' g2 t2) := by
  have hgr : Grow t.id s s' := by
    rcases h with h | h
    · exact (iterEntries_spec (m := t.id) E f g t.root s hg x hx).err h
    · exact (seekIter_spec E t f k g s x hg hx hnd hown hne).err h
  exact ⟨hgr.good hg, hgr.trees⟩

theorem C12_failed_placement_resumes (E E2 : Env) (g f : Nat) (opath : CPath) (s s1 : PS) (P : Path)
    (pl : CPlace) (r : CPath × Bool) (hg : Good s) (hp : PathRep w s g opath P) (hfuel : PlaceDone f P pl)
    (h : cPlace E f opath pl s = .ok r s1) (herr : r.2 = true) :
    Good s1 ∧
    (∀ g2 t2 B, repTree s g2 t2 = some B → FpOwned s.heap t2.id (footprint s g2 t2) →
      repTree s1 g2 t2 = some B ∧ FpOwned s1.heap t2.id (footprint s1 g2 t2)) ∧
    Spec (Grow w) (cPlace E2 f r.1 pl) s1 (NavPost w g (placeFrom f P pl)) := by
  have hs := (cPlace_resumable (m := w) E g f opath s P pl hg hp).ok h
  obtain ⟨P2, hp2, hpar⟩ := hs.2.2 herr
  have hg1 := hs.1.good hg
  refine ⟨hg1, hs.1.trees, ?_⟩
  rw [← placeFrom_resume hpar hfuel]
  exact (cPlace_resumable E2 g f r.1 s1 P2 pl hg1 hp2).conseq fun _ _ _ _ h => h.nav

/-- non-vacuity, on tree 2 of the system reached by the history of `Lemmas/RefHistExample.lean`
    (entries 3, 4, 5, 7, 8, partly in the store), with a cold node cache: the placement runs with the `k`-th load failing,
    then again on the path it left; reported: did the first call fail, and the entry the cursor
    shows after the second -/
def hxRetry (pl : CPlace) (k : Nat) : Option (Bool × Option (Nat × Nat)) :=
  hxSys.trees[2]?.bind fun t =>
    match cursorNew hxEnv t 99 10 { hxSys.ps with cache := [] } with
    | .ok (_, path) s0 =>
      match cPlace { hxEnv with failAt := fun n => n == s0.tick + k } 10 path pl s0 with
      | .ok r1 s1 =>
        match cPlace hxEnv 10 r1.1 pl s1 with
        | .ok r2 s2 =>
          match cGet r2.1 s2 with
          | .ok e _ => some (r1.2, e)
          | _ => none
        | _ => none
      | _ => none
    | _ => none

example : hxRetry .min 0 = some (true, some (3, 30)) ∧ hxRetry (.ceil 6) 0 = some (true, some (7, 70)) ∧
    hxRetry .min 1 = some (false, some (3, 30)) ∧ hxRetry .max 0 = some (false, some (8, 80)) := by
  unfold hxRetry; rw [hxSys_eq]; decide +kernel

end Mast.Ptr
#print axioms Mast.Ptr.C12_failed_placement_resumes
#print axioms Mast.Ptr.C12_failed_cursor_move_partial
#print axioms Mast.Ptr.C12_failed_read_partial
