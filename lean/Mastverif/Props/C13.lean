import Mastverif.Lemmas.Store
import Mastverif.Lemmas.IncrTree
/-!
# C13 — incremental, garbage-free persistence; clean means unchanged (property theorems)

On the flush model `Tree.makeRoot` (its store trace agrees pair by pair with the Store calls of
the Go code: family `persist`):
* `C13_reachable`: every name written is the name of a node of the returned version;
* `C13_names`: each under the hash of its bytes;
* `C13_noop`: a tree that is not dirty (loaded, just persisted, or a clone of such a tree) writes
  nothing, and `C13_noop_same_root`: it returns the root it came from;
* `C13_second_flush_writes_nothing`: persisting twice in a row writes nothing the second time;
* `C13_clean_after_flush`: after a flush the tree is clean.
* `C13_clean_means_unchanged`: along any history without a persist, a tree that reports itself
  clean at the end IS the tree the history started from (so its contents equal that version);
* `C13_written_nodes_hold_a_modified_key`: starting from a version with nothing to write (just
  persisted / loaded / empty: `C13_nothing_to_write_when_clean` shows every clean tree reached by
  any history is one), along any history without a persist and without a change of height, every
  node the next flush writes below the top node has one of the modified keys within its closed key
  range (`DR`), i.e. nodes whose range holds no modified key are never rewritten;
* `C13_writes_per_modified_key`: hence the next `MakeRoot` writes at most `2·height` nodes per
  modified key below the top node, plus the top node (≤ `2·height + 2` per key, for any list of
  keys that contains the modified ones — in particular the list without repetitions).
The key ranges are those of the version being written (separators on the node's path).
-/
namespace Mast.Tree
open T

theorem C13_reachable (e : Enc) (m : Tree) :
    ∀ x ∈ (makeRoot e m).1, x.1 ∈ reach e m := by
  intro x hx
  rw [makeRoot_stores] at hx
  split at hx
  · cases hx
  · next h =>
    rw [reach_of_nonempty e m (Bool.or_eq_false_iff.mp (Bool.eq_false_iff.mpr h)).1]
    exact (List.mem_append.mp hx).elim (fun hx => List.mem_cons_of_mem _ (storesBelow_sub_reach e m.root x hx))
      fun hx => List.mem_singleton.mp hx ▸ List.mem_cons_self

theorem C13_names (e : Enc) (m : Tree) : ∀ x ∈ (makeRoot e m).1, x.1 = e.hash x.2 :=
  makeRoot_named e m

theorem C13_noop (e : Enc) (m : Tree) (hclean : m.dirty = false) : (makeRoot e m).1 = [] := by
  rw [makeRoot_stores, hclean, Bool.not_false, Bool.or_true]; rfl

theorem C13_clean_after_flush (e : Enc) (m : Tree) (hd : m.dirty = true) :
    (makeRoot e m).2.2.dirty = false := by
  cases he : isEmptyTop m.root with
  | true => rw [makeRoot_empty e m he]
  | false => rw [makeRoot_dirty e m he hd]

theorem C13_second_flush_writes_nothing (e : Enc) (m : Tree) :
    (makeRoot e (makeRoot e m).2.2).1 = [] :=
  C13_noop e _ (makeRoot_not_dirty e m)

/-- same root: a clean tree's root is the name of its top node, before and after -/
theorem C13_noop_same_root (e : Enc) (m : Tree) (hclean : m.dirty = false) :
    (makeRoot e (makeRoot e m).2.2).2.1 = (makeRoot e m).2.1 := by
  cases he : isEmptyTop m.root with
  | true =>
    rw [makeRoot_empty e m he]
    exact congrArg (·.2.1) (makeRoot_empty e { m with dirty := false } he)
  | false =>
    rw [makeRoot_clean e m he hclean]
    exact congrArg (·.2.1) (makeRoot_clean e { m with rootP := true } he hclean)

variable (layer : Nat → Nat)

theorem C13_clean_means_unchanged (e : Enc) (ops : List Op) (m : Tree)
    (hp : ∀ op ∈ ops, isPersist op = false) (hc : (execT layer e m ops).dirty = false) :
    execT layer e m ops = m := clean_unchanged layer e ops m hp hc

/-- a clean tree has nothing to write -/
def CleanOK (m : Tree) : Prop := m.dirty = false → DR [] none none m.root

theorem cleanOK_step (e : Enc) (m : Tree) (op : Op) (h : CleanOK m) : CleanOK (stepT layer e m op).1 := by
  cases hp : isPersist op with
  | true =>
    rw [stepT_persist layer e m hp]
    intro _
    cases he : isEmptyTop m.root with
    | true =>
      rw [makeRoot_empty e m he]
      unfold isEmptyTop at he
      split at he
      · next hq => rw [hq]; exact Or.inl rfl
      · cases he
    | false =>
      cases hd : m.dirty with
      | false => rw [makeRoot_clean e m he hd]; exact h hd
      | true => rw [makeRoot_dirty e m he hd]; exact allP_DR [] _ none none (allP_persistAll m.root)
  | false =>
    intro hc
    rcases step_dirty layer e m op hp with h1 | h1
    · rw [h1] at hc ⊢; exact h hc
    · rw [h1] at hc; cases hc

theorem C13_nothing_to_write_when_clean (e : Enc) : ∀ (ops : List Op) (m : Tree), CleanOK m →
    CleanOK (execT layer e m ops) :=
  execT_induct layer e (cleanOK_step layer e)

theorem cleanOK_empty (bf : Nat) : CleanOK (Tree.empty bf) := fun _ => Or.inl rfl

theorem C13_written_nodes_hold_a_modified_key (e : Enc) (m : Tree) (ops : List Op) (hi : Inv layer m)
    (hc : m.dirty = false) (hk : CleanOK m) (hp : ∀ op ∈ ops, isPersist op = false)
    (hh : heightsSame layer e m ops) :
    DR (modKeys ops) none none (execT layer e m ops).root := by
  simpa using exec_DR layer e ops m [] hi (hk hc) hp hh

theorem C13_writes_per_modified_key (e : Enc) (m : Tree) (ops : List Op) (hi : Inv layer m)
    (hc : m.dirty = false) (hk : CleanOK m) (hp : ∀ op ∈ ops, isPersist op = false)
    (hh : heightsSame layer e m ops) (M : List Nat) (hM : ∀ k ∈ modKeys ops, k ∈ M) :
    (makeRoot e (execT layer e m ops)).1.length ≤ M.length * (2 * (execT layer e m ops).height) + 1 := by
  have hd := C13_written_nodes_hold_a_modified_key layer e m ops hi hc hk hp hh
  exact makeRoot_count layer e _ M (inv_execT layer e ops m hi) (DR_mono hM _ _ _ hd)

/-- non-vacuity: one insert into a persisted two-level tree dirties the path only -/
example : (T.cntD (cons false (cons false nil 2 0 (last false nil)) 4 0 (last true (cons true nil 7 0 (last true nil))))) = 1 := by
  decide

end Mast.Tree
#print axioms Mast.Tree.C13_clean_means_unchanged
#print axioms Mast.Tree.C13_nothing_to_write_when_clean
#print axioms Mast.Tree.C13_written_nodes_hold_a_modified_key
#print axioms Mast.Tree.C13_writes_per_modified_key
#print axioms Mast.Tree.C13_reachable
#print axioms Mast.Tree.C13_names
#print axioms Mast.Tree.C13_noop
#print axioms Mast.Tree.C13_clean_after_flush
#print axioms Mast.Tree.C13_second_flush_writes_nothing
#print axioms Mast.Tree.C13_noop_same_root
