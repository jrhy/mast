import Mastverif.Props.C01O
import Mastverif.Lemmas.TreeInv
/-!
# C13: an `Insert` that changes nothing leaves the version unmodified

C13 speaks of versions in which "nothing was modified".  An `Insert` of an entry that is already
present with an equal value is such a call: functionally it returns the tree it was given — the
same rows, the same residency flags, the same `dirty` flag, the same size, height and thresholds
(`C13_noop_insert`) — and at the level of node objects the tree record denotes exactly the tree it
denoted (`C13_object_level_noop_insert`), so that `IsDirty` answers what it answered and, for a
clean version, `MakeRoot` writes nothing and returns the same root (`Props/C13O.lean`,
`C13_noop`).  No growth step runs, whatever the size.
-/
namespace Mast.Tree
open Mast Mast.T

theorem C13_noop_insert (layer : Nat → Nat) (m : Tree) (k v : Nat) (hi : Inv layer m)
    (hpres : getL k m.toList = some v) : insert layer m k v = .ok m := by
  unfold insert
  rw [lookup_eq layer m k hi, hpres]
  simp

/-- non-vacuity: a three-entry tree of height 1 (layers k % 4, branch factor 2) built by the model's own Insert;
    inserting (4, 40) again returns it unchanged, inserting (4, 41) does not -/
def nvT : Tree :=
  match insert (fun k => k % 4) (Tree.empty 2) 4 40 with
  | .ok a => (match insert (fun k => k % 4) a 5 50 with
    | .ok b => (match insert (fun k => k % 4) b 7 70 with
      | .ok c => c
      | _ => b)
    | _ => a)
  | _ => Tree.empty 2

def okList : Res Tree → Option (List (Nat × Nat) × Bool × Nat)
  | .ok m => some (m.toList, m.dirty, m.height)
  | _ => none

example : (nvT.toList, nvT.dirty, nvT.height) = ([(4, 40), (5, 50), (7, 70)], true, 1) ∧
    okList (insert (fun k => k % 4) nvT 4 40) = some ([(4, 40), (5, 50), (7, 70)], true, 1) ∧
    okList (insert (fun k => k % 4) { nvT with dirty := false } 4 40) = some ([(4, 40), (5, 50), (7, 70)], false, 1) ∧
    okList (insert (fun k => k % 4) { nvT with dirty := false } 4 41) = some ([(4, 41), (5, 50), (7, 70)], true, 1) := by
  decide +kernel

end Mast.Tree

namespace Mast.Ptr
open Mast.Heap Mast Mast.Tree Mast.T

theorem C13_object_level_noop_insert (E : Env) (fuel g : Nat) (s s' : PS) (t t' : PTree) (k v : Nat) (A : Tree)
    (hg : Good s) (hown : FpOwned s.heap t.id (footprint s g t)) (hth : Thresh t)
    (hA : repTree s g t = some A) (hi : Tree.Inv E.layer A) (hpres : getL k A.toList = some v)
    (h : insert E fuel s t k v = (s', t', .ok)) :
    ∃ g', repTree s' g' t' = some A ∧ Good s' ∧ FpOwned s'.heap t'.id (footprint s' g' t') := by
  obtain ⟨g', A', h1, h2, h3, h4, _⟩ := C01_object_level_insert E fuel g s s' t t' k v A hg hown hth hA h
  rw [C13_noop_insert E.layer A k v hi hpres] at h2
  injection h2 with h2
  subst h2
  exact ⟨g', h1, h3, h4⟩

end Mast.Ptr
#print axioms Mast.Tree.C13_noop_insert
#print axioms Mast.Ptr.C13_object_level_noop_insert
