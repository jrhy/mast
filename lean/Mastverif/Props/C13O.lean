import Mastverif.Lemmas.RefGood
import Mastverif.Lemmas.RefLoad
import Mastverif.Lemmas.RefHistExample
/-!
# C13 at the level of node objects: persisting an unmodified version writes nothing

`flush` (`Model/Ptr.lean`: `MakeRoot` / `flush` with `node.store` and the commit closures) on a tree
whose top node is clean and knows its name — a version held by name (`LoadMast`, or a tree that has
just been persisted), or a clone of one (the top node held as a clean, shared object): whatever the
store, cache and fault oracle, the call either fails having only allocated, or returns THE SAME NAME,
the same tree record up to the spelling of the root link (a name), and leaves the STORE exactly as it
was — no node is written — having only allocated in the heap (the decoded top node).
* `C13_object_level_clean_flush_by_name`, `C13_object_level_clean_flush_by_object`.
Together with `C12_insert_error_partial` / `C12_delete_error_partial` (a failed call leaves the tree
record and every object it reads as they were) this is the object-level form of "a failed call does
not make the tree need a write".
-/
namespace Mast.Ptr
open Mast.Heap

/-- the top node is a clean object that knows its name: `node.store` returns the name, no commit -/
theorem storeNode_clean (f a n : Nat) (s : PS) (nd : MNode) (h : s.heap[a]? = some nd)
    (hd : nd.dirty = false) (hs : nd.source = some n) :
    storeNode (f + 1) a s = .ok (n, []) s := by
  simp [storeNode, bind, M.bind, read, h, hd, hs, pure, M.pure]

theorem C13_object_level_clean_flush_by_object (E : Env) (t : PTree) (fuel a n : Nat) (s : PS) (nd : MNode)
    (hr : t.root = .ptr a) (h : s.heap[a]? = some nd) (hne : isEmptyN nd = false)
    (hd : nd.dirty = false) (hs : nd.source = some n) :
    flush E t (fuel + 1) s = .ok ({ t with root := .ref n }, n) s := by
  have hsn := storeNode_clean fuel a n s nd h hd hs
  simp [flush, hr, load, bind, M.bind, read, h, hne, pure, M.pure, hsn, commitAll]

theorem flush_via_load (E : Env) (t : PTree) (fuel n a : Nat) (s s1 : PS) (nd : MNode)
    (hr : t.root = .ref n) (hl : loadRef E n s = .ok a s1) (hnd : s1.heap[a]? = some nd)
    (hne : isEmptyN nd = false) (hd : nd.dirty = false) (hs : nd.source = some n) :
    flush E t (fuel + 1) s = .ok ({ t with root := .ref n }, n) s1 := by
  have hsn := storeNode_clean fuel a n s1 nd hnd hd hs
  simp [flush, hr, load, bind, M.bind, hl, read, hnd, hne, pure, M.pure, hsn, commitAll]

/-- a version held by name: one load (or a cache hit), then nothing.  `hcs`: cached objects know
    their names (what `loadRef` and the commit closures establish before they call `cache.Add`) -/
theorem C13_object_level_clean_flush_by_name (E : Env) (m : Nat) (t : PTree) (fuel g n : Nat) (s : PS)
    (x : Bool × T × List Nat) (hg : Good s) (hr : t.root = .ref n)
    (hx : repLink s.heap s.store g (.ref n) = some x)
    (hk : ∀ sn, storeAt s.store n = some sn → sn.keys ≠ [])
    (hcs : ∀ k a nd, (k, a) ∈ s.cache → s.heap[a]? = some nd → nd.source = some k) :
    match flush E t (fuel + 1) s with
    | .ok r s' => r = (t, n) ∧ s'.store = s.store ∧ Grow m s s'
    | .err s' => s'.store = s.store ∧ Grow m s s'
    | _ => True := by
  have hl := loadRef_spec (m := m) E n s hg
  unfold Spec at hl
  obtain ⟨_, sn, _, _, hsn, hvs, _, _⟩ := repLink_ref_some.mp hx
  have hkeys := hk sn hsn
  have hteq : ({ t with root := .ref n } : PTree) = t := by rw [← hr]
  cases hlr : loadRef E n s with
  | err s1 =>
    rw [hlr] at hl
    simp [flush, hr, load, bind, M.bind, hlr]
    exact ⟨hl.store, hl⟩
  | ok a s1 =>
    rw [hlr] at hl
    obtain ⟨hgr, _, _⟩ := hl
    have hnonempty : ∀ nd : MNode, nd.keys = sn.keys → nd.links = expandLinks sn → isEmptyN nd = false := by
      intro nd h1 h2
      have hlen := hvs.1
      cases hkk : sn.keys with
      | nil => exact absurd hkk hkeys
      | cons k ks =>
        simp only [isEmptyN, h2]
        rw [hkk] at hlen
        cases hel : expandLinks sn with
        | nil => rw [hel] at hlen; simp at hlen
        | cons l ls =>
          cases ls with
          | nil => rw [hel] at hlen; simp at hlen
          | cons l2 ls2 => simp
    rcases loadRef_ok_cases hlr with ⟨hmem, rfl⟩ | ⟨sn', hsn', hheap, ha, hst⟩
    · obtain ⟨nd, sn', h1, h2, h3, h4, h5, h6⟩ := hg.cache n a hmem
      have h3 := Option.some.inj (hsn.symm.trans h3); subst h3
      have hdu : nd.dirty = false := by
        cases hdd : nd.dirty with
        | false => rfl
        | true => have := hg.du a nd h1 hdd; rw [h2] at this; cases this
      rw [flush_via_load E t fuel n a s1 s1 nd hr hlr h1 (hnonempty nd h4 h6) hdu (hcs n a nd hmem h1)]
      exact ⟨by rw [hteq], rfl, hgr⟩
    · have hsn' := Option.some.inj (hsn.symm.trans hsn'); subst hsn'
      have hnd : s1.heap[a]? = some (decode sn n) := by
        rw [hheap, ha]; exact getElem?_append_self _ _
      rw [flush_via_load E t fuel n a s s1 (decode sn n) hr hlr hnd (hnonempty _ rfl rfl) rfl rfl]
      exact ⟨by rw [hteq], hst, hgr⟩
  | panic => simp [flush, hr, load, bind, M.bind, hlr]
  | stuck => simp [flush, hr, load, bind, M.bind, hlr]
  | oof => simp [flush, hr, load, bind, M.bind, hlr]

/-- non-vacuity (kernel-checked): in the system reached by `hxOps` (`Lemmas/RefHistExample.lean`) trees
    1 and 2 have been persisted and are held by name; persisting them again returns the same root
    link and leaves the store as it is -/
def hxReflush (i : Nat) : Bool :=
  match hxSys.trees[i]? with
  | some t =>
    (match flush hxEnv t 10 hxSys.ps with
     | .ok r s' => decide (r.1.root = t.root) && decide (s'.store = hxSys.ps.store) && (match t.root with | .ref _ => true | _ => false)
     | _ => false)
  | none => false
example : hxReflush 1 = true ∧ hxReflush 2 = true := by
  rw [hxReflush, hxReflush, hxSys_eq]; decide +kernel

end Mast.Ptr
#print axioms Mast.Ptr.C13_object_level_clean_flush_by_object
#print axioms Mast.Ptr.C13_object_level_clean_flush_by_name
