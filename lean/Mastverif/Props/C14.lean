import Mastverif.Lemmas.Layer
/-!
# C14 — stable format, names, order, layers, defaults (property theorems)

The Lean definitions `Codec.encBin`, `Codec.encJson`, `blakeName`, `uintLayer`, `layerOf`, the
Nat order on the harness's order-preserving key codes, and the defaults `(16, v1.1.5binary)`
ARE the frozen specification; the tie is the `format` family: frozen vectors recorded from
the pinned release are reproduced by the implementation and by these definitions on every
run, and the layer / order functions are compared on generated keys.
Theorems: the layer of an unsigned key is the multiplicity of the branch factor in it
(`C14_uintLayer_spec`), so it is a function of (key, branch factor) alone; zero has layer 0
(`C14_uintLayer_zero`); the layer of a signed key depends on its magnitude only
(`C14_intLayer_symmetric`).  The key order is Nat's order on the codes, a strict total order by
construction: no theorem here is about it.
The round trip `decBinRaw ∘ encBin` is in Props/C05; the loops of key.go against `uintLayer` in
Props/C14T.
-/
namespace Mast

theorem C14_uintLayer_spec (bf : Nat) (hbf : 2 ≤ bf) (v : Nat) (hv : v ≠ 0) :
    bf ^ (uintLayer bf v) ∣ v ∧ ¬ bf ^ (uintLayer bf v + 1) ∣ v :=
  uintLayer_spec bf hbf v hv

theorem C14_uintLayer_zero (bf : Nat) : uintLayer bf 0 = 0 :=
  uintLayer_zero_step bf 0 fun h => h.2.1 rfl

theorem C14_intLayer_symmetric (bf a : Nat) (ha : a ≤ Codec.i64bias) :
    layerOf .i64 bf (Codec.i64bias + a) = layerOf .i64 bf (Codec.i64bias - a) := by
  unfold layerOf
  generalize Codec.i64bias = B at *
  -- both magnitudes are `a`
  rw [if_pos (Nat.le_add_right B a), Nat.add_sub_cancel_left]
  by_cases h : B - a ≥ B
  · have h0 : a ≤ 0 := by
      have := Nat.sub_le_sub_left h B
      rwa [Nat.sub_sub_self ha, Nat.sub_self] at this
    rw [if_pos h, Nat.sub_eq_zero_of_le (Nat.sub_le B a), Nat.le_zero.mp h0]
  · rw [if_neg h, Nat.sub_sub_self ha]

/-- non-vacuity / sample: 2^3 ∥ 24 -/
example : uintLayer 2 24 = 3 := by
  rw [uintLayer_pos_step 2 24 (by decide)]
  rw [show (24 : Nat) / 2 = 12 from rfl, uintLayer_pos_step 2 12 (by decide)]
  rw [show (12 : Nat) / 2 = 6 from rfl, uintLayer_pos_step 2 6 (by decide)]
  rw [show (6 : Nat) / 2 = 3 from rfl, uintLayer_zero_step 2 3 (by decide)]

end Mast
#print axioms Mast.C14_uintLayer_spec
#print axioms Mast.C14_uintLayer_zero
#print axioms Mast.C14_intLayer_symmetric
