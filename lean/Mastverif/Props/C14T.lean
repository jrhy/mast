import Mastverif.Lemmas.Translated
/-!
# C14 — the layer loops of key.go, translated from the source on every run

`Mastverif/Gen/KeyLayers.lean` is written by `vh -translate` from /repo/key.go each time the C14
check runs (statement by statement: Go's truncated `/` and `%` on int64, a wrapping uint8
counter, 64 rounds of loop fuel with the residual loop condition returned as a flag).
The theorems below tie those generated definitions to the model's `uintLayer` — the function the
frozen vectors, the shape invariant (C09) and the canonical form (C04) are stated with:
for every 64-bit key and every branch factor ≥ 2 the loops finish within their fuel (flag false),
the counter never wraps, and the result is the multiplicity of the branch factor in the key
(in its magnitude, for signed keys).
`Mastverif.lean` does not import this module: a plain `lake build` skips it, the C14 check builds it
by name, and a change of key.go that breaks these proofs breaks no other property's build.
-/
namespace Mast.Gen

theorem C14_go_uintLayer_is_the_model (v bf : Nat) (hbf : 2 ≤ bf) (hv : v < 2 ^ 64) :
    go_uintLayer v bf = (uintLayer bf v, false) := go_uintLayer_eq v bf hbf hv

theorem C14_go_intLayer_is_the_model (v : Int) (bf : Nat) (hbf : 2 ≤ bf) (hv : v.natAbs < 2 ^ 64) :
    go_intLayer v bf = (uintLayer bf v.natAbs, false) := go_intLayer_eq v bf hbf hv

/-- non-vacuity: -48 at branch factor 4 has layer 2; 2^63 at branch factor 2 has layer 63 -/
example : go_intLayer (-48) 4 = (2, false) ∧ go_uintLayer (2 ^ 63) 2 = (63, false) := by decide +kernel

end Mast.Gen
#print axioms Mast.Gen.C14_go_uintLayer_is_the_model
#print axioms Mast.Gen.C14_go_intLayer_is_the_model
