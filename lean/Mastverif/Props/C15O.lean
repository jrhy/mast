import Mastverif.Lemmas.RefDiff
/-!
# C15 at the level of node objects (property theorems, partial)

On the object-level `diffOne` (`Model/PtrDiff.lean`), where every load of a name is a counted store
load (`PS.tick`):
* `C15_object_level_same_version_reads_nothing`: diffing a version held by name with itself returns
  no event and leaves the WHOLE state as it was — no load, no allocation, no cache traffic — for any
  store, cache and fault oracle (also `_same_object`: the two trees hold the same top-node object);
* `C15_object_level_equal_links_skipped`: whenever the two stack tops are the same link (the same
  name, or the same object), the step drops both without touching the state.
The stated bound `2·D + 2` is false of this model as it is of the functional one and of the code
(`Props/C15.lean`, known_findings.txt).  The load counter of the object-level diff is tied to the
store's by family `ptr` after every mirrored `DiffIter` / `DiffLinks`.
-/
namespace Mast.Ptr
open Mast.Heap

theorem C15_object_level_same_version_reads_nothing (E : Env) (f n k : Nat) (s : PS) :
    oDiff E f (n + 2) (some (.ref k)) (.ref k) s = .ok [] s := by
  simp [oDiff, oDiffInit, orootItems, oRun_same_link, bind, M.bind, pure, M.pure]

theorem C15_object_level_same_object (E : Env) (f n a : Nat) (s : PS) (nd : MNode) (h : s.heap[a]? = some nd) :
    oDiff E f (n + 2) (some (.ptr a)) (.ptr a) s = .ok [] s := by
  have hr : read a s = .ok nd s := by rw [read, h]
  by_cases he : isEmptyN nd = true
  · simp [oDiff, oDiffInit, orootItems, oRun, oStep, oStepBody_nil_nil, tryE, bind, M.bind, pure, M.pure, hr, he]
  · simp [oDiff, oDiffInit, orootItems, oRun_same_link, bind, M.bind, pure, M.pure, hr, he]

theorem C15_object_level_equal_links_skipped (E : Env) (f : Nat) (l : HLink) (os ns : List OItem) (mo mn : OMemo) (s : PS) :
    oStepBody E f { old := OItem.link l :: os, new := OItem.link l :: ns, memoOld := mo, memoNew := mn } s =
      .ok (some ({ old := os, new := ns, memoOld := mo, memoNew := mn }, [])) s :=
  congrFun (oStepBody_link_same E f os ns mo mn l) s

end Mast.Ptr
#print axioms Mast.Ptr.C15_object_level_same_version_reads_nothing
#print axioms Mast.Ptr.C15_object_level_same_object
#print axioms Mast.Ptr.C15_object_level_equal_links_skipped
