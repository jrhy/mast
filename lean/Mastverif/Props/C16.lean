import Mastverif.Lemmas.Loads
import Mastverif.Lemmas.History
import Mastverif.Lemmas.CursorLoads
/-!
# C16 — point operations read only the search path (property theorems)

`lookupLoads` / `insertLoads` / `deleteLoads` are the load traces of the model (they agree
name by name with what the Go code passes to `Persist.Load`: family `reads`).  For a
well-formed tree of height `h`:
* a lookup reads at most `h + 1` nodes;
* an insert (new key, update or equal value) reads at most `h + 1` nodes — better than the
  `2·(h+1)` the property allows;
* the descent and merge part of a delete reads at most `2·h + 1 ≤ 2·(h+1)` nodes (the loads of
  a height reduction are excluded by the property: "that does not change the height");
* opening and cloning read at most the top node (`rootLoad`);
* navigation (the property's catch-all clause): after any placement and any walk, a further
  `Forward` / `Backward` step reads at most `h` nodes (`C16_cursor_step`), and a `Ceil` placement
  reads at most `h` nodes below the top node that `Cursor()` loaded (`C16_ceil`) — never a number
  proportional to the tree.  `newLoads` / `ceilLoads` agree name by name with the Go code's loads
  (family `reads`, ops `cl …`).
-/
namespace Mast.Tree
open T

theorem rootLoad_le (m : Tree) : m.rootLoad.length ≤ 1 := by
  unfold rootLoad
  split
  · exact Nat.le_refl 1
  · exact Nat.zero_le 1

theorem C16_open_clone (m : Tree) : m.rootLoad.length ≤ 1 := rootLoad_le m

/-- the top node, then what the operation reads below it -/
theorem rootLoad_append_le (m : Tree) {l : List T} {n : Nat} (h : l.length ≤ n) : (m.rootLoad ++ l).length ≤ n + 1 := by
  rw [List.length_append, Nat.add_comm]
  exact Nat.add_le_add h (rootLoad_le m)

theorem C16_get (layer : Nat → Nat) (m : Tree) (k : Nat) (hwf : WF layer m.height m.root) :
    (m.lookupLoads layer k).length ≤ m.height + 1 :=
  rootLoad_append_le m (Nat.le_trans (getLoads_le k m.root _) (lvl_le_of_WF layer m.root m.height hwf))

theorem C16_insert (layer : Nat → Nat) (m : Tree) (k : Nat) (hwf : WF layer m.height m.root) :
    (m.insertLoads layer k).length ≤ m.height + 1 :=
  rootLoad_append_le m (Nat.le_trans (insLoads_le k m.root _) (lvl_le_of_WF layer m.root m.height hwf))

/-- descent + merge spine of a delete (what remains when the height does not change) -/
theorem C16_delete (layer : Nat → Nat) (m : Tree) (k : Nat) (hwf : WF layer m.height m.root) :
    (m.rootLoad ++ delLoads k (m.levels layer k) m.root).length ≤ 2 * (m.height + 1) :=
  Nat.le_trans
    (rootLoad_append_le m (Nat.le_trans (delLoads_le k m.root _)
      (Nat.mul_le_mul_left 2 (lvl_le_of_WF layer m.root m.height hwf))))
    (Nat.le_succ _)

/-- the bounds hold on every tree any history produces (from the empty tree, any branch factor ≥ 2,
    any layer function), whatever part of it is persisted -/
theorem C16_every_history (layer : Nat → Nat) (e : Enc) (bf : Nat) (hbf : 2 ≤ bf) (ops : List Op) (k : Nat) :
    let m := execT layer e (Tree.empty bf) ops
    (m.lookupLoads layer k).length ≤ m.height + 1 ∧ (m.insertLoads layer k).length ≤ m.height + 1 ∧
    (m.rootLoad ++ delLoads k (m.levels layer k) m.root).length ≤ 2 * (m.height + 1) := by
  have hi := inv_execT layer e ops (Tree.empty bf) (inv_empty layer bf hbf)
  exact ⟨C16_get layer _ k hi.wf, C16_insert layer _ k hi.wf, C16_delete layer _ k hi.wf⟩

/-- non-vacuity: a persisted two-level tree -/
example : WF (fun k => k % 2) 1
    (cons true (cons true nil 2 0 (last true nil)) 3 0 (last true (cons true nil 4 0 (last true nil)))) := by
  simp [WF, isEmptyRow, T.toList]

theorem C16_ceil (layer : Nat → Nat) (root : T) (d k fuel : Nat) (hw : WF layer d root) :
    (Cursor.ceilLoads k fuel [(root, 0)]).length ≤ d :=
  Nat.le_trans (Cursor.ceilLoads_le k fuel root 0 []) (lvl_le_of_WF layer root d hw)

theorem C16_cursor_step (layer : Nat → Nat) (root : T) (d fuel : Nat) (hw : WF layer d root)
    (hsrt : Sorted (T.toList root)) (hne : isEmptyRow root = false) (hf : lvl root < fuel)
    (pl : Cursor.Place) (ms : List Cursor.Move) (m : Cursor.Move) :
    let p := ms.foldl (Cursor.stepPath fuel) (Cursor.place fuel root pl)
    (Cursor.newLoads p (Cursor.stepPath fuel p m)).length ≤ d := by
  intro p
  have hs := solid_of_WF layer root d hw
  -- the path after the step is a chain from the root
  have hrel := Cursor.step_rel hs hf m (Cursor.walk_rel hs hf ms (Cursor.place_rel hs hsrt hf pl))
  exact Nat.le_trans (Cursor.newLoads_le_height root _ _ hrel.chain) (lvl_le_of_WF layer root d hw)

theorem C16_min_max (layer : Nat → Nat) (root : T) (d fuel : Nat) (hw : WF layer d root)
    (hsrt : Sorted (T.toList root)) (hne : isEmptyRow root = false) (hf : lvl root < fuel) (pl : Cursor.Place) :
    (Cursor.newLoads [(root, 0)] (Cursor.place fuel root pl)).length ≤ d :=
  Nat.le_trans
    (Cursor.newLoads_le_height root _ _ (Cursor.place_rel (solid_of_WF layer root d hw) hsrt hf pl).chain)
    (lvl_le_of_WF layer root d hw)

end Mast.Tree
#print axioms Mast.Tree.C16_min_max
#print axioms Mast.Tree.C16_ceil
#print axioms Mast.Tree.C16_cursor_step
#print axioms Mast.Tree.C16_open_clone
#print axioms Mast.Tree.C16_get
#print axioms Mast.Tree.C16_insert
#print axioms Mast.Tree.C16_delete
#print axioms Mast.Tree.C16_every_history
