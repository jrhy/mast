import Mastverif.Lemmas.RefTickHist
import Mastverif.Lemmas.RefTickGo
import Mastverif.Lemmas.RefTickCursor
import Mastverif.Lemmas.RefTickWF
import Mastverif.Lemmas.RefCursor
/-!
# C16 at the level of node objects (property theorems)

`Props/C16.lean` bounds separate load-trace functions of the functional model.  Here the bounds
are proved of the object-level programs themselves (`Model/Ptr.lean`), as bounds on the counter
`PS.tick`, which `loadRef` increments exactly when a name is not served by the node cache —
also when that load fails.  The `ptr` family compares `tick` with the number of `Persist.Load`
calls the real store has seen after every operation.

* open, clone, persist, lookup: no hypothesis — every state, with or without cache, any fault oracle, both
  outcomes `ok` and `err`;
* insert: every outcome, also when the tree grows, under a cache invariant and a bound on the depth of what
  hangs below the root (`DepthLe`; implied by `repTree` + `Tree.Inv`: `C16_object_level_insert_wf`).  Without a
  depth bound it is false (`Lemmas/RefTickExample.lean`, kernel-checked: a height-2 root opened with
  `height := 0`);
* delete: a successful delete that does not change the height.  For a FAILED delete the bound is false when
  the failure is in the height reduction (kernel-checked witness: 6 loads against 4): the reduction had
  already loaded the children of the top node — the property's own exception;
* `C16_driver_insert / _delete`: the same for `insertGo` / `deleteGo`, which the driver runs;
* history: every history that builds its trees from scratch stays within the sum of the per-call budgets
  (`opBudget`; iteration and height-changing or failed deletes are charged what they cost).
-/
namespace Mast.Ptr
open Mast.Heap

theorem C16_object_level_open (E : Env) (id link size height bf : Nat) (s : PS) :
    (∀ t s', loadMast E id link size height bf s = .ok t s' → s'.tick ≤ s.tick + 1) ∧
    (∀ s', loadMast E id link size height bf s = .err s' → s'.tick ≤ s.tick + 1) :=
  (loadMast_ts E id link size height bf s).bounds

theorem C16_object_level_clone (E : Env) (t : PTree) (newId fuel : Nat) (s : PS) :
    (∀ t' s', clone E t newId fuel s = .ok t' s' → s'.tick ≤ s.tick + 1) ∧
    (∀ s', clone E t newId fuel s = .err s' → s'.tick ≤ s.tick + 1) :=
  (clone_ts E t newId fuel s).bounds

theorem C16_object_level_persist (E : Env) (t : PTree) (fuel : Nat) (s : PS) :
    (∀ r s', flush E t fuel s = .ok r s' → s'.tick ≤ s.tick + 1) ∧
    (∀ s', flush E t fuel s = .err s' → s'.tick ≤ s.tick + 1) :=
  (flush_ts E t fuel s).bounds

theorem C16_object_level_lookup (E : Env) (t : PTree) (fuel key : Nat) (s : PS) :
    (∀ r s', get E t fuel key s = .ok r s' → s'.tick ≤ s.tick + t.height + 1) ∧
    (∀ s', get E t fuel key s = .err s' → s'.tick ≤ s.tick + t.height + 1) :=
  (get_ts_height E t fuel key s).bounds

theorem C16_object_level_lookup_by_layer (E : Env) (t : PTree) (fuel key : Nat) (s : PS) :
    (∀ r s', get E t fuel key s = .ok r s' → s'.tick ≤ s.tick + 1 + (t.height - E.layer key)) ∧
    (∀ s', get E t fuel key s = .err s' → s'.tick ≤ s.tick + 1 + (t.height - E.layer key)) :=
  Nat.add_assoc _ _ _ ▸ (get_ts E t fuel key s).bounds

theorem C16_object_level_insert (E : Env) (fuel : Nat) (s s' : PS) (t t' : PTree) (key val : Nat) (o : Outcome)
    (hc : CacheS s) (hd : DepthLe s.heap s.store (t.height + 1) t.root)
    (h : insert E fuel s t key val = (s', t', o)) : s'.tick ≤ s.tick + t.height + 1 :=
  insert_tick E fuel s s' t t' key val o hc hd h

theorem C16_object_level_insert_wf (E : Env) (fuel g : Nat) (s s' : PS) (t t' : PTree) (key val : Nat) (o : Outcome)
    (A : Tree) (hg : Good s) (hA : repTree s g t = some A) (hi : Tree.Inv E.layer A)
    (h : insert E fuel s t key val = (s', t', o)) : s'.tick ≤ s.tick + t.height + 1 :=
  insert_tick E fuel s s' t t' key val o hg.cacheS (depthLe_of_repTree E.layer hA hi.wf) h

theorem C16_object_level_delete (E : Env) (fuel : Nat) (s s' : PS) (t t' : PTree) (key val : Nat)
    (hc : CacheS s) (hd : DepthLe s.heap s.store (t.height + 1) t.root)
    (h : delete E fuel s t key val = (s', t', .ok)) (hh : t'.height = t.height) :
    s'.tick ≤ s.tick + (1 + t.height + min (E.layer key) t.height) ∧ s'.tick ≤ s.tick + 2 * (t.height + 1) :=
  ⟨delete_tick E fuel s s' t t' key val hc hd h hh, delete_tick' E fuel s s' t t' key val hc hd h hh⟩

theorem C16_object_level_delete_wf (E : Env) (fuel g : Nat) (s s' : PS) (t t' : PTree) (key val : Nat) (A : Tree)
    (hg : Good s) (hA : repTree s g t = some A) (hi : Tree.Inv E.layer A)
    (h : delete E fuel s t key val = (s', t', .ok)) (hh : t'.height = t.height) :
    s'.tick ≤ s.tick + 2 * (t.height + 1) :=
  delete_tick' E fuel s s' t t' key val hg.cacheS (depthLe_of_repTree E.layer hA hi.wf) h hh

theorem C16_driver_insert (E : Env) (fuel : Nat) (s s' : PS) (t t' : PTree) (key val : Nat) (o : Outcome)
    (hc : CacheS s) (hd : DepthLe s.heap s.store (t.height + 1) t.root)
    (h : insertGo E fuel s t key val = (s', t', o)) (ho : o = .ok ∨ o = .err) :
    s'.tick ≤ s.tick + t.height + 1 :=
  insertGo_tick E fuel s s' t t' key val o hc hd h ho

theorem C16_driver_delete (E : Env) (fuel : Nat) (s s' : PS) (t t' : PTree) (key val : Nat)
    (hc : CacheS s) (hd : DepthLe s.heap s.store (t.height + 1) t.root)
    (h : deleteGo E fuel s t key val = (s', t', .ok)) (hh : t'.height = t.height) :
    s'.tick ≤ s.tick + (1 + t.height + min (E.layer key) t.height) :=
  deleteGo_tick E fuel s s' t t' key val hc hd h hh

theorem C16_object_level_history (E : Env) (fuel : Nat) (ops : List Op) (uc : Bool) (nid : Nat)
    (hops : ∀ op ∈ ops, OpCovered op) (hl : ∀ op ∈ ops, ∀ l sz ht b, op = .load l sz ht b → l = 0) :
    (Sys.run E fuel { ps := { useCache := uc }, nextId := nid } ops).1.ps.tick ≤
      Sys.budget E fuel { ps := { useCache := uc }, nextId := nid } ops :=
  Sys.run_tick_scratch E fuel ops uc nid hops hl

/-! ## cursor calls (`Model/PtrCursor.lean`)

`PathD s H path`: every node object on the cursor's path is at most `H + 1` levels deep — which
holds of the path `Cursor()` returns on a tree that denotes a well-formed tree of height `H`
(`C16_object_level_cursor_path_wf`) and is kept by every call.  Then, for every outcome that
carries a state, with a node cache or none, under any fault oracle: -/

/-- `Cursor()` reads at most one node (the top node, when the root is a name) -/
theorem C16_object_level_cursor_open (E : Env) (t : PTree) (newId fuel : Nat) (s : PS) :
    (∀ r s', cursorNew E t newId fuel s = .ok r s' → s'.tick ≤ s.tick + 1) ∧
    (∀ s', cursorNew E t newId fuel s = .err s' → s'.tick ≤ s.tick + 1) :=
  (cursorNew_ts E t newId fuel s).bounds

/-- a placement (`Min` / `Max` / `Ceil`) reads at most one node per level below the top: `≤ H` -/
theorem C16_object_level_cursor_place (E : Env) (H f : Nat) (path : CPath) (pl : CPlace) (s : PS)
    (hc : CacheS s) (hp : PathD s H path) :
    (∀ r s', cPlace E f path pl s = .ok r s' → s'.tick ≤ s.tick + H ∧ PathD s' H r.1 ∧ CacheS s') ∧
    (∀ s', cPlace E f path pl s = .err s' → s'.tick ≤ s.tick + H) :=
  (cPlace_ts E H f path pl s hc hp).nav_bounds hc

/-- a `Forward` / `Backward` step from ANY position reads at most `H` nodes — never a number
    proportional to the tree -/
theorem C16_object_level_cursor_step (E : Env) (H f : Nat) (path : CPath) (mv : CMove) (s : PS)
    (hc : CacheS s) (hp : PathD s H path) :
    (∀ r s', cStep E f path mv s = .ok r s' → s'.tick ≤ s.tick + H ∧ PathD s' H r.1 ∧ CacheS s') ∧
    (∀ s', cStep E f path mv s = .err s' → s'.tick ≤ s.tick + H) :=
  (cStep_ts E H f path mv s hc hp).nav_bounds hc

/-- `Get` reads nothing from the store -/
theorem C16_object_level_cursor_get (path : CPath) (s : PS) :
    ∀ r s', cGet path s = .ok r s' → s' = s :=
  fun _ _ hok => ((cGet_ts path s).ok hok).2.2

/-- a walk of `n` moves: at most `n · H` reads -/
theorem C16_object_level_cursor_walk (E : Env) (H f : Nat) (ms : List CMove) (path : CPath) (s : PS)
    (hc : CacheS s) (hp : PathD s H path) :
    (∀ r s', cWalk E f ms path s = .ok r s' → s'.tick ≤ s.tick + ms.length * H) ∧
    (∀ s', cWalk E f ms path s = .err s' → s'.tick ≤ s.tick + ms.length * H) :=
  (cWalk_ts E H f ms path s hc hp).bounds

/-- the hypothesis is met by the path of a fresh cursor on a tree whose top node denotes a
    well-formed row of height `H` -/
theorem C16_object_level_cursor_path_wf (layer : Nat → Nat) {w : Nat} (s : PS) (g a H : Nat) (root : T)
    (hn : NodeRep w s g a root) (hw : T.WF layer H root) : PathD s H [(a, 0)] := by
  obtain ⟨fp, h, _, _⟩ := hn
  exact PathD.cons (depthLe_of_wf layer g (.ptr a) _ H h (Or.inr hw)) (fun _ hx => nomatch hx)

end Mast.Ptr
#print axioms Mast.Ptr.C16_object_level_open
#print axioms Mast.Ptr.C16_object_level_clone
#print axioms Mast.Ptr.C16_object_level_persist
#print axioms Mast.Ptr.C16_object_level_lookup
#print axioms Mast.Ptr.C16_object_level_lookup_by_layer
#print axioms Mast.Ptr.C16_object_level_insert
#print axioms Mast.Ptr.C16_object_level_insert_wf
#print axioms Mast.Ptr.C16_object_level_delete
#print axioms Mast.Ptr.C16_object_level_delete_wf
#print axioms Mast.Ptr.C16_driver_insert
#print axioms Mast.Ptr.C16_driver_delete
#print axioms Mast.Ptr.C16_object_level_history
#print axioms Mast.Ptr.C16_object_level_cursor_open
#print axioms Mast.Ptr.C16_object_level_cursor_place
#print axioms Mast.Ptr.C16_object_level_cursor_step
#print axioms Mast.Ptr.C16_object_level_cursor_get
#print axioms Mast.Ptr.C16_object_level_cursor_walk
#print axioms Mast.Ptr.C16_object_level_cursor_path_wf
