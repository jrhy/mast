import Mastverif.Lemmas.FS
/-!
# C17 — the file store never exposes or keeps a partial node (property theorems, partial)

On the step model `FS.storeCut` of the repaired `Store` (stat; create temp; write byte by byte;
close+chmod; rename), for EVERY cut point — after any step, after any byte:
* a later load of the name is either "not found" or the complete bytes (`C17_atomic`);
* storing again after the cut ends with the complete bytes (`C17_repair`);
* an uncut run leaves the complete bytes (`C17_success_complete`).
Partial: that `rename` is atomic and what survives a power loss without `fsync` are operating
system behaviour, assumed.  Tie: family `filecrash` (the real Store in a child process under
RLIMIT_FSIZE for every cut offset, killed or failing with EFBIG).
-/
namespace Mast.FS

theorem C17_atomic (d : Dir) (name : String) (bytes : Bytes) (cut : Nat)
    (hfresh : KV.load d name = none) :
    KV.load (storeCut d name bytes cut) name = none ∨
    KV.load (storeCut d name bytes cut) name = some bytes :=
  (load_storeCut d name bytes cut).imp_left (·.trans hfresh)

theorem C17_success_complete (d : Dir) (name : String) (bytes : Bytes)
    (hfresh : KV.load d name = none) :
    KV.load (storeCut d name bytes (complete name bytes)) name = some bytes :=
  success_complete d name bytes hfresh

theorem C17_repair (d : Dir) (name : String) (bytes : Bytes) (cut : Nat)
    (hfresh : KV.load d name = none) :
    KV.load (storeCut (storeCut d name bytes cut) name bytes (complete name bytes)) name = some bytes :=
  repair_after_cut d name bytes cut hfresh

/-- non-vacuity: 3 bytes cut after 1 byte: absent, then repaired -/
example : KV.load (storeCut [] "n" [1, 2, 3] 3) "n" = none ∧
    KV.load (storeCut (storeCut [] "n" [1, 2, 3] 3) "n" [1, 2, 3] (complete "n" [1, 2, 3])) "n" = some [1, 2, 3] := by
  decide +kernel

end Mast.FS
#print axioms Mast.FS.C17_atomic
#print axioms Mast.FS.C17_success_complete
#print axioms Mast.FS.C17_repair
