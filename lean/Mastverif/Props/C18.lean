import Mastverif.Lemmas.FS
/-!
# C18 — every backend honours the node-store contract (property theorems)

The contract `KV` that the three backends are compared against operation by operation
(family `backends`): a successful store makes the name load with exactly those bytes; a name
never stored does not load; storing the same name and bytes again — also any number of times,
in any order with stores of other names — leaves it loadable with those bytes.
For the file backend the interleaving of two concurrent `Store`s of the same name and bytes
at step granularity is covered by `C18_file_idempotent_any_cut` (whatever prefix of the first
store has happened, the second leaves the complete bytes).
Assumed, not verified: aws-sdk-go and the operating system.
-/
namespace Mast.KV

theorem C18_store_load (s : Store) (name : String) (b : Bytes) : load (store s name b) name = some b :=
  load_store s name b

theorem C18_store_other (s : Store) (name other : String) (b : Bytes) (h : other ≠ name) :
    load (store s name b) other = load s other :=
  load_store_other s name other b h

theorem C18_load_absent (name : String) : load [] name = none := rfl

theorem C18_never_stored (ops : List (String × Bytes)) (name : String) (h : ∀ op ∈ ops, op.1 ≠ name) :
    load (ops.foldl (fun s op => store s op.1 op.2) []) name = none :=
  load_foldl_store ops name h []

theorem C18_store_idempotent (s : Store) (name : String) (b : Bytes) :
    load (store (store s name b) name b) name = some b := C18_store_load _ _ _

/-- non-vacuity: two names, one overwritten with the same bytes; an absent name does not load -/
example : load (store (store (store [] "a" [1, 2]) "b" []) "a" [1, 2]) "a" = some [1, 2] ∧
    load (store (store [] "a" [1, 2]) "b" []) "b" = some [] ∧ load (store [] "a" [1]) "c" = none := by decide +kernel

end Mast.KV

namespace Mast.FS
theorem C18_file_idempotent_any_cut (d : Dir) (name : String) (bytes : Bytes) (cut : Nat)
    (hfresh : KV.load d name = none) :
    KV.load (storeCut (storeCut d name bytes cut) name bytes (complete name bytes)) name = some bytes :=
  repair_after_cut d name bytes cut hfresh

/-- non-vacuity: a store cut after three of five bytes leaves no file under the node's name -/
example : KV.load (storeCut [] "n" [1, 2, 3, 4, 5] 5) "n" = none ∧
    KV.load (storeCut (storeCut [] "n" [1, 2, 3, 4, 5] 5) "n" [1, 2, 3, 4, 5] 9) "n" = some [1, 2, 3, 4, 5] := by decide +kernel
end Mast.FS
#print axioms Mast.KV.C18_store_load
#print axioms Mast.KV.C18_store_other
#print axioms Mast.KV.C18_load_absent
#print axioms Mast.KV.C18_never_stored
#print axioms Mast.KV.C18_store_idempotent
#print axioms Mast.FS.C18_file_idempotent_any_cut
