import Mastverif.Lemmas.Loader
/-!
# C19 — loading rejects a root that does not match the configuration (property theorems)

On the loader model `Loader.loadMast` (format switch, top-node load, decode, count / order /
layer checks in the order of the repaired Go code):
* an unknown format is rejected with an error (`C19_unknown_format`);
* a missing top node is rejected with an error (`C19_missing_top`);
* `C19_ok_implies_good`: if the top node is accepted, under the decoder of either format, then it is
  `GoodTop`: it decoded, its entry and link counts match, its keys are strictly ascending under the
  configured order and no key's layer is below the recorded height;
* contrapositive, on `loadMast`: every root whose top node violates one of these is rejected with an
  error (`C19_rejects_bad_binary_top`, `C19_rejects_bad_json_top`); and the outcome is never a panic
  (`C19_never_panics`).
Both node formats: `checkTop` is parametric in the decoder — `decBinRaw` (codec.go) and
`Json.decJson` (the canonical shape `encoding/json` writes for a node; what else `encoding/json`
would accept — white space, other member orders, letter case — is outside the model and outside
what the `badroots` family feeds it).
With a `NodeCache` in front of the store (`loadMastC`: a hit returns the cached object, nothing is
decoded): `C19_cold_cache` and `C19_cache_of_this_configuration(_json)` — a cold cache, or a cache
filled by readers of the loader's own configuration, changes no outcome, so everything above
carries over; `C19_cache_of_another_configuration_is_accepted_in_the_model` — the recorded known
finding as a kernel-checked witness: an entry left by a differently configured reader is accepted
where the cache-free load is rejected.
-/
namespace Mast.Loader

theorem C19_unknown_format (fmt : String) (kk layer h desc link top)
    (hf : knownFormat fmt = none) : loadMast fmt kk layer h desc link top = .err "format" := by
  simp [loadMast, hf]

theorem C19_missing_top (fmt : String) (f : Fmt) (kk layer h desc)
    (hf : knownFormat fmt = some f) : loadMast fmt kk layer h desc true none = .err "missing" := by
  simp [loadMast, hf]

theorem C19_ok_implies_good (dec kk layer height desc bytes)
    (h : checkTop dec kk layer height desc bytes = .ok) : GoodTop dec kk layer height desc bytes := by
  rcases checkTop_cases dec kk layer height desc bytes with ⟨why, hw⟩ | hg
  · rw [hw] at h; cases h
  · exact hg.2

theorem C19_never_panics (fmt kk layer h desc link top) :
    ∀ why, loadMast fmt kk layer h desc link top ≠ .panic why :=
  loadMast_no_panic fmt kk layer h desc link top

theorem C19_rejects_bad_binary_top (kk layer height desc bytes)
    (hbad : ¬ GoodTop Codec.decBinRaw kk layer height desc bytes) :
    ∃ why, loadMast "v1.1.5binary" kk layer height desc true (some bytes) = .err why :=
  loadMast_rejects knownFormat_bin kk layer height desc bytes hbad

theorem C19_rejects_bad_json_top (fmt : String) (hf : knownFormat fmt = some Fmt.json) (kk layer height desc bytes)
    (hbad : ¬ GoodTop Json.decJson kk layer height desc bytes) :
    ∃ why, loadMast fmt kk layer height desc true (some bytes) = .err why :=
  loadMast_rejects hf kk layer height desc bytes hbad

theorem C19_cold_cache (fmt kk layerOf h desc link top) :
    loadMastC fmt kk layerOf h desc link none top = loadMast fmt kk (layerOf kk) h desc link top := by
  unfold loadMastC loadMast
  cases knownFormat fmt <;> rfl

theorem C19_cache_of_this_configuration (kk layerOf height desc bytes c)
    (hc : cacheEntry Codec.decBinRaw kk desc bytes = some c) :
    loadMastC "v1.1.5binary" kk layerOf height desc true (some c) (some bytes) =
      loadMast "v1.1.5binary" kk (layerOf kk) height desc true (some bytes) :=
  loadMastC_of_cacheEntry knownFormat_bin kk layerOf height desc bytes c hc

theorem C19_cache_of_this_configuration_json (fmt : String) (hf : knownFormat fmt = some Fmt.json)
    (kk layerOf height desc bytes c) (hc : cacheEntry Json.decJson kk desc bytes = some c) :
    loadMastC fmt kk layerOf height desc true (some c) (some bytes) =
      loadMast fmt kk (layerOf kk) height desc true (some bytes) :=
  loadMastC_of_cacheEntry hf kk layerOf height desc bytes c hc

/-- the known finding, in the model (negation witness for the cache of ANOTHER configuration):
    a reader configured for string keys has loaded `strTop` and left it in the cache; a loader
    configured for uint64 keys rejects the same root without the cache ("key": the bodies do not
    unmarshal) and accepts it through the cache — the cached object is never decoded and the
    default order and layer function are evaluated on its own key type.  Recorded in
    known_findings.txt; the `badroots` family replays it on the Go code on every run. -/
theorem C19_cache_of_another_configuration_is_accepted_in_the_model :
    ∃ c, cacheEntry Codec.decBinRaw .str false strTop = some c ∧
      loadMast "v1.1.5binary" .u64 (fun _ => 0) 0 false true (some strTop) = .err "key" ∧
      loadMastC "v1.1.5binary" .u64 (fun _ _ => 0) 0 false true (some c) (some strTop) = .ok := by
  refine ⟨{ kk := .str, keys := [5, 9], nvals := 2, nlinks := 3 }, by decide +kernel, by decide +kernel, by decide +kernel⟩

end Mast.Loader
#print axioms Mast.Loader.C19_rejects_bad_json_top
#print axioms Mast.Loader.C19_cold_cache
#print axioms Mast.Loader.C19_cache_of_this_configuration
#print axioms Mast.Loader.C19_cache_of_this_configuration_json
#print axioms Mast.Loader.C19_cache_of_another_configuration_is_accepted_in_the_model
#print axioms Mast.Loader.C19_unknown_format
#print axioms Mast.Loader.C19_missing_top
#print axioms Mast.Loader.C19_ok_implies_good
#print axioms Mast.Loader.C19_never_panics
#print axioms Mast.Loader.C19_rejects_bad_binary_top
